import TlsModel.RsaDecrypt
import TlsProofs.CT
import TlsProofs.Crypto.BE
/-
  C11: the masked expressions of `RSAKey.decrypt` read as conditionals (through the proved specifications of the
  constant-time helpers) and the scan loop against the plain PKCS#1 v1.5 parse.  Everything serves `decryptTail_eq`
  (all that follows the raw private-key operation) and `decrypt_of_valid` / `decrypt_of_not_valid`.  At the end the
  instance `exKey` / `exPrims` / `exCipher` of the non-vacuity examples of Props/C11.lean.
-/
namespace Tls.RsaDec
open Tls.CT

theorem and_65535 (a : Nat) : a &&& 65535 = a % 65536 := Nat.and_two_pow_sub_one_eq_mod a 16
theorem and_255 (a : Nat) : a &&& 255 = a % 256 := Nat.and_two_pow_sub_one_eq_mod a 8
theorem sel16_zero (a b : Nat) (ha : a < 65536) : (a &&& (0xffff ^^^ 0)) ||| (b &&& 0) = a := by
  have : (0xffff ^^^ 0 : Nat) = 65535 := by decide
  rw [this, and_65535, Nat.and_zero, Nat.or_zero, Nat.mod_eq_of_lt ha]

theorem sel16_ones (a b : Nat) (hb : b < 65536) : (a &&& (0xffff ^^^ 65535)) ||| (b &&& 65535) = b := by
  have : (0xffff ^^^ 65535 : Nat) = 0 := by decide
  rw [this, and_65535, Nat.and_zero, Nat.zero_or, Nat.mod_eq_of_lt hb]

theorem exists_cons_cons {α : Type} : ∀ (l : List α), 2 ≤ l.length → ∃ a b r, l = a :: b :: r
  | a :: b :: r, _ => ⟨a, b, r, rfl⟩
  | [_], h => absurd h (Nat.not_succ_le_self 1)
  | [], h => absurd h (Nat.not_succ_le_zero 1)

theorem isNonZero_u8 (v : UInt8) : ctIsNonZeroU32 v.toNat = if v = 0 then 0 else 1 := by
  rw [ctIsNonZeroU32_spec, Nat.mod_eq_of_lt (Nat.lt_trans v.toNat_lt (by decide))]
  simp only [← UInt8.toNat_inj]
  rfl

theorem isNonZero_small (x : Nat) (hx : x < 2^32) : ctIsNonZeroU32 x = if x = 0 then 0 else 1 := by
  rw [ctIsNonZeroU32_spec, Nat.mod_eq_of_lt hx]

theorem lt_small (a b : Nat) (ha : a < 2^32) (hb : b < 2^32) : ctLtU32 a b = if a < b then 1 else 0 := by
  rw [ctLtU32_spec, Nat.mod_eq_of_lt ha, Nat.mod_eq_of_lt hb]

theorem xor_one_flag (c : Prop) [Decidable c] : 1 ^^^ (if c then 1 else 0) = if ¬ c then 1 else 0 := by
  by_cases h : c <;> simp [h]
theorem xor_one_flag_neg (c : Prop) [Decidable c] : 1 ^^^ (if c then 0 else 1) = if c then 1 else 0 := by
  split <;> rfl
theorem flag_and_flag (c d : Prop) [Decidable c] [Decidable d] :
    (if c then 1 else 0) &&& (if d then 1 else 0) = if c ∧ d then 1 else 0 := by
  by_cases hc : c <;> by_cases hd : d <;> simp [hc, hd]
theorem or_flag (e : Nat) (he : e ≤ 1) (c : Prop) [Decidable c] :
    e ||| (if c then 1 else 0) = if c then 1 else e := by
  have : e = 0 ∨ e = 1 := by omega
  split <;> rcases this with rfl | rfl <;> rfl
theorem lsb16_flag (c : Prop) [Decidable c] : ctLsbPropU16 (if c then 1 else 0) = if c then 65535 else 0 := by
  split <;> rfl
theorem sel16_flag (a b : Nat) (ha : a < 65536) (hb : b < 65536) (c : Prop) [Decidable c] :
    (a &&& (0xffff ^^^ (if c then 65535 else 0))) ||| (b &&& (if c then 65535 else 0)) = if c then b else a := by
  split
  · exact sel16_ones a b hb
  · exact sel16_zero a b ha

theorem sepAfter_append : ∀ (ps : Bytes) (m : Bytes) (pos : Nat), (∀ b ∈ ps, b ≠ 0) →
    sepAfter pos (ps ++ 0 :: m) = if pos + ps.length < 10 then none else some (pos + ps.length + 1) := by
  intro ps
  induction ps with
  | nil => intro m pos _; simp [sepAfter]
  | cons v rest ih =>
    intro m pos h
    have hv : v ≠ 0 := h v (by simp)
    simp only [List.cons_append, sepAfter, hv, if_false, List.length_cons]
    rw [ih m (pos + 1) (fun b hb => h b (by simp [hb]))]
    have : pos + 1 + rest.length = pos + (rest.length + 1) := by omega
    rw [this]

theorem sepAfter_some : ∀ (l : Bytes) (pos s : Nat), sepAfter pos l = some s →
    ∃ ps m, l = ps ++ 0 :: m ∧ (∀ b ∈ ps, b ≠ 0) ∧ 10 ≤ pos + ps.length ∧ s = pos + ps.length + 1
  | [], _, _, h => nomatch h
  | v :: rest, pos, s, h => by
    rw [sepAfter] at h
    split at h
    · next hv =>
      split at h
      · cases h
      · cases h
        exact ⟨[], rest, by rw [hv, List.nil_append], fun _ hb => absurd hb List.not_mem_nil, Nat.not_lt.mp ‹_›, rfl⟩
    · next hv =>
      obtain ⟨ps, m, rfl, h2, h3, rfl⟩ := sepAfter_some rest (pos + 1) s h
      exact ⟨v :: ps, m, rfl, List.forall_mem_cons.mpr ⟨hv, h2⟩, by rw [List.length_cons]; omega,
        by rw [List.length_cons]; omega⟩

theorem parse_of_wellFormed (ps m : Bytes) (h8 : 8 ≤ ps.length) (hnz : ∀ b ∈ ps, b ≠ 0) :
    parseEM (0 :: 2 :: (ps ++ 0 :: m)) = some (ps.length + 3) := by
  rw [parseEM, if_pos ⟨rfl, rfl⟩, sepAfter_append ps m 2 hnz, if_neg (by omega)]
  congr 1
  omega

theorem wellFormed_iff_parse (em : Bytes) : WellFormedEM em ↔ (parseEM em).isSome = true := by
  constructor
  · rintro ⟨ps, m, rfl, h8, hnz⟩
    rw [parse_of_wellFormed ps m h8 hnz]
    rfl
  · intro h
    match em, h with
    | b0 :: b1 :: rest, h =>
      rw [parseEM] at h
      split at h
      · next hb =>
        obtain ⟨s, hs⟩ := Option.isSome_iff_exists.mp h
        obtain ⟨ps, m, h1, h2, h3, _⟩ := sepAfter_some rest 2 s hs
        exact ⟨ps, m, by rw [hb.1, hb.2, h1], by omega, h2⟩
      · cases h

/-- One `o` for every sufficient bound `g`, so that the model's own fuel and the fuel of the regenerated `while`
    (both in `decPrf_fuel`) yield the same bytes. -/
theorem prfLoop_some (hmac : Bytes → Bytes → Bytes) (key label : Bytes) (outLen need : Nat)
    (h32 : ∀ k m, (hmac k m).length = 32) :
    ∀ (fuel it : Nat) (out : Bytes), need ≤ out.length + fuel →
      ∃ o, need ≤ o.length ∧
        ∀ g, need ≤ out.length + g → prfLoop hmac key label outLen need g it out = some o := by
  have stop : ∀ (it : Nat) (out : Bytes), ¬ out.length < need →
      ∀ g, prfLoop hmac key label outLen need g it out = some out := by
    intro it out h g
    cases g <;> simp only [prfLoop, if_neg h]
  intro fuel
  induction fuel with
  | zero => exact fun it out h => ⟨out, h, fun g _ => stop it out (Nat.not_lt.mpr h) g⟩
  | succ f ih =>
    intro it out h
    by_cases hl : out.length < need
    · -- one more block: every bound that suffices here has a predecessor that suffices after it
      obtain ⟨o, ho, hg⟩ := ih (it + 1) (out ++ hmac key (beEncode 2 it ++ label ++ beEncode 2 outLen))
        (by rw [List.length_append, h32]; omega)
      refine ⟨o, ho, fun g hg' => ?_⟩
      cases g with
      | zero => omega
      | succ g =>
        rw [prfLoop, if_pos hl]
        exact hg g (by rw [List.length_append, h32]; omega)
    · exact ⟨out, Nat.not_lt.mp hl, fun g _ => stop it out hl g⟩

/-- `decPrf` for a whole number of bytes: what the loop leaves, at any fuel that suffices, cut to the length asked for -/
theorem decPrf_fuel (hmac : Bytes → Bytes → Bytes) (key label : Bytes) (outLen fuel : Nat)
    (h32 : ∀ k m, (hmac k m).length = 32) (hf : outLen / 8 ≤ fuel) (h8 : outLen % 8 = 0) :
    ∃ o, outLen / 8 ≤ o.length ∧ prfLoop hmac key label outLen (outLen / 8) fuel 0 [] = some o ∧
      decPrf hmac key label outLen = .ok (o.take (outLen / 8)) := by
  obtain ⟨o, hlen, ho⟩ :=
    prfLoop_some hmac key label outLen (outLen / 8) h32 (outLen / 8) 0 [] (Nat.le_add_left _ _)
  refine ⟨o, hlen, ho fuel (Nat.le_trans hf (Nat.le_add_left _ _)), ?_⟩
  unfold decPrf
  simp [h8, ho (outLen / 8) (Nat.le_add_left _ _)]

theorem decPrf_ok (hmac : Bytes → Bytes → Bytes) (key label : Bytes) (m : Nat)
    (h32 : ∀ k x, (hmac k x).length = 32) :
    ∃ o, decPrf hmac key label (m * 8) = .ok o ∧ o.length = m := by
  obtain ⟨o, hlen, _, ho⟩ := decPrf_fuel hmac key label (m * 8) _ h32 (Nat.le_refl _) (Nat.mul_mod_left m 8)
  rw [Nat.mul_div_cancel m (by decide)] at hlen ho
  exact ⟨o.take m, ho, (List.length_take ..).trans (Nat.min_eq_left hlen)⟩

theorem selectBytes_zero (xs ys : Bytes) (h : xs.length ≤ ys.length) : selectBytes 0 xs ys = xs := by
  have hf : (fun (x y : UInt8) => UInt8.ofNat ((x.toNat &&& (0xff ^^^ 0)) ||| (y.toNat &&& 0)))
      = Function.curry Prod.fst := by
    funext x y
    rw [show (0xff ^^^ 0 : Nat) = 255 from rfl, and_255, Nat.and_zero, Nat.or_zero, Nat.mod_eq_of_lt x.toNat_lt,
      UInt8.ofNat_toNat]
    rfl
  rw [selectBytes, hf, ← List.map_zip_eq_zipWith, List.map_fst_zip h]

theorem selectBytes_ff (xs ys : Bytes) (h : ys.length ≤ xs.length) : selectBytes 255 xs ys = ys := by
  have hf : (fun (x y : UInt8) => UInt8.ofNat ((x.toNat &&& (0xff ^^^ 255)) ||| (y.toNat &&& 255)))
      = Function.curry Prod.snd := by
    funext x y
    rw [show (0xff ^^^ 255 : Nat) = 0 from rfl, and_255, Nat.and_zero, Nat.zero_or, Nat.mod_eq_of_lt y.toNat_lt,
      UInt8.ofNat_toNat]
    rfl
  rw [selectBytes, hf, ← List.map_zip_eq_zipWith, List.map_snd_zip h]

theorem synthStep_eq (maxSep lm synth : Nat) (hl : UInt8 × UInt8) (hm : maxSep < 2^32) (hs : synth < 65536) :
    synthStep maxSep lm synth hl =
      let cand := ((hl.1.toNat <<< 8) + hl.2.toNat) &&& lm
      if cand < maxSep then cand else synth := by
  have h1 := hl.1.toNat_lt
  have h2 := hl.2.toNat_lt
  have hc : ((hl.1.toNat <<< 8) + hl.2.toNat) &&& lm < 65536 :=
    Nat.lt_of_le_of_lt Nat.and_le_left (by rw [Nat.shiftLeft_eq]; omega)
  simp only [synthStep]
  rw [lt_small _ maxSep (Nat.lt_trans hc (by decide)) hm, lsb16_flag, sel16_flag synth _ hs hc]

theorem synthLen_lt (maxSep : Nat) (lr : Bytes) (h0 : 0 < maxSep) (hm : maxSep < 65536) :
    synthLen maxSep lr < maxSep := by
  unfold synthLen
  simp only
  generalize (1 <<< numBits maxSep) - 1 = lm
  suffices h : ∀ (l : List (UInt8 × UInt8)) (acc : Nat), acc < maxSep →
      l.foldl (synthStep maxSep lm) acc < maxSep from h _ 0 h0
  intro l
  induction l with
  | nil => intro acc h; exact h
  | cons p rest ih =>
    intro acc h
    simp only [List.foldl_cons]
    apply ih
    rw [synthStep_eq maxSep lm acc p (by omega) (by omega)]
    simp only
    split <;> omega

theorem synthLen_lt_sub (k : Nat) (lr : Bytes) (hk : 11 ≤ k) (hk16 : k < 65536) :
    synthLen (k - 10) lr < k - 10 :=
  synthLen_lt (k - 10) lr (Nat.sub_pos_of_lt hk) (Nat.lt_of_le_of_lt (Nat.sub_le _ _) hk16)

theorem neq2_u8 (v : UInt8) : ctNeqU32 v.toNat 0x02 = if v = 2 then 0 else 1 := by
  rw [ctNeqU32_spec, Nat.mod_eq_of_lt (Nat.lt_trans v.toNat_lt (by decide)), Nat.mod_eq_of_lt (by decide)]
  simp only [← UInt8.toNat_inj]
  rfl

theorem scan_cons_ite (pos e ms : Nat) (v : UInt8) (rest : Bytes) (he : e ≤ 1) (hms : ms < 65536)
    (hpos : pos + 1 < 65536) :
    scan pos e ms (v :: rest) =
      scan (pos + 1) (if pos < 10 ∧ v = 0 then 1 else e)
        (if 10 ≤ pos ∧ v = 0 ∧ ms = 0 then pos + 1 else ms) rest := by
  rw [scan]
  simp only [lt_small pos 10 (by omega) (by omega), isNonZero_u8, isNonZero_small ms (by omega), xor_one_flag,
    xor_one_flag_neg, flag_and_flag, or_flag e he, lsb16_flag, sel16_flag ms (pos + 1) hms hpos, Nat.not_lt, and_assoc]

/-- Invariant of the scan from `pos`: the error flag is 0/1 and sticky; `ms ≠ 0` can only arise from position 10 on, so a
    zero at `pos < 10` meets `ms = 0`; once set, `ms` is final; with neither error nor separator so far the outcome is that
    of `sepAfter`, where `none` is a zero too early (error) or no zero at all (`ms` stays 0: `scan_outcome` makes that an
    error through the `msg_start = 0` test). -/
theorem scan_spec : ∀ (l : Bytes) (pos e ms : Nat), e ≤ 1 → ms ≤ pos → pos + l.length < 65536 →
    (ms ≠ 0 → 10 ≤ pos) →
    (scan pos e ms l).1 ≤ 1 ∧ (scan pos e ms l).2 ≤ pos + l.length ∧
    (e = 1 → (scan pos e ms l).1 = 1) ∧
    (e = 0 → if ms ≠ 0 then scan pos e ms l = (0, ms) else
      match sepAfter pos l with
      | some s => scan pos e ms l = (0, s)
      | none => (scan pos e ms l).1 = 1 ∨ (scan pos e ms l).2 = 0) := by
  intro l
  induction l with
  | nil =>
    intro pos e ms he hms _ _
    refine ⟨he, hms, id, ?_⟩
    rintro rfl
    split
    · rfl
    · exact Or.inr (by simp_all [scan])
  | cons v rest ih =>
    intro pos e ms he hms hlen h10
    rw [List.length_cons, show pos + (rest.length + 1) = pos + 1 + rest.length by omega] at hlen ⊢
    have hms' : ms ≤ pos + 1 := Nat.le_succ_of_le hms
    rw [scan_cons_ite pos e ms v rest he (by omega) (by omega), sepAfter]
    by_cases hv : v = 0
    · by_cases hp : pos < 10
      · -- a zero among the first ten bytes: the error flag is set for good
        have hms0 : ms = 0 := by omega
        obtain ⟨h1, h2, h3, _⟩ := ih (pos + 1) 1 0 (Nat.le_refl 1) (Nat.zero_le _) hlen (fun h => absurd rfl h)
        simp only [hv, hp, hms0, and_self, if_true, and_true, Nat.not_le.mpr hp, if_false, ne_eq,
          not_true_eq_false]
        exact ⟨h1, h2, fun _ => h3 rfl, fun _ => Or.inl (h3 rfl)⟩
      · have hp' := Nat.not_lt.mp hp
        have h10' : 10 ≤ pos + 1 := Nat.le_succ_of_le hp'
        by_cases hm : ms = 0
        · -- the separator: `msg_start` is set and nothing changes any more
          obtain ⟨h1, h2, h3, h4⟩ := ih (pos + 1) e (pos + 1) he (Nat.le_refl _) hlen (fun _ => h10')
          simp only [hv, hp, hm, false_and, if_false, hp', and_self, if_true, ne_eq, not_true_eq_false]
          refine ⟨h1, h2, h3, fun he0 => ?_⟩
          have := h4 he0
          rwa [if_pos (Nat.succ_ne_zero pos)] at this
        · obtain ⟨h1, h2, h3, h4⟩ := ih (pos + 1) e ms he hms' hlen (fun _ => h10')
          simp only [hv, hp, hm, false_and, if_false, and_false, ne_eq, not_false_eq_true, if_true]
          refine ⟨h1, h2, h3, fun he0 => ?_⟩
          have := h4 he0
          rwa [if_pos hm] at this
    · obtain ⟨h1, h2, h3, h4⟩ := ih (pos + 1) e ms he hms' hlen (fun h => Nat.le_succ_of_le (h10 h))
      simp only [hv, and_false, false_and, if_false]
      exact ⟨h1, h2, h3, h4⟩

/-- outcome of the whole padding inspection: final `error_detected` and `msg_start` -/
theorem scan_outcome (b0 b1 : UInt8) (rest : Bytes) (hlen : 2 + rest.length < 65536) :
    let e1 := (0 ||| ctIsNonZeroU32 b0.toNat) ||| ctNeqU32 b1.toNat 0x02
    let r := scan 2 e1 0 rest
    let err := r.1 ||| (1 ^^^ ctIsNonZeroU32 r.2)
    match parseEM (b0 :: b1 :: rest) with
    | some s => err = 0 ∧ r.2 = s ∧ s ≤ 2 + rest.length
    | none => err = 1 := by
  intro e1 r err
  have he1 : e1 = if b0 = 0 ∧ b1 = 2 then 0 else 1 := by
    show (0 ||| ctIsNonZeroU32 b0.toNat) ||| ctNeqU32 b1.toNat 0x02 = _
    rw [isNonZero_u8, neq2_u8]
    by_cases h0 : b0 = 0 <;> by_cases h1 : b1 = 2 <;> simp [h0, h1]
  obtain ⟨hr1, hr2, hsticky, hsep⟩ : r.1 ≤ 1 ∧ r.2 ≤ 2 + rest.length ∧ _ ∧ _ :=
    scan_spec rest 2 e1 0 (by rw [he1]; split <;> omega) (Nat.zero_le _) hlen (fun h => absurd rfl h)
  have herr : err = if r.2 = 0 then 1 else r.1 := by
    show r.1 ||| (1 ^^^ ctIsNonZeroU32 r.2) = _
    rw [isNonZero_small r.2 (by omega), xor_one_flag_neg, or_flag _ hr1]
  rw [herr, parseEM]
  by_cases hb : b0 = 0 ∧ b1 = 2
  · have hsep := hsep (by rw [he1, if_pos hb])
    rw [if_neg (fun h => h rfl)] at hsep
    rw [if_pos hb]
    cases hs : sepAfter 2 rest with
    | some s =>
      obtain ⟨ps, m, _, _, _, hs'⟩ := sepAfter_some rest 2 s hs
      rw [hs] at hsep
      have hr : r = (0, s) := hsep
      rw [hr] at hr2 ⊢
      exact ⟨by rw [if_neg (by omega)], rfl, hr2⟩
    | none =>
      rw [hs] at hsep
      rcases (hsep : r.1 = 1 ∨ r.2 = 0) with h | h
      · show (if r.2 = 0 then 1 else r.1) = 1
        rw [h]; split <;> rfl
      · exact if_pos h
  · rw [if_neg hb]
    show (if r.2 = 0 then 1 else r.1) = 1
    rw [hsticky (by rw [he1, if_neg hb])]
    split <;> rfl

/-- By `scan_outcome` both masks are all zeros or all ones, so the two selections are `if`s; `hk16` is what makes the
    16-bit masks exact, `h32` what makes the PRF loops end. -/
theorem decryptTail_eq (K : Key) (P : Prims) (enc dec : Bytes)
    (h32 : ∀ k m, (P.hmac k m).length = 32) (hk : 11 ≤ K.k) (hk16 : K.k < 65536)
    (hdec : dec.length = K.k) :
    decryptTail K P enc dec =
      match parseEM dec with
      | some s => .ok (dec.drop s)
      | none => synthMessage P.hmac K.k (kdk K P enc) := by
  obtain ⟨b0, b1, rest, rfl⟩ := exists_cons_cons dec (by omega)
  have hk2 : 2 + rest.length = K.k := by rw [← hdec, List.length_cons, List.length_cons]; omega
  obtain ⟨lr, hlr, _⟩ := decPrf_ok P.hmac (kdk K P enc) lengthLabel 256 h32
  obtain ⟨mr, hmr, hmrlen⟩ := decPrf_ok P.hmac (kdk K P enc) messageLabel K.k h32
  have hsyn : K.k - synthLen (K.k - 10) lr < 65536 := Nat.lt_of_le_of_lt (Nat.sub_le _ _) hk16
  have ho := scan_outcome b0 b1 rest (hk2 ▸ hk16)
  unfold decryptTail synthMessage
  simp only [show 128 * 2 * 8 = 256 * 8 from rfl, hlr, hmr, bind, Except.bind] at ho ⊢
  generalize scan 2 (0 ||| ctIsNonZeroU32 b0.toNat ||| ctNeqU32 b1.toNat 2) 0 rest = r at ho ⊢
  cases hp : parseEM (b0 :: b1 :: rest) with
  | some s =>
    rw [hp] at ho
    obtain ⟨h1, rfl, h3⟩ := ho
    simp only [h1]
    -- no error: both masks are 0, the selection keeps the real start and the real bytes
    rw [show ctLsbPropU16 0 = 0 from rfl, show ctLsbPropU8 0 = 0 from rfl,
      sel16_zero _ _ (Nat.lt_of_le_of_lt h3 (hk2 ▸ hk16)),
      selectBytes_zero _ _ (by rw [List.length_drop, List.length_drop, hmrlen, hdec]; exact Nat.le_refl _)]
  | none =>
    rw [hp] at ho
    simp only [ho]
    -- error: both masks are all ones, the selection takes the synthetic start and the PRF bytes
    rw [show ctLsbPropU16 1 = 65535 from rfl, show ctLsbPropU8 1 = 255 from rfl, sel16_ones _ _ hsyn,
      selectBytes_ff _ _ (by rw [List.length_drop, List.length_drop, hmrlen, hdec]; exact Nat.le_refl _)]

/-- the synthetic message as a total function of the key-derivation key (`synthMessage` never raises for an
    HMAC with 32-byte output: `synthMessage_ok`) -/
def synthBytes (hmac : Bytes → Bytes → Bytes) (k : Nat) (kdk : Bytes) : Bytes :=
  match synthMessage hmac k kdk with | .ok m => m | .error _ => []

theorem synthMessage_ok (hmac : Bytes → Bytes → Bytes) (k : Nat) (kdk : Bytes)
    (h32 : ∀ k m, (hmac k m).length = 32) (hk : 11 ≤ k) (hk16 : k < 65536) :
    synthMessage hmac k kdk = .ok (synthBytes hmac k kdk) ∧
    ∃ lr, decPrf hmac kdk lengthLabel (128 * 2 * 8) = .ok lr ∧
      (synthBytes hmac k kdk).length = synthLen (k - 10) lr ∧ synthLen (k - 10) lr ≤ k - 11 := by
  obtain ⟨lr, hlr, _⟩ := decPrf_ok hmac kdk lengthLabel 256 h32
  obtain ⟨mr, hmr, hmrlen⟩ := decPrf_ok hmac kdk messageLabel k h32
  have hle : synthLen (k - 10) lr ≤ k - 11 := Nat.le_sub_one_of_lt (synthLen_lt_sub k lr hk hk16)
  have hs : synthMessage hmac k kdk = .ok (mr.drop (k - synthLen (k - 10) lr)) := by
    simp only [synthMessage, show 128 * 2 * 8 = 256 * 8 from rfl, hlr, hmr, bind, Except.bind]
  rw [synthBytes, hs]
  exact ⟨rfl, lr, hlr, by rw [List.length_drop, hmrlen, Nat.sub_sub_self (Nat.le_trans hle (Nat.sub_le _ _))], hle⟩

theorem rawPrivateKeyOpBytes_of_not_valid (K : Key) (P : Prims) (c : Bytes) (h : ¬ PubliclyValid K c) :
    rawPrivateKeyOpBytes K P c = .error .valueError := by
  unfold rawPrivateKeyOpBytes
  by_cases h1 : c.length = K.k
  · rw [if_neg fun hn => hn h1]
    exact if_pos (Nat.le_of_not_lt fun h2 => h ⟨h1, h2⟩)
  · rw [if_pos h1]

theorem rawPrivateKeyOpBytes_of_valid (K : Key) (P : Prims) (c : Bytes) (h : PubliclyValid K c) :
    rawPrivateKeyOpBytes K P c = .ok (em K P c) := by
  unfold rawPrivateKeyOpBytes
  rw [if_neg fun hn => hn h.1]
  exact if_neg (Nat.not_le.mpr h.2)

theorem length_em (K : Key) (P : Prims) (c : Bytes) : (em K P c).length = K.k := length_beEncode _ _

theorem decrypt_of_not_valid (K : Key) (P : Prims) (c : Bytes) (h : ¬ PubliclyValid K c) :
    decrypt K P c = .ok none := by
  rw [decrypt, rawPrivateKeyOpBytes_of_not_valid K P c h]

/-- what `decrypt` returns for a publicly valid ciphertext (`decrypt_of_valid`) -/
def plainOf (K : Key) (P : Prims) (c : Bytes) : Bytes :=
  match parseEM (em K P c) with
  | some s => (em K P c).drop s
  | none => synthBytes P.hmac K.k (kdk K P c)

theorem decrypt_of_valid (K : Key) (P : Prims) (c : Bytes)
    (h32 : ∀ k m, (P.hmac k m).length = 32) (hk : 11 ≤ K.k) (hk16 : K.k < 65536)
    (hc : PubliclyValid K c) :
    decrypt K P c = .ok (some (plainOf K P c)) := by
  rw [decrypt, rawPrivateKeyOpBytes_of_valid K P c hc]
  simp only [decryptTail_eq K P c _ h32 hk hk16 (length_em K P c), plainOf]
  cases parseEM (em K P c) with
  | some s => rfl
  | none => simp only [(synthMessage_ok P.hmac K.k (kdk K P c) h32 hk hk16).1]

theorem parseEM_of_not_wellFormed (em : Bytes) (h : ¬ WellFormedEM em) : parseEM em = none := by
  rw [wellFormed_iff_parse, Bool.not_eq_true, Option.isSome_eq_false_iff, Option.isNone_iff_eq_none] at h
  exact h

/-- implicit rejection: the synthetic message is a function of the key-derivation key alone -/
theorem decrypt_of_not_wellFormed (K : Key) (P : Prims) (c : Bytes)
    (h32 : ∀ k m, (P.hmac k m).length = 32) (hk : 11 ≤ K.k) (hk16 : K.k < 65536)
    (hc : PubliclyValid K c) (hnw : ¬ WellFormedEM (em K P c)) :
    decrypt K P c = .ok (some (synthBytes P.hmac K.k (kdk K P c))) := by
  rw [decrypt_of_valid K P c h32 hk hk16 hc, plainOf, parseEM_of_not_wellFormed _ hnw]

/-! ### a concrete instance for the non-vacuity examples of Props/C11: a 16-byte modulus, identity
    "hash", a 32-byte "HMAC" that looks at the length of the message only, and a private-key operation that
    returns a chosen EM -/
def exKey : Key := { n := 2 ^ 128 - 159, d := 65537 }
def exPrims (emNat : Nat) : Prims :=
  { sha256 := id, hmac := fun _ m => List.replicate 31 7 ++ [UInt8.ofNat m.length], privInt := fun _ => emNat }
def exCipher : Bytes := beEncode 16 12345
/-- 00 02 | 01 02 03 04 05 06 07 08 | 00 | aa bb cc dd ee -/
def exGoodEM : Nat := beDecode [0, 2, 1, 2, 3, 4, 5, 6, 7, 8, 0, 0xaa, 0xbb, 0xcc, 0xdd, 0xee]
/-- 00 02 | 01 02 03 00 … : a zero among the first eight padding bytes -/
def exBadEM : Nat := beDecode [0, 2, 1, 2, 3, 0, 5, 6, 7, 8, 0, 0xaa, 0xbb, 0xcc, 0xdd, 0xee]
/-- 00 01 … : wrong block type -/
def exBadEM2 : Nat := beDecode [0, 1, 1, 2, 3, 4, 5, 6, 7, 8, 0, 0xaa, 0xbb, 0xcc, 0xdd, 0xee]

theorem exKey_k : exKey.k = 16 := by decide
theorem exPrims_h32 (e : Nat) : ∀ k m, ((exPrims e).hmac k m).length = 32 := by
  intro k m; simp [exPrims]
theorem exCipher_valid : PubliclyValid exKey exCipher := by
  constructor
  · rw [exKey_k]; decide
  · decide
theorem exKey_range : 11 ≤ exKey.k ∧ exKey.k < 65536 := by rw [exKey_k]; decide
theorem exGoodEM_em :
    em exKey (exPrims exGoodEM) exCipher = 0 :: 2 :: ([1, 2, 3, 4, 5, 6, 7, 8] ++ 0 :: [0xaa, 0xbb, 0xcc, 0xdd, 0xee]) := by
  decide +kernel
theorem exGoodEM_decrypt : decrypt exKey (exPrims exGoodEM) exCipher = .ok (some [0xaa, 0xbb, 0xcc, 0xdd, 0xee]) := by
  rw [decrypt_of_valid _ _ _ (exPrims_h32 _) exKey_range.1 exKey_range.2 exCipher_valid, plainOf, exGoodEM_em,
    parse_of_wellFormed _ _ (by decide) (by decide)]
  rfl
theorem exBadEM_not_wellFormed : ¬ WellFormedEM (em exKey (exPrims exBadEM) exCipher) := by
  rw [wellFormed_iff_parse]; decide +kernel
theorem exBadEM2_not_wellFormed : ¬ WellFormedEM (em exKey (exPrims exBadEM2) exCipher) := by
  rw [wellFormed_iff_parse]; decide +kernel

end Tls.RsaDec
