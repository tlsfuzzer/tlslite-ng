import Mathlib.FieldTheory.Finite.Basic
import TlsModel.Rsa
/-
  Number theory behind the private-key operations of python_rsakey.py and python_dsakey.py: Fermat, CRT
  recombination, the order of `g` (DSA), and `invMod` (extended Euclid of cryptomath.py): the fuel is never
  exhausted, and `invMod` is a Bézout coefficient reduced when the gcd is 1 and zero otherwise (`invMod_eq`), hence
  the inverse that the first unblinder and DSA's `k`, `s` need (`invMod_mul_self`).  The blinding pair itself is in
  RsaCorrect.lean.
-/
namespace Tls.Rsa
open Nat

theorem pow_modEq_self_prime {p : ℕ} (hp : p.Prime) {k : ℕ} (hk : k ≡ 1 [MOD p - 1]) (hk1 : 1 ≤ k)
    (m : ℕ) : m ^ k ≡ m [MOD p] := by
  have : Fact p.Prime := ⟨hp⟩
  rw [← ZMod.natCast_eq_natCast_iff]
  push_cast
  obtain ⟨t, ht⟩ := (Nat.modEq_iff_dvd' hk1).mp hk.symm
  have hk' : k = 1 + (p - 1) * t := by omega
  by_cases h0 : (m : ZMod p) = 0
  · rw [h0, zero_pow (by omega)]
  · rw [hk', pow_add, pow_mul, ZMod.pow_card_sub_one_eq_one h0]; simp

theorem pow_modEq_self_mul {p q : ℕ} (hp : p.Prime) (hq : q.Prime) (hne : p ≠ q) {k : ℕ}
    (hkp : k ≡ 1 [MOD p - 1]) (hkq : k ≡ 1 [MOD q - 1]) (hk1 : 1 ≤ k) (m : ℕ) :
    m ^ k ≡ m [MOD p * q] :=
  (Nat.modEq_and_modEq_iff_modEq_mul ((Nat.coprime_primes hp hq).mpr hne)).mp
    ⟨pow_modEq_self_prime hp hkp hk1 m, pow_modEq_self_prime hq hkq hk1 m⟩

theorem one_le_of_modEq_one {a b : ℕ} (hb : 2 ≤ b) (h : a ≡ 1 [MOD b]) : 1 ≤ a := by
  rcases Nat.eq_zero_or_pos a with h0 | h0
  · subst h0
    have : (0 : ℕ) % b = 1 % b := h
    rw [Nat.zero_mod, Nat.mod_eq_of_lt (by omega)] at this
    omega
  · exact h0

theorem crt_recombine {p q : ℕ} (hp0 : 0 < p) (hq0 : 0 < q) (s1 s2 qInv : ℕ) (hs2 : s2 < q)
    (hqInv : qInv * q ≡ 1 [MOD p]) :
    let c : ℤ := (s2 : ℤ) + (q : ℤ) * ((((s1 : ℤ) - (s2 : ℤ)) * (qInv : ℤ)) % (p : ℤ))
    0 ≤ c ∧ c.toNat < p * q ∧ c.toNat ≡ s1 [MOD p] ∧ c.toNat ≡ s2 [MOD q] := by
  have hpz : (0 : ℤ) < p := Int.natCast_pos.mpr hp0
  have hqz : (0 : ℤ) < q := Int.natCast_pos.mpr hq0
  have hmod : ((s1 : ℤ) - s2) * qInv % p ≡ ((s1 : ℤ) - s2) * qInv [ZMOD p] := Int.mod_modEq _ _
  have h0 : 0 ≤ ((s1 : ℤ) - s2) * qInv % p := Int.emod_nonneg _ hpz.ne'
  have h1 : ((s1 : ℤ) - s2) * qInv % p < p := Int.emod_lt_of_pos _ hpz
  -- only the range of `h` and its residue modulo `p` matter
  generalize ((s1 : ℤ) - s2) * qInv % p = h at hmod h0 h1
  intro c
  have hc0 : 0 ≤ c := Int.add_nonneg (Int.natCast_nonneg _) (Int.mul_nonneg hqz.le h0)
  have hcn : ((c.toNat : ℕ) : ℤ) = c := Int.toNat_of_nonneg hc0
  refine ⟨hc0, ?_, ?_, ?_⟩
  · have hle : (q : ℤ) * h ≤ q * (p - 1) := Int.mul_le_mul_of_nonneg_left (Int.le_sub_one_of_lt h1) hqz.le
    have : c < ((p * q : ℕ) : ℤ) := by
      rw [Nat.cast_mul, mul_comm (p : ℤ)]
      show (s2 : ℤ) + q * h < q * p
      rw [mul_sub, mul_one] at hle
      have : (s2 : ℤ) < q := Int.ofNat_lt.mpr hs2
      omega
    exact Int.ofNat_lt.mp (hcn ▸ this)
  · rw [← Int.natCast_modEq_iff, hcn]
    have hq1 : (qInv : ℤ) * q ≡ 1 [ZMOD p] := by exact_mod_cast Int.natCast_modEq_iff.mpr hqInv
    calc (s2 : ℤ) + q * h ≡ s2 + q * ((s1 - s2) * qInv) [ZMOD p] := (hmod.mul_left _).add_left _
      _ = s2 + (s1 - s2) * (qInv * q) := by ring
      _ ≡ s2 + (s1 - s2) * 1 [ZMOD p] := (hq1.mul_left _).add_left _
      _ = s1 := by ring
  · rw [← Int.natCast_modEq_iff, hcn]
    exact Int.modEq_add_fac_self

theorem pow_modEq_of_exp_modEq {p q g : ℕ} (hg : g ^ q ≡ 1 [MOD p]) {a b : ℕ} (hab : a ≡ b [MOD q]) :
    g ^ a ≡ g ^ b [MOD p] := by
  wlog hle : a ≤ b generalizing a b
  · exact (this hab.symm (by omega)).symm
  obtain ⟨t, ht⟩ := (Nat.modEq_iff_dvd' hle).mp hab
  have hb : b = a + q * t := by omega
  rw [hb, pow_add, pow_mul]
  have : g ^ a * (g ^ q) ^ t ≡ g ^ a * 1 ^ t [MOD p] := (Nat.ModEq.refl _).mul (hg.pow t)
  simpa using this.symm

/-- the invariant `uc·a ≡ c`, `ud·a ≡ d (mod b)` carried down `gcd c d = gcd (d % c) c` -/
theorem invModLoop_spec (a b : Nat) (f c d : Nat) (uc ud : Int) (h : c < f)
    (hc : uc * a ≡ c [ZMOD b]) (hd : ud * a ≡ d [ZMOD b]) :
    ∃ u : Int, invModLoop f c d uc ud = some (Nat.gcd c d, u) ∧ u * a ≡ (Nat.gcd c d : Nat) [ZMOD b] := by
  induction f generalizing c d uc ud with
  | zero => omega
  | succ f ih =>
    unfold invModLoop
    by_cases hc0 : c = 0
    · rw [if_pos hc0, hc0, Nat.gcd_zero_left]
      exact ⟨ud, rfl, hd⟩
    · rw [if_neg hc0, Nat.gcd_rec c d]
      refine ih _ _ _ _ (Nat.lt_of_lt_of_le (Nat.mod_lt _ (Nat.pos_of_ne_zero hc0)) (by omega)) ?_ hc
      have e : ((d % c : Nat) : Int) = (d : Int) - ((d / c : Nat) : Int) * (c : Int) := by
        rw [Int.natCast_mod, Int.natCast_div, Int.emod_def, mul_comm]
      rw [e, sub_mul, mul_assoc]
      exact hd.sub (hc.mul_left _)

theorem invMod_eq (a b : Nat) :
    ∃ u : Int, u * a ≡ (Nat.gcd a b : Nat) [ZMOD b] ∧ invMod a b = if Nat.gcd a b = 1 then (u % (b : Int)).toNat else 0 := by
  obtain ⟨u, hr, hu⟩ := invModLoop_spec a b (a + 1) a b 1 0 (Nat.lt_succ_self a) (by rw [one_mul]) (by simp [Int.ModEq])
  exact ⟨u, hu, by unfold invMod; rw [hr]⟩

theorem invMod_mul_self (a b : Nat) (hb : 1 < b) (hc : Nat.Coprime a b) : invMod a b * a % b = 1 := by
  obtain ⟨u, hu, he⟩ := invMod_eq a b
  rw [he, if_pos hc]
  rw [hc] at hu
  have hnn : 0 ≤ u % (b : Int) := Int.emod_nonneg _ (by omega)
  have hcast : (((u % (b : Int)).toNat * a % b : Nat) : Int) = 1 % (b : Int) := by
    push_cast
    rw [Int.toNat_of_nonneg hnn]
    exact ((Int.mod_modEq u b).mul_right _).trans hu
  rw [show (1 : Int) % (b : Int) = 1 from Int.emod_eq_of_lt (by omega) (by exact_mod_cast hb)] at hcast
  exact_mod_cast hcast

theorem invMod_mul_self_of_ne_zero (a b : Nat) (hb : 1 < b) (h : invMod a b ≠ 0) : invMod a b * a % b = 1 := by
  refine invMod_mul_self a b hb ?_
  obtain ⟨u, _, he⟩ := invMod_eq a b
  by_contra hg
  exact h (he.trans (if_neg hg))

end Tls.Rsa
