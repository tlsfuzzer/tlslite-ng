import TlsProofs.Record
import TlsProofs.CbcCheck
/- Round trip of every protect path: a receiver whose read state equals the sender's write state
   recovers exactly (type, plaintext) and ends in the sender's new state.  What the receivers undo is
   stated once, on the sender's normal form: the digest at the end of a body (`MacLaw.frame`), the
   padding (`etmUnpad_append`; `cbcCheck_append` and `stripPadMac_append` of TlsProofs/CbcCheck.lean for
   MAC-then-encrypt), the IV block in front of it (`addPadding_ivBlock`, TlsProofs/Record.lean). -/
namespace Tls.Rec
open Tls.CT

/-- a body that ends in the digest, in the spellings of the three MAC paths: long enough, `d[:-n]` is
    the data, and `d[-n:]` (`_macThenDecrypt`) or `d[len-n:len]` (`_decryptStreamThenMAC`) the digest -/
theorem MacLaw.frame {S} {P : Prims S} (hm : MacLaw P) (d x : Bytes) :
    ¬ (d ++ P.mac.digest x).length < P.mac.dlen ∧
    dropLast P.mac.dlen (d ++ P.mac.digest x) = d ∧ lastN P.mac.dlen (d ++ P.mac.digest x) = P.mac.digest x ∧
    ((d ++ P.mac.digest x).drop ((d ++ P.mac.digest x).length - P.mac.dlen)).take P.mac.dlen = P.mac.digest x := by
  have hl := hm.len x
  have h0 := hm.pos
  generalize P.mac.digest x = tag at hl
  generalize P.mac.dlen = n at hl h0
  subst hl
  have : tag.length ≠ 0 := by omega
  simp [dropLast, lastN, this]

theorem rt_mteStream {S} (P : Prims S) (c : Cfg) (hm : c.hasMac = true → MacLaw P) (useEnc : Bool)
    (hs : useEnc = true → StreamLaw P) (st : St S) (t : UInt8) (data : Bytes) :
    decStream P c useEnc st t (protMteStream P c useEnc st t data).2 =
      .ok ((protMteStream P c useEnc st t data).1, data) := by
  unfold decStream protMteStream
  cases hmac : c.hasMac
  · cases hu : useEnc
    · simp
    · simp [(hs hu).dec_enc]
  · obtain ⟨h1, h2, -, h3⟩ := (hm hmac).frame data (macInput st.seq t c data)
    cases hu : useEnc
    · simp only [h1, h2, h3, if_true, if_false, Bool.false_eq_true, beq_self_eq_true]
    · simp only [(hs hu).dec_enc, h1, h2, h3, if_true, if_false, beq_self_eq_true]

theorem rt_mteCbc {S} (P : Prims S) (hm : MacLaw P) (hb : BlockLaw P) (c : Cfg)
    (hmac : c.hasMac = true) (hiv : c.verGe 3 2 = true → c.fixedIV.length = P.bs)
    (st : St S) (t : UInt8) (data : Bytes) (hlen : data.length < 2 ^ 29) :
    decCbc P c st t (protMteCbc P c st t data).2 = .ok ((protMteCbc P c st t data).1, data) := by
  unfold decCbc protMteCbc mteCbcPlain
  simp only [hmac, if_true]
  have hmod := addPadding_mod P.bs (if c.verGe 3 2 = true then
    c.fixedIV ++ (data ++ P.mac.digest (macInput st.seq t c data)) else data ++ P.mac.digest (macInput st.seq t c data)) hb.bs_pos
  rw [hb.len, hmod, hb.dec_enc _ _ hmod]
  simp only [addPadding_ivBlock P.bs _ _ _ hiv]
  have hle := hb.bs_le
  have hp : P.bs - 1 - (data ++ P.mac.digest (macInput st.seq t c data)).length % P.bs < 256 := by omega
  -- `macInput` is the header of C12's MAC input followed by the data, so the tag hypothesis is `rfl`
  rw [addPadding, List.append_assoc,
    cbcCheck_append P.mac data (P.mac.digest (macInput st.seq t c data)) (seqBytes st.seq) t c.vmaj c.vmin P.bs _
      hp (fun _ => by omega) rfl hm.len hm.small hlen (by omega),
    stripPadMac_append P.mac data _ _ hp (hm.len _)]
  simp

theorem etmUnpad_append (c : Cfg) (x : Bytes) (p : Nat) (hp : p < 256) :
    etmUnpad c (x ++ List.replicate (p + 1) (UInt8.ofNat p)) = .ok x := by
  have hall : ((List.replicate (p + 1) (UInt8.ofNat p)).take p).all (fun b => b.toNat == p) = true := by
    simp [List.take_replicate, Nat.mod_eq_of_lt hp]
  have hx : x.length + p + 1 - (p + 1) = x.length := by omega
  simp only [etmUnpad, length_append_padding, Nat.add_sub_cancel, byteAt_last_padding _ _ hp, hx,
    List.drop_left, List.take_left, hall]
  simp

theorem etmUnpad_addPadding (c : Cfg) (bs : Nat) (x : Bytes) (hle : bs ≤ 256) :
    etmUnpad c (addPadding bs x) = .ok x :=
  etmUnpad_append c x _ (by omega)

theorem rt_etm {S} (P : Prims S) (hm : MacLaw P) (hb : BlockLaw P) (c : Cfg)
    (hiv : c.verGe 3 2 = true → c.fixedIV.length = P.bs)
    (st : St S) (t : UInt8) (data : Bytes) :
    decEtm P c true st t (protEtm P c true st t data).2 = .ok ((protEtm P c true st t data).1, data) := by
  unfold decEtm protEtm etmPlain
  simp only [if_true]
  generalize hpl : addPadding P.bs (if c.verGe 3 2 = true then c.fixedIV ++ data else data) = pl
  have hmod : pl.length % P.bs = 0 := by rw [← hpl]; exact addPadding_mod _ _ hb.bs_pos
  have hunpad : etmUnpad c (if c.verGe 3 2 = true then pl.drop P.bs else pl) = .ok data := by
    rw [← hpl, addPadding_ivBlock P.bs _ _ _ hiv]
    exact etmUnpad_addPadding c _ _ hb.bs_le
  have hctl : ((P.enc st.cs pl).2.length % P.bs != 0) = false := by simp [hb.len, hmod]
  cases hmac : c.hasMac
  · simp only [Bool.false_eq_true, if_false]
    simp only [hctl, Bool.false_eq_true, if_false, hb.dec_enc _ _ hmod, hunpad]
  · simp only [if_true]
    obtain ⟨h1, h2, h3, -⟩ := hm.frame (P.enc st.cs pl).2 (macInput st.seq t c (P.enc st.cs pl).2)
    simp only [h1, h2, h3, if_false, beq_self_eq_true, if_true]
    simp only [hctl, Bool.false_eq_true, if_false, hb.dec_enc _ _ hmod, hunpad]

/-- encrypt-then-MAC flag with no cipher (a client trusting a ServerHello that selects it): the sender does what
    `_macThenEncrypt` does without a cipher, MAC only -/
theorem protEtm_null {S} (P : Prims S) (c : Cfg) (st : St S) (t : UInt8) (data : Bytes) :
    protEtm P c false st t data = protMteStream P c false st t data := by
  unfold protEtm protMteStream
  cases c.hasMac <;> rfl

theorem rt_etm_null {S} (P : Prims S) (c : Cfg) (hm : c.hasMac = true → MacLaw P) (st : St S) (t : UInt8) (data : Bytes) :
    decEtm P c false st t (protMteStream P c false st t data).2 = .ok ((protMteStream P c false st t data).1, data) := by
  unfold decEtm protMteStream
  cases hmac : c.hasMac
  · simp
  · obtain ⟨h1, h2, h3, -⟩ := (hm hmac).frame data (macInput st.seq t c data)
    simp only [h1, h2, h3, if_true, if_false, Bool.false_eq_true, beq_self_eq_true]

/-- with an explicit nonce (`"aes" in name`, TLS ≤ 1.2) `_getNonce` takes the concatenating branch -/
theorem nonce_explicit (c : Cfg) (h13 : c.is13 = false) (hname : c.nameHasAes = true → c.nameIsChacha = false)
    (he : c.explicitNonce = true) (seq : Nat) : nonce c seq = c.fixedNonce ++ seqBytes seq := by
  have haes : c.nameHasAes = true := by
    unfold Cfg.explicitNonce at he; simp at he; exact he.1
  have hx : c.xorNonce = false := by
    unfold Cfg.xorNonce; simp [hname haes, h13]
  unfold nonce; simp [hx]

/-- with an explicit nonce the receiver builds the nonce from the 8 bytes on the wire, which is `_getNonce`'s value
    only because that took the concatenating branch (`nonce_explicit`); without one both ends call `_getNonce` -/
theorem rt_aead12 {S} (P : Prims S) (ha : AeadLaw P) (c : Cfg) (h13 : c.is13 = false)
    (hname : c.nameHasAes = true → c.nameIsChacha = false)
    (st : St S) (t : UInt8) (data : Bytes) (hv : Nat × Nat) :
    decAead P c st ⟨t, hv.1, hv.2, (protAead P c st t data).2⟩ = .ok ((protAead P c st t data).1, data) := by
  unfold decAead protAead
  simp only [h13, Bool.not_false, if_true]
  cases he : c.explicitNonce
  · simp only [Bool.false_eq_true, if_false, Bool.false_and]
    have h1 : ¬ P.tagLen > data.length + P.tagLen := by omega
    simp only [ha.len, h1, if_false, Nat.add_sub_cancel, ha.open_seal]
  · simp only [if_true, Bool.true_and]
    have hn := nonce_explicit c h13 hname he st.seq
    have hlen := ha.len (nonce c st.seq) data (aad12 st.seq t c.vmaj c.vmin data.length)
    have hopen := ha.open_seal (nonce c st.seq) data (aad12 st.seq t c.vmaj c.vmin data.length)
    generalize P.aeadSeal (nonce c st.seq) data (aad12 st.seq t c.vmaj c.vmin data.length) = out at hlen hopen ⊢
    have h8 : ¬ 8 > (seqBytes st.seq ++ out).length := by simp [seqBytes_length]
    have h1 : ¬ P.tagLen > data.length + P.tagLen := by omega
    simp only [h8, decide_false, Bool.false_eq_true, if_false, List.take_left' (seqBytes_length _),
      List.drop_left' (seqBytes_length _), hlen, h1, Nat.add_sub_cancel, ← hn, hopen]

theorem rt_aead13 {S} (P : Prims S) (ha : AeadLaw P) (c : Cfg) (h13 : c.is13 = true)
    (st : St S) (data : Bytes) :
    decAead P c st ⟨23, c.recVer.1, c.recVer.2, (protAead P c st 23 data).2⟩ =
      .ok ((protAead P c st 23 data).1, data) := by
  unfold decAead protAead
  simp only [h13, Cfg.explicitNonce_of_is13 h13, Cfg.recVer_of_is13 h13, Bool.not_true, Bool.false_eq_true, if_false, Bool.false_and]
  have h1 : ¬ P.tagLen > data.length + P.tagLen := by omega
  simp [ha.len, h1, ha.open_seal]

end Tls.Rec
