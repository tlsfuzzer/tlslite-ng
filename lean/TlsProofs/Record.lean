import TlsModel.Record
import TlsProofs.Crypto.BE
import TlsProofs.Guards
/- The record-layer model (properties C01 / C02) below the protect paths.  Fragmentation is one loop: the
   constant-size loop and the 1/n-1 split are `chunksVar` at a constant and with size 1 in force for record 0, so
   every fact about fragments is `chunksVar_spec` / `chunksVar_total`.  Also the functional laws the theorems assume
   of the primitives, with a small instance of `Prims` that satisfies every one of them (`Demo.prims`: non-vacuity
   of the hypotheses of Props/C01.lean and Props/C02.lean; not cryptography). -/
namespace Tls.Rec
open Tls.CT

theorem chunksVar_spec (rs : Nat → Nat) : ∀ (fuel i : Nat) (buf : Bytes) (l : List Bytes),
    chunksVar rs i fuel buf = some l →
      l.flatten = buf ∧ l ≠ [] ∧ ∀ j (hj : j < l.length), l[j].length ≤ rs (i + j)
  | 0, i, buf, l, h => by
    unfold chunksVar at h
    split at h
    · cases h
    · cases h
      refine ⟨by simp, by simp, fun j hj => ?_⟩
      obtain rfl : j = 0 := by simpa using hj
      simp; omega
  | fuel + 1, i, buf, l, h => by
    unfold chunksVar at h
    split at h
    · obtain ⟨l', hc, rfl⟩ := Option.map_eq_some_iff.mp h
      obtain ⟨h1, -, h3⟩ := chunksVar_spec rs fuel (i + 1) _ l' hc
      refine ⟨by simp [h1], by simp, fun j hj => ?_⟩
      cases j with
      | zero => simp; omega
      | succ k => simpa [Nat.add_assoc, Nat.add_comm 1 k] using h3 k (by simpa using hj)
    · cases h
      refine ⟨by simp, by simp, fun j hj => ?_⟩
      obtain rfl : j = 0 := by simpa using hj
      simp; omega

theorem chunksVar_total (rs : Nat → Nat) (hrs : ∀ i, 0 < rs i) : ∀ (fuel i : Nat) (buf : Bytes),
    buf.length ≤ fuel + rs i → ∃ l, chunksVar rs i fuel buf = some l
  | 0, i, buf, h => by
    unfold chunksVar
    have : ¬ buf.length > rs i := by omega
    simp [this]
  | fuel + 1, i, buf, h => by
    unfold chunksVar
    by_cases hb : buf.length > rs i
    · simp only [hb, if_true]
      have h0 := hrs i
      have h1 := hrs (i + 1)
      have : (buf.drop (rs i)).length ≤ fuel + rs (i + 1) := by simp; omega
      obtain ⟨l, hl⟩ := chunksVar_total rs hrs fuel (i + 1) (buf.drop (rs i)) this
      exact ⟨buf.take (rs i) :: l, by simp [hl]⟩
    · simp [hb]

theorem chunksVar_const (r : Nat) : ∀ (fuel i : Nat) (buf : Bytes),
    chunksVar (fun _ => r) i fuel buf = chunks r fuel buf
  | 0, i, buf => by unfold chunksVar chunks; rfl
  | fuel + 1, i, buf => by
    unfold chunksVar chunks
    rw [chunksVar_const r fuel (i + 1)]

theorem chunks_flatten (rs fuel : Nat) (buf : Bytes) (l : List Bytes) (h : chunks rs fuel buf = some l) :
    l.flatten = buf :=
  (chunksVar_spec (fun _ => rs) fuel 0 buf l (by rwa [chunksVar_const])).1

/-- an empty message still goes out as one (empty) fragment -/
theorem chunks_ne_nil (rs fuel : Nat) (buf : Bytes) (l : List Bytes) (h : chunks rs fuel buf = some l) : l ≠ [] :=
  (chunksVar_spec (fun _ => rs) fuel 0 buf l (by rwa [chunksVar_const])).2.1

theorem chunks_le (rs fuel : Nat) (buf : Bytes) (l : List Bytes) (h : chunks rs fuel buf = some l) :
    ∀ f ∈ l, f.length ≤ rs := by
  intro f hf
  obtain ⟨j, hj, rfl⟩ := List.getElem_of_mem hf
  exact (chunksVar_spec (fun _ => rs) fuel 0 buf l (by rwa [chunksVar_const])).2.2 j hj

/-- the loop of `_sendMsg` terminates (within `len buf` iterations) whenever `recordSize ≥ 1` -/
theorem chunks_total (rs : Nat) (hrs : 0 < rs) (fuel : Nat) (buf : Bytes) (h : buf.length ≤ fuel + rs) :
    ∃ l, chunks rs fuel buf = some l := by
  simpa [chunksVar_const] using chunksVar_total (fun _ => rs) (fun _ => hrs) fuel 0 buf h

theorem chunksVar_congr {rs rs' : Nat → Nat} : ∀ (fuel i : Nat) (buf : Bytes), (∀ j, i ≤ j → rs j = rs' j) →
    chunksVar rs i fuel buf = chunksVar rs' i fuel buf
  | 0, i, buf, h => by unfold chunksVar; rw [h i (Nat.le_refl _)]
  | fuel + 1, i, buf, h => by
    unfold chunksVar
    rw [h i (Nat.le_refl _), chunksVar_congr fuel (i + 1) _ fun j hj => h j (by omega)]

theorem fragmentsVar_eq_chunksVar (split : Bool) (rs : Nat → Nat) (data : Bytes) :
    fragmentsVar split rs data =
      chunksVar (fun i => if split = true ∧ i = 0 then 1 else rs i) 0 data.length data := by
  cases split
  · exact chunksVar_congr _ _ _ fun j _ => by simp
  · cases data with
    | nil => rfl
    | cons a as =>
      have hc := chunksVar_congr (rs := rs) (rs' := fun i => if true = true ∧ i = 0 then 1 else rs i) as.length 1 as
        fun j hj => by simp; omega
      cases as with
      | nil => rfl
      | cons b bs =>
        rw [show (a :: b :: bs).length = (b :: bs).length + 1 from rfl, chunksVar]
        simp only [List.length_cons, true_and] at hc
        simp [fragmentsVar, hc]

theorem fragmentsVar_spec (split : Bool) (rs : Nat → Nat) (data : Bytes) (l : List Bytes)
    (h : fragmentsVar split rs data = some l) :
    l.flatten = data ∧
      ∀ j (hj : j < l.length), l[j].length ≤ (if split then (if j = 0 then 1 else rs j) else rs j) := by
  rw [fragmentsVar_eq_chunksVar] at h
  obtain ⟨h1, -, h3⟩ := chunksVar_spec _ _ _ _ _ h
  refine ⟨h1, fun j hj => ?_⟩
  have := h3 j hj
  cases split <;> simpa using this

theorem fragmentsVar_total (split : Bool) (rs : Nat → Nat) (hrs : ∀ i, 0 < rs i) (data : Bytes) :
    ∃ l, fragmentsVar split rs data = some l := by
  rw [fragmentsVar_eq_chunksVar]
  exact chunksVar_total _ (fun i => by split <;> simp [hrs]) _ 0 data (by simp)

theorem fragmentsVar_const (split : Bool) (r : Nat) (data : Bytes) :
    fragmentsVar split (fun _ => r) data = fragments split r data := by
  unfold fragmentsVar fragments
  simp only [chunksVar_const]

theorem fragments_spec (split : Bool) (rs : Nat) (data : Bytes) (l : List Bytes)
    (h : fragments split rs data = some l) : l.flatten = data ∧ (0 < rs → ∀ f ∈ l, f.length ≤ rs) := by
  rw [← fragmentsVar_const] at h
  obtain ⟨h1, h2⟩ := fragmentsVar_spec split _ data l h
  refine ⟨h1, fun hrs f hf => ?_⟩
  obtain ⟨j, hj, rfl⟩ := List.getElem_of_mem hf
  have := h2 j hj
  split at this
  · split at this <;> omega
  · omega

theorem fragments_ne_nil (split : Bool) (rs : Nat) (data : Bytes) (l : List Bytes)
    (h : fragments split rs data = some l) : l ≠ [] := by
  rw [← fragmentsVar_const, fragmentsVar_eq_chunksVar] at h
  exact (chunksVar_spec _ _ _ _ _ h).2.1

theorem addPadding_length (bs : Nat) (x : Bytes) : (addPadding bs x).length = paddedLen bs x.length := by
  unfold addPadding paddedLen
  simp
  omega

theorem paddedLen_mod (bs n : Nat) (hbs : 0 < bs) : paddedLen bs n % bs = 0 := by
  unfold paddedLen
  have h1 : n % bs < bs := Nat.mod_lt _ hbs
  have h2 : n = bs * (n / bs) + n % bs := (Nat.div_add_mod n bs).symm
  have : n + (bs - 1 - n % bs) + 1 = bs * (n / bs + 1) := by
    rw [Nat.mul_add]; omega
  rw [this]
  exact Nat.mul_mod_right _ _

theorem paddedLen_le (bs n : Nat) (hbs : 0 < bs) : paddedLen bs n ≤ n + bs := by
  unfold paddedLen; omega

theorem addPadding_mod (bs : Nat) (x : Bytes) (hbs : 0 < bs) : (addPadding bs x).length % bs = 0 := by
  rw [addPadding_length]; exact paddedLen_mod bs _ hbs

theorem addPadding_append_block (bs : Nat) (iv x : Bytes) (h : iv.length % bs = 0) :
    addPadding bs (iv ++ x) = iv ++ addPadding bs x := by
  unfold addPadding
  have : (iv ++ x).length % bs = x.length % bs := by
    rw [List.length_append, Nat.add_mod, h]; simp
  rw [this]
  simp [List.append_assoc]

/-- TLS ≥ 1.1 CBC (`b`): the sender pads `fixedIVBlock ++ x`, the receiver drops the first decrypted block;
    one block in front does not change the padding -/
theorem addPadding_ivBlock (bs : Nat) (b : Bool) (iv x : Bytes) (hiv : b = true → iv.length = bs) :
    (if b then (addPadding bs (if b then iv ++ x else x)).drop bs else addPadding bs (if b then iv ++ x else x)) =
      addPadding bs x := by
  cases b
  · rfl
  · have hivl := hiv rfl
    simp only [if_true]
    rw [addPadding_append_block _ _ _ (by rw [hivl]; exact Nat.mod_self _), List.drop_left' hivl]

theorem paddedLen_add_block (bs k n : Nat) (h : k % bs = 0) : paddedLen bs (k + n) = k + paddedLen bs n := by
  unfold paddedLen
  have : (k + n) % bs = n % bs := by rw [Nat.add_mod, h]; simp
  rw [this]; omega

def padOf (padCb : Option PadCb) (sendLimit : Nat) (t : UInt8) (n : Nat) : Nat :=
  match padCb with
  | none => 0
  | some cb => cb (n + 1) t ((sendLimit : Int) + 1 - ((n + 1 : Nat) : Int))

theorem innerPlain_eq (padCb : Option PadCb) (sendLimit : Nat) (t : UInt8) (data : Bytes) :
    innerPlain padCb sendLimit t data = data ++ [t] ++ zeros (padOf padCb sendLimit t data.length) := by
  unfold innerPlain padOf
  cases padCb <;> simp [zeros]

theorem innerPlain_length (padCb : Option PadCb) (sendLimit : Nat) (t : UInt8) (data : Bytes) :
    (innerPlain padCb sendLimit t data).length = data.length + 1 + padOf padCb sendLimit t data.length := by
  rw [innerPlain_eq]; simp [zeros]; omega

/-- `_tls13_de_pad` inverts the construction at the top of `sendRecord` when the type is non-zero -/
theorem dePad_inner (p : Bytes) (t : UInt8) (n : Nat) (ht : t ≠ 0) :
    dePad (p ++ [t] ++ zeros n) = some (p, t) := by
  unfold dePad zeros
  rw [List.reverse_append, List.reverse_replicate,
    List.dropWhile_append_of_pos fun a ha => by simp [List.eq_of_mem_replicate ha], List.reverse_append]
  simp [ht]

theorem dropWhile_zero_eq_nil (l : Bytes) : l.dropWhile (· == 0) = [] ↔ ∀ b ∈ l, b = 0 := by
  induction l with
  | nil => simp
  | cons a as ih =>
    rw [List.dropWhile_cons]
    by_cases ha : a = 0
    · subst ha; simp [ih]
    · simp [ha]

theorem dropWhile_zero_split (l : Bytes) :
    ∃ n, l = List.replicate n 0 ++ l.dropWhile (· == 0) := by
  induction l with
  | nil => exact ⟨0, by simp⟩
  | cons a as ih =>
    rw [List.dropWhile_cons]
    by_cases ha : a = 0
    · subst ha
      obtain ⟨n, hn⟩ := ih
      refine ⟨n + 1, ?_⟩
      simp only [beq_self_eq_true, if_true, List.replicate_succ, List.cons_append]
      rw [← hn]
    · exact ⟨0, by simp [ha]⟩

theorem dePad_none_iff (d : Bytes) : dePad d = none ↔ ∀ b ∈ d, b = 0 := by
  have key := dropWhile_zero_eq_nil d.reverse
  simp only [List.mem_reverse] at key
  rw [← key]
  unfold dePad
  split
  · rename_i heq; simp [heq]
  · rename_i heq; simp [heq]

theorem dePad_some (d p : Bytes) (t : UInt8) (h : dePad d = some (p, t)) :
    ∃ n, d = p ++ [t] ++ zeros n ∧ t ≠ 0 := by
  unfold dePad at h
  split at h
  · cases h
  · rename_i v rest heq
    cases h
    obtain ⟨n, hn⟩ := dropWhile_zero_split d.reverse
    rw [heq] at hn
    refine ⟨n, ?_, by simpa [heq] using List.head_dropWhile_not (· == 0) (l := d.reverse) (by simp [heq])⟩
    have : d = (d.reverse).reverse := by simp
    rw [this, hn, List.reverse_append, List.reverse_cons, List.reverse_replicate]
    simp [zeros]

theorem dropLast_append_lastN (n : Nat) (d : Bytes) (hn : 0 < n) : dropLast n d ++ lastN n d = d := by
  have : n ≠ 0 := by omega
  simp [dropLast, lastN, this]

theorem seqBytes_length (n : Nat) : (seqBytes n).length = 8 := length_beEncode 8 n

theorem seqBytes_inj (x y : Nat) (hx : x < 2 ^ 64) (hy : y < 2 ^ 64) (h : seqBytes x = seqBytes y) : x = y :=
  beEncode_inj 8 x y (by simpa using hx) (by simpa using hy) h

theorem be16_eq_beEncode (n : Nat) : be16 n = beEncode 2 n := by
  simp [be16, beEncode, UInt8.ofNat_mod_size']

theorem be16_inj (x y : Nat) (hx : x < 2 ^ 16) (hy : y < 2 ^ 16) (h : be16 x = be16 y) : x = y :=
  beEncode_inj 2 x y (by simpa using hx) (by simpa using hy) (by rwa [be16_eq_beEncode, be16_eq_beEncode] at h)

theorem xorBytes_cancel (a f : Bytes) (h : a.length ≤ f.length) : xorBytes (xorBytes a f) f = a :=
  zipWith_xor_cancel a f h

theorem xorBytes_inj (a b f : Bytes) (hl : a.length = b.length) (hf : a.length ≤ f.length)
    (h : xorBytes a f = xorBytes b f) : a = b := by
  rw [← xorBytes_cancel a f hf, h, xorBytes_cancel b f (hl ▸ hf)]

theorem Cfg.explicitNonce_of_is13 {c : Cfg} (h13 : c.is13 = true) : c.explicitNonce = false := by
  simp [Cfg.explicitNonce, h13]

theorem Cfg.recVer_of_is13 {c : Cfg} (h13 : c.is13 = true) : c.recVer = (3, 3) := by
  simp [Cfg.recVer, h13]

/-- `small`: with a fragment below 2^29 as well, fragment ‖ MAC ‖ padding stays below the 2^31 of `cbcCheck_spec` -/
structure MacLaw {S} (P : Prims S) : Prop where
  len : ∀ x, (P.mac.digest x).length = P.mac.dlen
  pos : 0 < P.mac.dlen
  block : 0 < P.mac.blockSize
  small : P.mac.dlen < 2 ^ 29

structure StreamLaw {S} (P : Prims S) : Prop where
  len : ∀ s x, (P.enc s x).2.length = x.length
  dec_enc : ∀ s x, P.dec s (P.enc s x).2 = ((P.enc s x).1, x)

/-- `bs_le`: the pad length `bs - 1 - len % bs` has to fit the pad-length byte -/
structure BlockLaw {S} (P : Prims S) : Prop where
  bs_pos : 0 < P.bs
  bs_le : P.bs ≤ 256
  len : ∀ s x, (P.enc s x).2.length = x.length
  dec_len : ∀ s x, (P.dec s x).2.length = x.length
  dec_enc : ∀ s x, x.length % P.bs = 0 → P.dec s (P.enc s x).2 = ((P.enc s x).1, x)

structure AeadLaw {S} (P : Prims S) : Prop where
  len : ∀ n p a, (P.aeadSeal n p a).length = p.length + P.tagLen
  open_seal : ∀ n p a, P.aeadOpen n (P.aeadSeal n p a) a = some p

end Tls.Rec

namespace Tls.Rec.Demo
open Tls.CT

def sum8 (x : Bytes) : UInt8 := x.foldl (· + ·) 0

def chk (key : UInt8) (n a p : Bytes) : UInt8 := key + sum8 n + sum8 a + sum8 p + UInt8.ofNat a.length

def prims (key : UInt8) : Prims Nat :=
  { mac := { dlen := 2, blockSize := 64, digest := fun x => [key + sum8 x, UInt8.ofNat x.length] }
    bs := 4
    enc := fun s d => (s + 1, d.map (· + UInt8.ofNat s))
    dec := fun s d => (s + 1, d.map (· - UInt8.ofNat s))
    tagLen := 1
    aeadSeal := fun n p a => p ++ [chk key n a p]
    aeadOpen := fun n c a =>
      if c.length < 1 then none
      else if chk key n a c.dropLast == c.getLastD 0 then some c.dropLast else none }

theorem macLaw (key : UInt8) : MacLaw (prims key) :=
  { len := fun _ => rfl, pos := by simp [prims], block := by simp [prims], small := by simp [prims] }

theorem map_sub_add (k : UInt8) (x : Bytes) : (x.map (· + k)).map (· - k) = x := by
  induction x with
  | nil => rfl
  | cons a as ih => simp [List.map, ih, UInt8.add_sub_cancel]

theorem streamLaw (key : UInt8) : StreamLaw (prims key) :=
  { len := fun _ _ => by simp [prims]
    dec_enc := fun s x => by simp only [prims, map_sub_add] }

theorem blockLaw (key : UInt8) : BlockLaw (prims key) :=
  { bs_pos := by simp [prims], bs_le := by simp [prims]
    len := fun _ _ => by simp [prims]
    dec_len := fun _ _ => by simp [prims]
    dec_enc := fun s x _ => by simp only [prims, map_sub_add] }

theorem aeadLaw (key : UInt8) : AeadLaw (prims key) :=
  { len := fun _ _ _ => by simp [prims]
    open_seal := fun n p a => by simp [prims] }

end Tls.Rec.Demo
