import TlsModel.IO
/-
  C14, AsyncStateMachine: every transition is
  `try: self._checkAssert(n); <dispatch to one _do*Op>  except: self._clear(); raise`, and every
  `_do*Op` either records what the generator yielded or frees its own slot; the invariant follows
  from these two facts, without enumerating states.
-/
namespace Tls.IO

/-- the generator obeys the yield protocol: it only ever yields 0 or 1
    (true of the handshake / close / write generators) -/
def GenStep.proto : GenStep → Prop
  | .yld v => v = 0 ∨ v = 1
  | _ => True

def AsmOp.isSet : AsmOp → Bool
  | .setHandshake | .setClose | .setWrite => true
  | _ => false

namespace ASM

theorem checkAssert_none_iff {a : ASM} (h : a.result = none) (n : Nat) :
    a.checkAssert n = true ↔ a.activeOps = 0 := by
  simp [checkAssert, h]; omega

theorem checkAssert_some_iff {a : ASM} {r : Nat} (h : a.result = some r) (n : Nat) :
    a.checkAssert n = true ↔ (r = 0 ∨ r = 1) ∧ a.activeOps = 1 ∧ 1 ≤ n := by
  simp [checkAssert, h]; omega

theorem activeOps_le_of_checkAssert {a : ASM} {n : Nat} (h : a.checkAssert n = true) :
    a.activeOps ≤ n := by
  simp [checkAssert] at h; omega

theorem checkAssert_mono {a : ASM} {m n : Nat} (hmn : m ≤ n) (h : a.checkAssert m = true) :
    a.checkAssert n = true := by
  simp [checkAssert] at h ⊢; exact ⟨h.1, by omega⟩

theorem result_of_checkAssert {a : ASM} {n : Nat} (h : a.checkAssert n = true) (h0 : a.activeOps = 0) :
    a.result = none := by
  cases hr : a.result with
  | none => rfl
  | some r => have := (checkAssert_some_iff hr n).1 h; omega

theorem eq_clear {a : ASM} (h0 : a.activeOps = 0) (hr : a.result = none) : a = clear := by
  obtain ⟨h, c, r, w, res⟩ := a
  simp [activeOps] at h0
  simp [clear, h0] at hr ⊢
  exact hr

theorem checkAssert_zero {a : ASM} (h : a.checkAssert 0 = true) : a = clear :=
  have h0 := Nat.le_zero.1 (activeOps_le_of_checkAssert h)
  eq_clear h0 (result_of_checkAssert h h0)

end ASM

def OnOk (Q : ASM → List AsmEv → Prop) (r : ASM × AsmRes) : Prop :=
  ∀ evs, r.2 = .ok evs → Q r.1 evs

theorem OnOk.ok {Q : ASM → List AsmEv → Prop} {s : ASM} {evs : List AsmEv} (h : Q s evs) :
    OnOk Q (s, .ok evs) :=
  fun _ he => AsmRes.ok.inj he ▸ h

theorem OnOk.raised {Q : ASM → List AsmEv → Prop} (s : ASM) : OnOk Q (s, .raised) :=
  nofun

theorem OnOk.mono {Q Q' : ASM → List AsmEv → Prop} {r : ASM × AsmRes} (h : OnOk Q r)
    (hQ : ∀ s evs, Q s evs → Q' s evs) : OnOk Q' r :=
  fun evs he => hQ _ _ (h evs he)

/-- what a successful transition that advanced generator `g` leaves behind (`evs ≠ []`: a callback ran) -/
def Settled (g : GenStep) (s : ASM) (evs : List AsmEv) : Prop :=
  s.activeOps ≤ 1 ∧ (g.proto → s.checkAssert = true) ∧ (evs ≠ [] → s.activeOps = 0 ∧ s.result = none)

/-- `self.result = next(generator)` with the slot kept -/
theorem Settled.yield {a : ASM} (h : a.activeOps = 1) (v : Nat) :
    Settled (.yld v) { a with result := some v } [] :=
  ⟨Nat.le_of_eq h, fun hp => (ASM.checkAssert_some_iff rfl 1).2 ⟨hp, h, Nat.le_refl 1⟩, fun h => absurd rfl h⟩

/-- the slot freed and `self.result = None` -/
theorem Settled.idle {a : ASM} {g : GenStep} {evs : List AsmEv} (h : a.activeOps = 0) (hr : a.result = none) :
    Settled g a evs :=
  ⟨by omega, fun _ => (ASM.checkAssert_none_iff hr 1).2 h, fun _ => ⟨h, hr⟩⟩

namespace ASM

theorem doHandshakeOp_settled {a : ASM} (hf : a.handshaker = true) (h1 : a.activeOps ≤ 1) (g : GenStep) :
    OnOk (Settled g) (a.doHandshakeOp g) := by
  simp only [activeOps, hf, if_true] at h1
  cases g with
  | yld v => exact .ok (.yield (by simp only [activeOps, hf, if_true]; omega) v)
  | stop => exact .ok (.idle (by simp only [activeOps, Bool.false_eq_true, if_false]; omega) rfl)
  | raise => exact .raised _

theorem doCloseOp_settled {a : ASM} (hf : a.closer = true) (h1 : a.activeOps ≤ 1) (g : GenStep) :
    OnOk (Settled g) (a.doCloseOp g) := by
  simp only [activeOps, hf, if_true] at h1
  cases g with
  | yld v => exact .ok (.yield (by simp only [activeOps, hf, if_true]; omega) v)
  | stop => exact .ok (.idle (by simp only [activeOps, Bool.false_eq_true, if_false]; omega) rfl)
  | raise => exact .raised _

theorem doWriteOp_settled {a : ASM} (hf : a.writer = true) (h1 : a.activeOps ≤ 1) (g : GenStep) :
    OnOk (Settled g) (a.doWriteOp g) := by
  simp only [activeOps, hf, if_true] at h1
  cases g with
  | yld v => exact .ok (.yield (by simp only [activeOps, hf, if_true]; omega) v)
  | stop => exact .ok (.idle (by simp only [activeOps, Bool.false_eq_true, if_false]; omega) rfl)
  | raise => exact .raised _

theorem doReadOp_settled {a : ASM} (hf : a.reader = true) (h1 : a.activeOps ≤ 1) (g : GenStep) :
    OnOk (Settled g) (a.doReadOp g) := by
  simp only [activeOps, hf, if_true] at h1
  cases g with
  | yld v =>
    simp only [doReadOp]
    split
    · exact .ok (.yield (by simp only [activeOps, hf, if_true]; omega) v)
    · exact .ok (.idle (by simp only [activeOps, Bool.false_eq_true, if_false]; omega) rfl)
  | stop => exact .raised _
  | raise => exact .raised _

theorem doReadOp_fresh {a : ASM} (h0 : a.activeOps = 0) (g : GenStep) :
    OnOk (Settled g) (({ a with reader := true }).doReadOp g) :=
  doReadOp_settled rfl (by simp only [activeOps, if_true] at h0 ⊢; omega) g

theorem guard_snd (r : ASM × AsmRes) : (guard r).2 = r.2 := by
  unfold guard; split <;> rfl

theorem guard_of_ok {r : ASM × AsmRes} {evs : List AsmEv} (h : r.2 = .ok evs) : guard r = r := by
  simp only [guard, h]

theorem guard_raises (r : ASM × AsmRes)
    (h : (guard r).2 = .assertionError ∨ (guard r).2 = .raised) : (guard r).1 = clear := by
  unfold guard at h ⊢
  split <;> simp_all

end ASM

theorem OnOk.guard {Q : ASM → List AsmEv → Prop} {r : ASM × AsmRes} (h : OnOk Q r) : OnOk Q (ASM.guard r) := by
  intro evs he
  rw [ASM.guard_snd] at he
  rw [ASM.guard_of_ok he]
  exact h evs he

namespace ASM

theorem guarded {a : ASM} {c : Bool} {body : ASM × AsmRes} {Q : ASM → List AsmEv → Prop}
    (hb : c = true → OnOk Q body) :
    let r := guard (if !c then (a, .assertionError) else body)
    (r.2 = .assertionError ∨ r.2 = .raised → r.1 = clear) ∧ (∀ evs, r.2 = .ok evs → c = true) ∧
      OnOk Q r ∧ (c = false → r.2 = .assertionError) := by
  refine ⟨guard_raises _, ?_, ?_, ?_⟩
  · cases c <;> simp [guard_snd]
  · cases c
    · intro evs he; simp [guard_snd] at he
    · exact (hb rfl).guard
  · rintro rfl; rfl

/-- the dispatch shared by `inReadEvent` and `inWriteEvent` (`rd`: with or without the drain loop) -/
theorem dispatch {a : ASM} (hc : a.checkAssert = true) (g : GenStep) {Q : ASM → List AsmEv → Prop}
    (hQ : ∀ s evs, Settled g s evs → Q s evs) {rd last : ASM × AsmRes}
    (hrd : a.reader = true → OnOk Q rd) (hl : a.activeOps = 0 → a.result = none → OnOk Q last) :
    OnOk Q (if a.handshaker then a.doHandshakeOp g else if a.closer then a.doCloseOp g
      else if a.reader then rd else if a.writer then a.doWriteOp g else last) := by
  have h1 := activeOps_le_of_checkAssert hc
  split
  · exact (doHandshakeOp_settled ‹_› h1 g).mono hQ
  split
  · exact (doCloseOp_settled ‹_› h1 g).mono hQ
  split
  · exact hrd ‹_›
  split
  · exact (doWriteOp_settled ‹_› h1 g).mono hQ
  have h0 : a.activeOps = 0 := by simp [activeOps, *]
  exact hl h0 (result_of_checkAssert hc h0)

theorem step_spec (a : ASM) (op : AsmOp) (g : GenStep) :
    ((a.step op g).2 = .assertionError ∨ (a.step op g).2 = .raised → (a.step op g).1 = clear) ∧
    (∀ evs, (a.step op g).2 = .ok evs → a.checkAssert (if op.isSet then 0 else 1) = true) ∧
    OnOk (Settled g) (a.step op g) ∧
    (a.checkAssert (if op.isSet then 0 else 1) = false → (a.step op g).2 = .assertionError) := by
  cases op
  · exact guarded fun hc => dispatch hc g (fun _ _ h => h)
      (fun hf => doReadOp_settled hf (activeOps_le_of_checkAssert hc) g) fun h0 _ => doReadOp_fresh h0 g
  · exact guarded fun hc => dispatch hc g (fun _ _ h => h)
      (fun hf => doReadOp_settled hf (activeOps_le_of_checkAssert hc) g) fun h0 hr => .ok (.idle h0 hr)
  · exact guarded fun hc => checkAssert_zero hc ▸ doHandshakeOp_settled rfl (by decide) g
  · exact guarded fun hc => checkAssert_zero hc ▸ doCloseOp_settled rfl (by decide) g
  · exact guarded fun hc => checkAssert_zero hc ▸ doWriteOp_settled rfl (by decide) g

theorem inReadDrain_nil (a : ASM) (g : GenStep) : a.inReadDrain g [] = a.inReadEvent g := rfl

theorem inWriteDrain_nil (a : ASM) (g : GenStep) : a.inWriteDrain g [] = a.inWriteEvent g := rfl

/-- what the drain loop maintains (`Settled g` speaks of one generator step `g`; the loop starts a fresh reader in
    every round) -/
def AtMostOne (s : ASM) (_ : List AsmEv) : Prop := s.activeOps ≤ 1

theorem drainLoop_ok (pend : List GenStep) : ∀ r, OnOk AtMostOne r → OnOk AtMostOne (drainLoop r pend) := by
  induction pend with
  | nil => exact fun r h => h
  | cons g rest ih =>
    intro r h
    have hf : r.1.noOp = true → OnOk AtMostOne (({ r.1 with reader := true }).doReadOp g) := fun hn =>
      (doReadOp_fresh (by simpa [noOp, activeOps] using hn) g).mono fun _ _ h => h.1
    unfold drainLoop
    split
    · split
      · dsimp only
        split
        next evs' he => exact ih _ (.ok (hf ‹_› evs' he))
        · exact hf ‹_›
      · exact h
    · exact h

theorem inReadDrain_spec (a : ASM) (g : GenStep) (pend : List GenStep) :
    ((a.inReadDrain g pend).2 = .assertionError ∨ (a.inReadDrain g pend).2 = .raised →
        (a.inReadDrain g pend).1 = clear) ∧ OnOk AtMostOne (a.inReadDrain g pend) :=
  have ⟨h1, _, h3, _⟩ := guarded (a := a) fun hc => dispatch hc g (fun _ _ => And.left)
    (fun hf => drainLoop_ok pend _
      ((doReadOp_settled hf (activeOps_le_of_checkAssert hc) g).mono fun _ _ => And.left))
    (fun h0 _ => drainLoop_ok pend _ ((doReadOp_fresh h0 g).mono fun _ _ => And.left))
  ⟨h1, h3⟩

theorem inWriteDrain_spec (a : ASM) (g : GenStep) (pend : List GenStep) :
    ((a.inWriteDrain g pend).2 = .assertionError ∨ (a.inWriteDrain g pend).2 = .raised →
        (a.inWriteDrain g pend).1 = clear) ∧ OnOk AtMostOne (a.inWriteDrain g pend) :=
  have ⟨h1, _, h3, _⟩ := guarded (a := a) fun hc => dispatch hc g (fun _ _ => And.left)
    (fun hf => drainLoop_ok pend _
      ((doReadOp_settled hf (activeOps_le_of_checkAssert hc) g).mono fun _ _ => And.left))
    (fun h0 _ => .ok (show a.activeOps ≤ 1 by omega))
  ⟨h1, h3⟩

/-- every complete record found in the read-ahead buffer is handed to outReadEvent before inReadEvent returns
    (`yld v` with `v` not 0/1: a read that completes with a result object) -/
theorem drainLoop_all_complete : ∀ (vs : List Nat) (evs : List AsmEv), (∀ v ∈ vs, v ≠ 0 ∧ v ≠ 1) →
    drainLoop (clear, .ok evs) (vs.map GenStep.yld) =
      (clear, .ok (evs ++ List.replicate vs.length AsmEv.outRead)) := by
  intro vs
  induction vs with
  | nil => intro evs _; simp [drainLoop]
  | cons v vs ih =>
    intro evs h
    have hv := h v (by simp)
    have hne : ¬ (v = 0 ∨ v = 1) := by omega
    simp only [List.map_cons, drainLoop, noOp, clear, doReadOp]
    simp [hne]
    have := ih (evs ++ [AsmEv.outRead]) (fun x hx => h x (by simp [hx]))
    simp only [clear] at this
    rw [this]
    simp [List.replicate_succ, List.append_assoc]

end ASM
end Tls.IO
