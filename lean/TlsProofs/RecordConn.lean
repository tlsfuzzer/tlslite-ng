import TlsProofs.Record
/- The connection model on an honest channel, for `stream_fifo` (Props/C01.lean: an arbitrary interleaving of
   writes and reads over a lawful codec keeps delivered ++ buffered ++ in-flight = written, per direction):
   the channel holds, in order, the protections of the fragments still pending (`DirInv`); a write appends to
   both (`epWrite_honest`, `DirInv.send`) and the read loop consumes a prefix of them (`readLoop_honest`, along the
   two equations `epReadLoop_app` / `epReadLoop_done`).  `epFatal_spec` and `epReadLoop_done` are also what the
   connection-level theorems of Props/C02.lean (a rejection is fatal, closed is final) are read off. -/
namespace Tls.Rec

structure Codec.Lawful (K : Codec) (Sync : K.SS → K.RS → Prop) (lim : Nat) : Prop where
  total : ∀ s p, p.length ≤ lim → (K.prot s 23 p).isSome = true
  rt : ∀ s r p s' rc, Sync s r → p.length ≤ lim → K.prot s 23 p = some (s', rc) →
        ∃ r', K.unprot r rc = .ok (some (r', 23, p)) ∧ Sync s' r'

theorem protAll_append {W} (prot : W → UInt8 → Bytes → Option (W × Rec)) (t : UInt8) :
    ∀ (xs ys : List Bytes) (s : W),
    protAll prot t s (xs ++ ys) =
      match protAll prot t s xs with
      | none => none
      | some (s1, r1) =>
        match protAll prot t s1 ys with
        | none => none
        | some (s2, r2) => some (s2, r1 ++ r2)
  | [], ys, s => by
    simp [protAll]
    cases protAll prot t s ys <;> simp
  | x :: xs, ys, s => by
    simp only [List.cons_append, protAll]
    cases hp : prot s t x with
    | none => simp
    | some v =>
      obtain ⟨s', r⟩ := v
      simp only
      rw [protAll_append prot t xs ys s']
      cases h1 : protAll prot t s' xs with
      | none => simp
      | some v1 =>
        obtain ⟨s1, r1⟩ := v1
        simp only
        cases h2 : protAll prot t s1 ys with
        | none => simp
        | some v2 => obtain ⟨s2, r2⟩ := v2; simp

theorem protAll_total (K : Codec) (Sync : K.SS → K.RS → Prop) (lim : Nat) (hK : K.Lawful Sync lim) :
    ∀ (fs : List Bytes) (s : K.SS), (∀ f ∈ fs, f.length ≤ lim) → ∃ s' rs, protAll K.prot 23 s fs = some (s', rs)
  | [], s, _ => ⟨s, [], rfl⟩
  | f :: fs, s, h => by
    have h1 := hK.total s f (h f (by simp))
    cases hp : K.prot s 23 f with
    | none => simp [hp] at h1
    | some v =>
      obtain ⟨s1, r⟩ := v
      obtain ⟨s', rs, h2⟩ := protAll_total K Sync lim hK fs s1 (fun g hg => h g (by simp [hg]))
      exact ⟨s', r :: rs, by simp [protAll, hp, h2]⟩

theorem protAll_cons_some {W} {prot : W → UInt8 → Bytes → Option (W × Rec)} {t : UInt8} {s w : W} {f : Bytes}
    {fs : List Bytes} {rs : List Rec} (h : protAll prot t s (f :: fs) = some (w, rs)) :
    ∃ s1 r rs', prot s t f = some (s1, r) ∧ protAll prot t s1 fs = some (w, rs') ∧ rs = r :: rs' := by
  simp only [protAll] at h
  split at h
  · cases h
  split at h
  · cases h
  cases h
  exact ⟨_, _, _, ‹_›, ‹_›, rfl⟩

theorem protAll_length {W} (prot : W → UInt8 → Bytes → Option (W × Rec)) (t : UInt8) :
    ∀ (fs : List Bytes) (s s' : W) (rs : List Rec), protAll prot t s fs = some (s', rs) → rs.length = fs.length
  | [], s, s', rs, h => by cases h; rfl
  | f :: fs, s, s', rs, h => by
    obtain ⟨s1, r, rs', -, h2, rfl⟩ := protAll_cons_some h
    simp [protAll_length prot t fs s1 s' rs' h2]

/-- one direction: the receiver is in sync with the sender as it was (`s0`) when the oldest in-flight
    record was protected -/
def DirInv (K : Codec) (Sync : K.SS → K.RS → Prop) (lim : Nat) (wr : K.SS) (rd : K.RS)
    (chan : List Rec) (pend : List Bytes) : Prop :=
  ∃ s0, Sync s0 rd ∧ protAll K.prot 23 s0 pend = some (wr, chan) ∧ ∀ f ∈ pend, f.length ≤ lim

theorem DirInv.send {K : Codec} {Sync lim wr rd chan pend} (h : DirInv K Sync lim wr rd chan pend)
    (fr : List Bytes) (hfr : ∀ f ∈ fr, f.length ≤ lim) (wr' : K.SS) (rs : List Rec)
    (hp : protAll K.prot 23 wr fr = some (wr', rs)) :
    DirInv K Sync lim wr' rd (chan ++ rs) (pend ++ fr) := by
  obtain ⟨s0, hs, hpa, hl⟩ := h
  refine ⟨s0, hs, ?_, ?_⟩
  · rw [protAll_append, hpa]; simp [hp]
  · intro f hf
    rcases List.mem_append.mp hf with h1 | h1
    · exact hl f h1
    · exact hfr f h1

theorem DirInv.drained {K : Codec} {Sync lim wr rd pend} (h : DirInv K Sync lim wr rd [] pend) : pend = [] := by
  obtain ⟨s0, _, hpa, _⟩ := h
  have := protAll_length K.prot 23 pend s0 wr [] hpa
  exact List.length_eq_zero_iff.mp this.symm

theorem epFatal_spec {W R} (prot : W → UInt8 → Bytes → Option (W × Rec)) (e : Endpoint W R) (desc : Nat) :
    (epFatal prot e desc).1.closed = true ∧ (epFatal prot e desc).1.resumable = false ∧
    (epFatal prot e desc).1.buf = e.buf ∧ (epFatal prot e desc).2.length ≤ 1 ∧
    ∀ w' a, prot e.wr 21 [2, UInt8.ofNat desc] = some (w', a) →
      (epFatal prot e desc).2 = [a] ∧ (epFatal prot e desc).1.wr = w' := by
  unfold epFatal
  cases prot e.wr 21 [2, UInt8.ofNat desc] with
  | none => simp
  | some v =>
    obtain ⟨w, r⟩ := v
    simp

theorem epWrite_honest {K : Codec} {Sync : K.SS → K.RS → Prop} {lim : Nat} (hK : K.Lawful Sync lim) {R}
    (e : Endpoint K.SS R) (d : Bytes) (hcl : e.closed = false) (h0 : 0 < e.recordSize) (h1 : e.recordSize ≤ lim) :
    ∃ fr w' rs, epWrite K.prot e d = ({ e with wr := w' }, rs, .done) ∧ fr.flatten = d ∧
      (∀ f ∈ fr, f.length ≤ lim) ∧ protAll K.prot 23 e.wr fr = some (w', rs) := by
  obtain ⟨fr, hfr⟩ := fragmentsVar_total e.split (fun _ => e.recordSize) (fun _ => h0) d
  rw [fragmentsVar_const] at hfr
  obtain ⟨hflat, hlen⟩ := fragments_spec _ _ _ _ hfr
  have hle : ∀ f ∈ fr, f.length ≤ lim := fun f hf => Nat.le_trans (hlen h0 f hf) h1
  obtain ⟨w', rs, hp⟩ := protAll_total K Sync lim hK fr e.wr hle
  exact ⟨fr, w', rs, by simp [epWrite, hcl, hfr, hp], hflat, hle, hp⟩

theorem epReadLoop_done {W R} (prot : W → UInt8 → Bytes → Option (W × Rec))
    (unprot : R → Rec → Except Err (Option (R × UInt8 × Bytes))) (max : Option Nat) (min : Nat) (tryOnce : Bool)
    (e : Endpoint W R) (inc : List Rec) (h : readMore e min tryOnce = false) :
    epReadLoop prot unprot max min tryOnce e inc = epReturn max e inc := by
  cases inc <;> simp [epReadLoop, h]

/-- an application-data record in a read that wants more: its plaintext joins the buffer, and only an empty one
    leaves `try_once` as it was (`_getMsg` spins on empty fragments inside one iteration of `readAsync`) -/
theorem epReadLoop_app {W R} {prot : W → UInt8 → Bytes → Option (W × Rec)}
    {unprot : R → Rec → Except Err (Option (R × UInt8 × Bytes))} {max : Option Nat} {min : Nat} {tryOnce : Bool}
    {e : Endpoint W R} {r : Rec} {inc : List Rec} {rd' : R} {d : Bytes} (hmore : readMore e min tryOnce = true)
    (hun : unprot e.rd r = .ok (some (rd', 23, d))) :
    epReadLoop prot unprot max min tryOnce e (r :: inc) =
      epReadLoop prot unprot max min (tryOnce && d.isEmpty) { e with rd := rd', buf := e.buf ++ d } inc := by
  cases d <;> simp [epReadLoop, hmore, hun]

theorem readLoop_honest (K : Codec) (Sync : K.SS → K.RS → Prop) (lim : Nat) (hK : K.Lawful Sync lim)
    {W} (prot : W → UInt8 → Bytes → Option (W × Rec)) (max : Option Nat) (min : Nat) (wr : K.SS) :
    ∀ (chan : List Rec) (pend : List Bytes) (tryOnce : Bool) (e : Endpoint W K.RS),
      DirInv K Sync lim wr e.rd chan pend →
      ∃ consumed pend' rd' buf',
        let res := epReadLoop prot K.unprot max min tryOnce e chan
        pend = consumed ++ pend' ∧ DirInv K Sync lim wr rd' res.2.1 pend' ∧
        res.1 = { e with rd := rd', buf := buf' } ∧ res.2.2.1 = [] ∧ res.2.2.2.isFail = false ∧
        res.2.2.2.bytes ++ buf' = e.buf ++ consumed.flatten
  | [], pend, tryOnce, e, hinv => by
    simp only [epReadLoop, epReturn]
    split
    · exact ⟨[], pend, e.rd, e.buf, by simp, hinv, rfl, rfl, rfl, by simp [ReadOut.bytes]⟩
    · exact ⟨[], pend, e.rd, _, by simp, hinv, rfl, rfl, rfl, by simp [ReadOut.bytes]⟩
  | r :: chan', pend, tryOnce, e, hinv => by
    by_cases hcond : readMore e min tryOnce = true
    · obtain ⟨s0, hs, hpa, hl⟩ := hinv
      cases pend with
      | nil => simp [protAll] at hpa
      | cons f pend1 =>
        obtain ⟨s1, rc, rs2, hp, h2, hch⟩ := protAll_cons_some hpa
        cases hch
        obtain ⟨r', hun, hs'⟩ := hK.rt s0 e.rd f s1 r hs (hl f (by simp)) hp
        have hinv' : DirInv K Sync lim wr r' chan' pend1 := ⟨s1, hs', h2, fun g hg => hl g (by simp [hg])⟩
        obtain ⟨cons, pend', rd', buf', hsplit, hdi, hfr, h3, h4, h10⟩ :=
          readLoop_honest K Sync lim hK prot max min wr chan' pend1 (tryOnce && f.isEmpty)
            { e with rd := r', buf := e.buf ++ f } hinv'
        rw [epReadLoop_app hcond hun]
        refine ⟨f :: cons, pend', rd', buf', by simp [hsplit], hdi, hfr, h3, h4, ?_⟩
        rw [h10]
        simp
    · rw [epReadLoop_done prot K.unprot max min tryOnce e _ (by simpa using hcond)]
      refine ⟨[], pend, e.rd, _, by simp, hinv, rfl, ?_, ?_, ?_⟩ <;> simp [epReturn, ReadOut.bytes, ReadOut.isFail]

end Tls.Rec
