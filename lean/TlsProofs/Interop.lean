import TlsModel.Interop
/-
  Helper lemmas for Props/C07.lean: the Boolean expectation functions of TlsModel/Interop.lean
  against their spelled-out propositional readings.
-/
namespace Tls.Interop

theorem mem_common {a b : List Nat} {x : Nat} : x ∈ common a b ↔ x ∈ a ∧ x ∈ b := by
  simp [common, List.mem_filter]

theorem listMax_none {l : List Nat} : listMax l = none ↔ l = [] := by
  cases l with
  | nil => simp [listMax]
  | cons x xs =>
    simp only [listMax]
    cases listMax xs <;> simp

theorem listMax_is_max {l : List Nat} {m : Nat} (h : listMax l = some m) : m ∈ l ∧ ∀ x, x ∈ l → x ≤ m := by
  induction l generalizing m with
  | nil => cases h
  | cons x xs ih =>
    simp only [listMax] at h
    cases hxs : listMax xs with
    | none =>
      rw [hxs] at h
      cases h
      rw [listMax_none.mp hxs]
      simp
    | some m' =>
      rw [hxs] at h
      cases h
      obtain ⟨hm', hle⟩ := ih hxs
      by_cases hc : m' ≤ x
      · rw [if_pos hc]
        exact ⟨List.mem_cons_self, List.forall_mem_cons.mpr ⟨Nat.le_refl x, fun y hy => Nat.le_trans (hle y hy) hc⟩⟩
      · rw [if_neg hc]
        exact ⟨List.mem_cons_of_mem _ hm', List.forall_mem_cons.mpr ⟨Nat.le_of_not_le hc, hle⟩⟩

/-- the converse holds because a list has only one maximum -/
theorem listMax_some {l : List Nat} {m : Nat} :
    listMax l = some m ↔ m ∈ l ∧ ∀ x, x ∈ l → x ≤ m := by
  refine ⟨listMax_is_max, fun ⟨hm, hle⟩ => ?_⟩
  cases h : listMax l with
  | none => rw [listMax_none.mp h] at hm; cases hm
  | some m' =>
    obtain ⟨hm', hle'⟩ := listMax_is_max h
    rw [Nat.le_antisymm (hle' m hm) (hle m' hm')]

theorem negotiatedVersion_some {c s : Caps} {v : Nat} :
    negotiatedVersion c s = some v ↔
      v ∈ c.versions ∧ v ∈ s.versions ∧ ∀ w, w ∈ c.versions → w ∈ s.versions → w ≤ v := by
  simp only [negotiatedVersion, listMax_some, mem_common, and_imp, and_assoc]

theorem negotiatedVersion_none {c s : Caps} :
    negotiatedVersion c s = none ↔ ∀ v, v ∈ c.versions → v ∉ s.versions := by
  simp only [negotiatedVersion, listMax_none, List.eq_nil_iff_forall_not_mem, mem_common, not_and]

def GroupAvail (si : SuiteInfo) (c s : Caps) : Prop :=
  match si.kx with
  | .rsa => True
  | .ecdhe | .ecdhAnon => ∃ g, g ∈ c.groups ∧ g ∈ s.groups ∧ isEcGroup g = true
  | .dhe | .dhAnon =>
    ((∀ g, g ∈ c.groups → isFfGroup g = false) ∧ ∃ g, g ∈ serverDhGroups s ∧ isFfGroup g = true) ∨
    (∃ g, g ∈ c.groups ∧ g ∈ serverDhGroups s ∧ isFfGroup g = true)
  | .tls13 => ∃ g, g ∈ c.groups ∧ g ∈ s.groups ∧ isTls13Group g = true

def legacySigningKey (k : KeyType) : Prop :=
  k = .rsa ∨ k = .dsa ∨ ∃ g, k = .ecdsa g

def SigAvail (si : SuiteInfo) (v : Nat) (c s : Caps) (k : KeyType) : Prop :=
  si.auth = Auth.anon ∨ si.kx = Kx.rsa ∨
  (v = tls13 ∧ ∃ x, x ∈ c.sigs ∧ x ∈ s.sigs ∧ sigFits13 k x = true) ∨
  (v = tls12 ∧ ∃ x, x ∈ c.sigs ∧ x ∈ s.sigs ∧ sigFits12 k x = true) ∨
  (v ≠ tls13 ∧ v ≠ tls12 ∧ legacySigningKey k)

theorem filter_isEmpty_false {l : List Nat} {p : Nat → Bool} :
    (l.filter p).isEmpty = false ↔ ∃ g, g ∈ l ∧ p g = true := by
  simp only [List.isEmpty_eq_false_iff_exists_mem, List.mem_filter]

theorem filter_isEmpty_true {l : List Nat} {p : Nat → Bool} :
    (l.filter p).isEmpty = true ↔ ∀ g, g ∈ l → p g = false := by
  simp [List.isEmpty_iff, List.filter_eq_nil_iff]

theorem common_filter_nonempty {a b : List Nat} {p : Nat → Bool} :
    (!((common a b).filter p).isEmpty) = true ↔ ∃ g, g ∈ a ∧ g ∈ b ∧ p g = true := by
  simp only [Bool.not_eq_true', filter_isEmpty_false, mem_common, and_assoc]

theorem groupOk_iff (si : SuiteInfo) (c s : Caps) : groupOk si c s = true ↔ GroupAvail si c s := by
  unfold groupOk suiteGroups GroupAvail
  cases hk : si.kx with
  | rsa => simp
  | ecdhe | ecdhAnon | tls13 => exact common_filter_nonempty
  | dhe | dhAnon =>
    dsimp only
    cases hc : (c.groups.filter isFfGroup).isEmpty with
    | true =>
      have hcall := filter_isEmpty_true.mp hc
      cases hs : ((serverDhGroups s).filter isFfGroup).isEmpty with
      | true =>
        have hsall := filter_isEmpty_true.mp hs
        refine ⟨fun h => (by cases h), ?_⟩
        rintro (⟨_, g, hg, hp⟩ | ⟨g, hg, _, hp⟩)
        · rw [hsall g hg] at hp; cases hp
        · rw [hcall g hg] at hp; cases hp
      | false => exact ⟨fun _ => Or.inl ⟨hcall, filter_isEmpty_false.mp hs⟩, fun _ => rfl⟩
    | false =>
      have ⟨g0, hg0, hp0⟩ := filter_isEmpty_false.mp hc
      refine ⟨fun h => Or.inr (common_filter_nonempty.mp h), ?_⟩
      rintro (h | h)
      · rw [h.1 g0 hg0] at hp0; cases hp0
      · exact common_filter_nonempty.mpr h

theorem any_common_iff {a b : List Nat} {p : Nat → Bool} :
    (common a b).any p = true ↔ ∃ x, x ∈ a ∧ x ∈ b ∧ p x = true := by
  simp only [List.any_eq_true, mem_common, and_assoc]

theorem legacyKey_iff (k : KeyType) :
    (k == KeyType.rsa || k == KeyType.dsa || (match k with | .ecdsa _ => true | _ => false)) = true ↔
      legacySigningKey k := by
  unfold legacySigningKey
  cases k <;> simp

theorem clientSigOk_iff (v : Nat) (c s : Caps) (k : KeyType) :
    clientSigOk v c s k = true ↔
      (v = tls13 ∧ ∃ x, x ∈ c.sigs ∧ x ∈ s.sigs ∧ sigFits13 k x = true) ∨
      (v = tls12 ∧ ∃ x, x ∈ c.sigs ∧ x ∈ s.sigs ∧ sigFits12 k x = true) ∨
      (v ≠ tls13 ∧ v ≠ tls12 ∧ legacySigningKey k) := by
  unfold clientSigOk
  have h32 : tls13 ≠ tls12 := by decide
  by_cases h3 : v = tls13
  · subst h3
    simp only [beq_self_eq_true, if_true, any_common_iff, true_and, ne_eq, not_true, false_and, h32, or_false]
  by_cases h2 : v = tls12
  · subst h2
    simp only [beq_iff_eq, h3, if_false, if_true, any_common_iff, true_and, false_and, ne_eq, not_true, and_false,
      or_false, false_or]
  simp only [beq_iff_eq, h3, h2, if_false, false_and, ne_eq, not_false_eq_true, true_and, false_or]
  exact legacyKey_iff k

theorem sigOk_iff (si : SuiteInfo) (v : Nat) (c s : Caps) (k : KeyType) :
    sigOk si v c s k = true ↔ SigAvail si v c s k := by
  -- the last three arms of `sigOk` are the body of `clientSigOk`, spelt a second time in the model: `show` folds them
  show (if si.auth = Auth.anon then true else if si.kx = Kx.rsa then true else clientSigOk v c s k) = true ↔ _
  unfold SigAvail
  by_cases h1 : si.auth = Auth.anon
  · simp only [h1, if_true, true_or]
  by_cases h2 : si.kx = Kx.rsa
  · simp only [h2, if_true, ite_self, true_or, or_true]
  simp only [h1, h2, if_false, false_or, clientSigOk_iff]

def SuiteAvail (v : Nat) (c s : Caps) (k : KeyType) (id : Nat) : Prop :=
  id ∈ c.suites ∧ id ∈ s.suites ∧
  ∃ si, suiteInfo id = some si ∧ versionOk si v = true ∧ keyOk si v c k = true ∧
    GroupAvail si c s ∧ SigAvail si v c s k

theorem mem_usableSuites {v : Nat} {c s : Caps} {k : KeyType} {id : Nat} :
    id ∈ usableSuites v c s k ↔ SuiteAvail v c s k id := by
  unfold usableSuites SuiteAvail
  rw [List.mem_filter, mem_common]
  unfold suiteUsable
  cases h : suiteInfo id with
  | none => simp
  | some si =>
    simp only [Bool.and_eq_true, groupOk_iff, sigOk_iff, Option.some.injEq, exists_eq_left']
    constructor
    · intro ⟨⟨a, b⟩, ⟨⟨h1, h2⟩, h3⟩, h4⟩; exact ⟨a, b, h1, h2, h3, h4⟩
    · intro ⟨a, b, h1, h2, h3, h4⟩; exact ⟨⟨a, b⟩, ⟨⟨h1, h2⟩, h3⟩, h4⟩

theorem mem_admissibleSuites {v : Nat} {c s : Caps} {id : Nat} :
    id ∈ admissibleSuites v c s ↔
      id ∈ c.suites ∧ id ∈ s.suites ∧ ∃ si, suiteInfo id = some si ∧ versionOk si v = true := by
  unfold admissibleSuites
  rw [List.mem_filter, mem_common]
  cases h : suiteInfo id with
  | none => simp
  | some si => simp [and_assoc]

theorem mem_suiteGroups {si : SuiteInfo} {c s : Caps} {gs : List Nat} {g : Nat}
    (h : suiteGroups si c s = some gs) (hg : g ∈ gs) :
    g ∈ c.groups ∧ (g ∈ s.groups ∨ g ∈ s.dhLegacy) := by
  unfold suiteGroups at h
  cases hk : si.kx with
  | rsa => rw [hk] at h; cases h
  | ecdhe | ecdhAnon | tls13 =>
    rw [hk] at h
    cases h
    have hm := mem_common.mp (List.mem_filter.mp hg).1
    exact ⟨hm.1, Or.inl hm.2⟩
  | dhe | dhAnon =>
    rw [hk] at h
    dsimp only at h
    split at h
    · split at h
      · cases h; cases hg
      · cases h
    · cases h
      have hm := mem_common.mp (List.mem_filter.mp hg).1
      exact ⟨hm.1, List.mem_append.mp hm.2⟩

theorem mem_groupsOf {c s : Caps} {id g : Nat} (h : g ∈ groupsOf c s id) :
    g ∈ c.groups ∧ (g ∈ s.groups ∨ g ∈ s.dhLegacy) := by
  unfold groupsOf at h
  cases hs : suiteInfo id with
  | none => rw [hs] at h; cases h
  | some si =>
    rw [hs] at h
    simp only at h
    cases hg : suiteGroups si c s with
    | none => rw [hg] at h; cases h
    | some gs => rw [hg] at h; exact mem_suiteGroups hg h

/-- the single reading of `expectedOutcome` from which the C07 theorems are taken -/
def OutcomeSpec (c s : Caps) (k : KeyType) : Outcome → Prop
  | .failure .noCommonVersion => ∀ v, v ∈ c.versions → v ∉ s.versions
  | .failure .noCommonSuite =>
    ∃ v, negotiatedVersion c s = some v ∧
      ∀ id si, id ∈ c.suites → id ∈ s.suites → suiteInfo id = some si → versionOk si v = false
  | .failure .noUsableSuite =>
    ∃ v, negotiatedVersion c s = some v ∧ (∃ id, id ∈ admissibleSuites v c s) ∧
      ∀ id, ¬ SuiteAvail v c s k id
  | .success v ps =>
    negotiatedVersion c s = some v ∧ (∃ id, id ∈ usableSuites v c s k) ∧
      ps = (usableSuites v c s k).map fun id => (id, groupsOf c s id)

theorem expectedOutcome_spec {c s : Caps} {k : KeyType} {o : Outcome} (h : expectedOutcome c s k = o) :
    OutcomeSpec c s k o := by
  subst h
  unfold expectedOutcome
  cases hv : negotiatedVersion c s with
  | none => exact negotiatedVersion_none.mp hv
  | some v =>
    dsimp only
    cases ha : (admissibleSuites v c s).isEmpty with
    | true =>
      refine ⟨v, hv, fun id si hc hs hsi => Bool.eq_false_iff.mpr fun hok => ?_⟩
      have := mem_admissibleSuites.mpr ⟨hc, hs, si, hsi, hok⟩
      rw [List.isEmpty_iff.mp ha] at this
      cases this
    | false =>
      cases hu : (usableSuites v c s k).isEmpty with
      | true =>
        refine ⟨v, hv, List.isEmpty_eq_false_iff_exists_mem.mp ha, fun id hid => ?_⟩
        have := mem_usableSuites.mpr hid
        rw [List.isEmpty_iff.mp hu] at this
        cases this
      | false => exact ⟨hv, List.isEmpty_eq_false_iff_exists_mem.mp hu, rfl⟩

end Tls.Interop
