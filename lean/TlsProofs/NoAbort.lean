import TlsProofs.Negotiate
/-
  "… otherwise the handshake fails with an alert": in the model no exception escapes (`Outcome.abort` is
  never the result) for a server that was given credentials.
-/
namespace Tls.Neg
open Tls.Gen.Neg

def NoAbort {α} (x : Outcome α) : Prop := ∀ s d, x ≠ .abort s d

theorem noAbort_ok {α} (a : α) : NoAbort (Outcome.ok a) := fun _ _ h => by cases h
theorem noAbort_pure {α} (a : α) : NoAbort (pure a : Outcome α) := noAbort_ok a
theorem noAbort_alert {α} (s : Side) (d : String) : NoAbort (Outcome.alert s d : Outcome α) := fun _ _ h => by cases h
theorem noAbort_failIf (c : Bool) (s : Side) (d : String) : NoAbort (failIf c s d) := by
  unfold failIf; split
  · exact noAbort_alert _ _
  · exact noAbort_ok _

theorem noAbort_bind {α β} {x : Outcome α} {f : α → Outcome β} (hx : NoAbort x)
    (hf : ∀ a, x = .ok a → NoAbort (f a)) : NoAbort (x >>= f) := by
  cases x with
  | ok a => exact hf a rfl
  | alert s d => exact noAbort_alert s d
  | abort s d => exact absurd rfl (hx s d)

theorem noAbort_bind_iff {α β} {x : Outcome α} {f : α → Outcome β} :
    NoAbort (x >>= f) ↔ NoAbort x ∧ ∀ a, x = .ok a → NoAbort (f a) := by
  refine ⟨fun h => ?_, fun h => noAbort_bind h.1 h.2⟩
  cases x with
  | ok a => exact ⟨noAbort_ok a, fun b hb => by cases hb; exact h⟩
  | alert s d => exact ⟨noAbort_alert s d, fun b hb => nomatch hb⟩
  | abort s d => exact absurd rfl (h s d)

theorem noAbort_ite {α} {c : Prop} [Decidable c] {x y : Outcome α} :
    NoAbort (if c then x else y) ↔ (c → NoAbort x) ∧ (¬ c → NoAbort y) := by
  split <;> simp [*]

-- `noAbort_bind_iff` (a step followed by the rest) and `noAbort_ite` (a branch) are the forms `simp` takes the step
-- functions apart with
attribute [local simp] noAbort_ok noAbort_pure noAbort_alert noAbort_failIf noAbort_bind_iff noAbort_ite

/-- the handshake function itself demands credentials (ValueError before any message otherwise) -/
def serverHasCredentials (ss : Settings) (sc : ServerCfg) : Bool :=
  sc.hasDB || sc.cred.isSome || sc.anon || !ss.pskConfigs.isEmpty

theorem noAbort_serverSanity13 (o : Offer) : NoAbort (serverSanity13 o) := by
  unfold serverSanity13
  split
  · simp only [noAbort_ite, noAbort_pure, implies_true, and_true]
    intro _ _
    split <;> simp
  · simp

theorem noAbort_pickVersion (ss : Settings) (o : Offer) : NoAbort (pickVersion ss o) := by
  unfold pickVersion
  split
  · split <;> simp
  · simp

theorem noAbort_serverVersion (ss : Settings) (o : Offer) : NoAbort (serverVersion ss o) := by
  simp [serverVersion, noAbort_serverSanity13, noAbort_pickVersion]

theorem noAbort_serverSuites {ss : Settings} {sc : ServerCfg} (o : Offer) (v : Nat)
    (h : serverHasCredentials ss sc = true) : NoAbort (serverSuites ss sc o v) := by
  unfold serverSuites
  dsimp only
  simp only [serverHasCredentials, Bool.or_eq_true] at h
  -- the first kind of credential that is configured decides the list
  by_cases h1 : sc.hasDB = true
  · rw [if_pos h1]; exact noAbort_ok _
  by_cases h2 : sc.cred.isSome = true
  · rw [if_neg h1, if_pos h2]; exact noAbort_ok _
  by_cases h3 : sc.anon = true
  · rw [if_neg h1, if_neg h2, if_pos h3]; exact noAbort_ok _
  rw [if_neg h1, if_neg h2, if_neg h3, if_pos (h.resolve_left (not_or.mpr ⟨not_or.mpr ⟨h1, h2⟩, h3⟩))]
  exact noAbort_ok _

theorem noAbort_checkServerCurve (sc : ServerCfg) (o : Offer) (v : Nat) : NoAbort (checkServerCurve sc o v) := by
  unfold checkServerCurve
  split <;> simp

theorem noAbort_selectCertificate (ss : Settings) (sc : ServerCfg) (o : Offer) (l : List Nat) (v : Nat) :
    NoAbort (selectCertificate ss sc o l v) := by
  unfold selectCertificate
  split
  · simp
  · split <;> simp [noAbort_checkServerCurve]

theorem noAbort_tls13Group (ss : Settings) (o : Offer) : NoAbort (tls13Group ss o) := by
  unfold tls13Group
  split
  · simp
  · split <;> simp

theorem noAbort_serverSelect13 (ss : Settings) (sc : ServerCfg) (o : Offer) (v s sig : Nat) :
    NoAbort (serverSelect13 ss sc o v s sig) := by
  simp only [serverSelect13, noAbort_bind_iff, noAbort_tls13Group, noAbort_failIf, true_and]
  intros
  split <;> simp

theorem noAbort_dhSelect (ss : Settings) (sc : ServerCfg) (o : Offer) (s : Nat) : NoAbort (dhSelect ss sc o s) := by
  unfold dhSelect
  simp only [noAbort_ite, noAbort_ok, noAbort_alert, implies_true, and_true]
  intro _
  split
  · simp only [noAbort_ite, noAbort_ok, implies_true, and_true]
    intro _
    split <;> simp
  · exact noAbort_ok _

theorem noAbort_ecSelect (ss : Settings) (o : Offer) (v s : Nat) : NoAbort (ecSelect ss o v s) := by
  unfold ecSelect
  split
  · dsimp only
    split <;> simp
  · simp

/-- the two `abort` arms of `serverSelect12` are what the hypotheses exclude: an EdDSA key signing below TLS 1.2
    (TypeError), a suite outside the three classes (AssertionError) -/
theorem noAbort_serverSelect12 {ss : Settings} {sc : ServerCfg} {o : Offer} {v s sig : Nat}
    (hEd : ¬ (v < 3 ∧ sc.cred.any (fun c => c.certAlg == "Ed25519" || c.certAlg == "Ed448") = true))
    (hclass : (srpAllSuites.contains s || isCertKxSuite s || isAnonSuite s) = true) :
    NoAbort (serverSelect12 ss sc o v s sig) := by
  simp only [serverSelect12_eq, noAbort_bind_iff, noAbort_failIf, noAbort_dhSelect, noAbort_ecSelect, true_and]
  intros
  split
  · rename_i hc
    simp only [Bool.and_eq_true, decide_eq_true_eq] at hc
    refine absurd ⟨hc.1.2, ?_⟩ hEd
    cases hcr : sc.cred with
    | none => rw [hcr] at hc; exact absurd hc.2 (by decide)
    | some c => rw [hcr] at hc; exact hc.2
  · rw [hclass]
    simp

/-- an EdDSA key below TLS 1.2 serves no suite: the selection fails before anything is signed -/
theorem selectCertificate_notEd {ss : Settings} {sc : ServerCfg} {o : Offer} {l : List Nat} {v : Nat} {r : Nat × Nat}
    (h : selectCertificate ss sc o l v = .ok r) :
    ¬ (v < 3 ∧ sc.cred.any (fun c => c.certAlg == "Ed25519" || c.certAlg == "Ed448") = true) := by
  intro hc
  have hu := (selectCertificate_ok h).1
  rw [certUsable, if_pos (by simpa using hc)] at hu
  cases hu

theorem srp_families : ∀ s ∈ srpCertSuites ++ srpSuites, srpAllSuites.contains s = true := by decide +kernel

theorem serverSuites_class {ss : Settings} {sc : ServerCfg} {o : Offer} {v : Nat} {l : List Nat}
    (h : serverSuites ss sc o v = .ok l) (hv : v ≤ 3) :
    ∀ s ∈ l, (srpAllSuites.contains s || isCertKxSuite s || isAnonSuite s) = true := by
  intro s hs
  obtain ⟨fam, hfam, hf⟩ := serverSuites_mem h hs
  have hm := (mem_filterSuites (filterForVersion_sub hf)).1
  have hn13 : tls13Suites.contains s = false := (tls13_eq_version hf).trans (decide_eq_false (by omega))
  simp only [serverFamilies, List.mem_cons, List.not_mem_nil, or_false] at hfam
  -- SRP suites by the table, TLS 1.3 suites are excluded by the version, the rest by definition of the classes
  rcases hfam with rfl | rfl | rfl | rfl | rfl | rfl | rfl | rfl | rfl | rfl
  · rw [srp_families s (List.mem_append_left _ hm)]; rfl
  · rw [srp_families s (List.mem_append_right _ hm)]; rfl
  · rw [List.contains_iff_mem.mpr hm] at hn13; cases hn13
  all_goals simp [isCertKxSuite, isAnonSuite, hm]

theorem noAbort_serverSelect {ss : Settings} {sc : ServerCfg} (o : Offer)
    (h : serverHasCredentials ss sc = true) : NoAbort (serverSelect ss sc o) := by
  unfold serverSelect
  refine noAbort_bind (noAbort_serverVersion ss o) fun v _ => noAbort_bind (noAbort_failIf _ _ _) fun _ _ =>
    noAbort_bind (noAbort_failIf _ _ _) fun _ _ => noAbort_bind (noAbort_serverSuites o v h) fun l hl =>
    noAbort_bind (noAbort_selectCertificate ss sc o l v) fun r hr => ?_
  split
  · exact noAbort_serverSelect13 _ _ _ _ _ _
  · rename_i hv
    exact noAbort_serverSelect12 (selectCertificate_notEd hr)
      (serverSuites_class hl (by omega) r.1 (mem_certUsable_iff.mp (selectCertificate_ok hr).1).1)

theorem noAbort_checkCertChain (st : Settings) (side : Side) (c : Cred) (v : Nat) : NoAbort (checkCertChain st side c v) := by
  simp [checkCertChain]

theorem noAbort_clientCheckHello (cs : Settings) (o : Offer) (sel : Selection) : NoAbort (clientCheckHello cs o sel) := by
  simp [clientCheckHello]

theorem noAbort_clientCheckServerCert (cs : Settings) (sc : ServerCfg) (o : Offer) (sel : Selection) :
    NoAbort (clientCheckServerCert cs sc o sel) := by
  unfold clientCheckServerCert
  split <;> simp [noAbort_checkCertChain]

theorem noAbort_clientSig13 (cs : Settings) (u : Option Cred) (sel : Selection) : NoAbort (clientSig13 cs u sel) := by
  unfold clientSig13
  split
  · simp only [noAbort_ite, noAbort_alert, implies_true, true_and]
    intro _
    split <;> simp
  · simp

theorem noAbort_clientAccept13 (cs : Settings) (cc : ClientCfg) (sc : ServerCfg) (o : Offer) (sel : Selection) :
    NoAbort (clientAccept13 cs cc sc o sel) := by
  simp [clientAccept13, noAbort_clientCheckServerCert, noAbort_clientSig13]

theorem noAbort_clientCheckDhSize (cs : Settings) (sel : Selection) : NoAbort (clientCheckDhSize cs sel) := by
  simp [clientCheckDhSize]

theorem noAbort_clientCheckCertReq (sel : Selection) : NoAbort (clientCheckCertReq sel) := by
  unfold clientCheckCertReq
  split <;> simp

theorem noAbort_clientCheckKex (cs : Settings) (sel : Selection) : NoAbort (clientCheckKex cs sel) := by
  simp [clientCheckKex]

theorem noAbort_clientCheckOwnCert (cs : Settings) (u : Option Cred) (sel : Selection) :
    NoAbort (clientCheckOwnCert cs u sel) := by
  unfold clientCheckOwnCert
  split <;> simp

/-- the two `abort` arms of `clientSig12` are what the two guards of `clientCheckOwnCert` exclude: an EdDSA key signing below
    TLS 1.2 (TypeError), no usable scheme at TLS 1.2 (IndexError on the empty list); `hv` keeps `clientCertVerifySig` out
    of its TLS 1.3 arm, which can return `none` -/
theorem noAbort_clientSig12 {cs : Settings} {u : Option Cred} {sel : Selection}
    (hown : clientCheckOwnCert cs u sel = .ok ()) (hv : sel.version ≤ 3) : NoAbort (clientSig12 cs u sel) := by
  unfold clientSig12
  cases u with
  | none => exact noAbort_ok _
  | some c =>
    cases hcr : sel.certReq with
    | none => exact noAbort_ok _
    | some algs =>
      simp only []
      unfold clientCheckOwnCert at hown
      simp only [failIf_bind_ok, failIf_eq_ok] at hown
      obtain ⟨h1, h2⟩ := hown
      rw [if_neg (by rw [h1]; simp)]
      unfold clientCertVerifySig
      have hge : ¬ sel.version ≥ 4 := by omega
      rw [if_neg hge]
      by_cases h3 : (sel.version == 3) = true
      · rw [if_pos h3]
        simp only [h3, Bool.true_and] at h2
        simp only []
        cases hfm : firstMatching (sigHashesToList cs (some c.keyBits) (some c) 3) algs with
        | some s => exact noAbort_ok _
        | none =>
          simp only []
          cases hl : sigHashesToList cs (some c.keyBits) (some c) 3 with
          | nil => rw [hl] at h2; simp at h2
          | cons a t => exact noAbort_ok _
      · rw [if_neg h3]; exact noAbort_ok _

theorem noAbort_clientAccept12 (cs : Settings) (cc : ClientCfg) (sc : ServerCfg) (o : Offer) (sel : Selection)
    (hv : sel.version ≤ 3) : NoAbort (clientAccept12 cs cc sc o sel) := by
  simp only [clientAccept12, noAbort_bind_iff, noAbort_failIf, noAbort_pure, noAbort_clientCheckServerCert,
    noAbort_clientCheckDhSize, noAbort_clientCheckCertReq, noAbort_clientCheckOwnCert, noAbort_clientCheckKex,
    true_and, implies_true, and_true]
  intros
  exact noAbort_clientSig12 ‹_› hv

theorem noAbort_clientAccept (cs : Settings) (cc : ClientCfg) (sc : ServerCfg) (o : Offer) (sel : Selection) :
    NoAbort (clientAccept cs cc sc o sel) := by
  unfold clientAccept
  refine noAbort_bind (noAbort_clientCheckHello _ _ _) fun _ _ => ?_
  split
  · exact noAbort_clientAccept13 _ _ _ _ _
  · rename_i hv
    exact noAbort_clientAccept12 _ _ _ _ _ (by omega)

theorem noAbort_serverFinish (ss : Settings) (sel : Selection) (p : Params) : NoAbort (serverFinish ss sel p) := by
  unfold serverFinish
  split <;> simp [noAbort_checkCertChain]

theorem negotiate_noAbort (cs ss : Settings) (cc : ClientCfg) (sc : ServerCfg)
    (h : serverHasCredentials ss sc = true) : NoAbort (negotiate cs ss cc sc) := by
  unfold negotiate
  exact noAbort_bind (noAbort_serverSelect _ h) fun sel _ =>
    noAbort_bind (noAbort_clientAccept _ _ _ _ _) fun p _ => noAbort_serverFinish _ _ _

end Tls.Neg
