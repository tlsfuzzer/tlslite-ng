import TlsProofs.RecordAuth
/- What the per-path accept theorems (property C02) share: the items the receiver presents to the
   primitive, "verified and logged ⇒ the sender's record, else forgery" for MAC and AEAD,
   `decAead` read backwards (`decAead_ok12`, `decAead_ok13`), and the TLS 1.3 sender in the shape the
   trace wants (`send13`, `log13`). -/
namespace Tls.Rec
open Tls.CT

/-- the MAC input pins sequence number, type and authenticated bytes, so a tag that verifies at position `k`
    is entry `k` of the sender's log or a forgery (`f`: the bytes the sender authenticates, plaintext or ciphertext) -/
theorem mac_next_or_forgery {S} (P : Prims S) (c : Cfg) (send : St S → UInt8 → Bytes → St S × Bytes)
    (hseq : ∀ s t p, (send s t p).1.seq = s.seq + 1) (f : St S × UInt8 × Bytes → Bytes)
    (s0 : St S) (sent : List (UInt8 × Bytes)) (k : Nat) (rst : St S)
    (hk : rst.seq = s0.seq + k) (hb : s0.seq + sent.length < 2 ^ 64) (hkn : k ≤ sent.length)
    (t : UInt8) (d tag : Bytes) (hdig : P.mac.digest (macInput rst.seq t c d) = tag) :
    (∃ h : k < sent.length, sent[k].1 = t ∧ f (runState send s0 (sent.take k), sent[k].1, sent[k].2) = d) ∨
      MacForgery P ((trace send s0 sent).map fun x => macInput x.1.seq x.2.1 c (f x)) (macInput rst.seq t c d) tag := by
  by_cases hin : macInput rst.seq t c d ∈ (trace send s0 sent).map fun x => macInput x.1.seq x.2.1 c (f x)
  · left
    obtain ⟨j, hj, heq, hsj⟩ := log_index send hseq _ s0 sent _ hin
    simp only at heq
    obtain ⟨h1, h2, h3⟩ := macInput_inj c _ _ _ _ _ _ (by omega) (by omega) heq
    obtain rfl : j = k := by omega
    exact ⟨hj, h2.symm, h3.symm⟩
  · exact Or.inr ⟨hdig, hin⟩

def presentedTagStream {S} (P : Prims S) (u : Bool) (rst : St S) (body : Bytes) : Bytes :=
  let d := if u then (P.dec rst.cs body).2 else body
  (d.drop (d.length - P.mac.dlen)).take P.mac.dlen

def cbcData {S} (P : Prims S) (c : Cfg) (rst : St S) (body : Bytes) : Bytes :=
  if c.verGe 3 2 then (P.dec rst.cs body).2.drop P.bs else (P.dec rst.cs body).2

def presentedTagCbc {S} (P : Prims S) (c : Cfg) (rst : St S) (body : Bytes) : Bytes :=
  ((cbcData P c rst body).drop (stripPadMac P.mac (cbcData P c rst body)).length).take P.mac.dlen

def presented12 {S} (P : Prims S) (c : Cfg) (rst : St S) (h : Rec) : Bytes × Bytes × Bytes :=
  let n := if c.explicitNonce then c.fixedNonce ++ h.body.take 8 else nonce c rst.seq
  let ct := if c.explicitNonce then h.body.drop 8 else h.body
  (n, aad12 rst.seq h.typ c.vmaj c.vmin (ct.length - P.tagLen), ct)

/-- what opens is what the sender sealed in some record `j`, or a forgery
    (`A`, `pl`: additional data and plaintext of a record) -/
theorem aead_logged_or_forgery {S} (P : Prims S) (ha : AeadLaw P) (c : Cfg)
    (send : St S → UInt8 → Bytes → St S × Bytes) (hseq : ∀ s t p, (send s t p).1.seq = s.seq + 1)
    (A pl : St S × UInt8 × Bytes → Bytes) (s0 : St S) (sent : List (UInt8 × Bytes))
    (n a ct q : Bytes) (hop : P.aeadOpen n ct a = some q) :
    (∃ j, ∃ hj : j < sent.length,
        n = nonce c (s0.seq + j) ∧ a = A (runState send s0 (sent.take j), sent[j].1, sent[j].2) ∧
        q = pl (runState send s0 (sent.take j), sent[j].1, sent[j].2) ∧ ct = P.aeadSeal n q a ∧
        (runState send s0 (sent.take j)).seq = s0.seq + j) ∨
      AeadForgery P ((trace send s0 sent).map fun x =>
        (nonce c x.1.seq, A x, P.aeadSeal (nonce c x.1.seq) (pl x) (A x))) n a ct := by
  by_cases hin : (n, a, ct) ∈ (trace send s0 sent).map fun x =>
      (nonce c x.1.seq, A x, P.aeadSeal (nonce c x.1.seq) (pl x) (A x))
  · left
    obtain ⟨j, hj, heq, hsj⟩ := log_index send hseq _ s0 sent _ hin
    simp only [Prod.mk.injEq] at heq
    obtain ⟨e1, e2, e3⟩ := heq
    have hq := ha.open_seal n (pl (runState send s0 (sent.take j), sent[j].1, sent[j].2)) a
    rw [← e1, ← e2] at e3
    rw [← e3, hop] at hq
    cases hq
    exact ⟨j, hj, hsj ▸ e1, e2, rfl, e3, hsj⟩
  · exact Or.inr ⟨by rw [hop]; rfl, hin⟩

theorem decAead_ok12 {S} {P : Prims S} {c : Cfg} (h13 : c.is13 = false) {st st' : St S} {h : Rec} {p : Bytes}
    (hd : decAead P c st h = .ok (st', p)) :
    (c.explicitNonce = true → 8 ≤ h.body.length) ∧
    P.aeadOpen (presented12 P c st h).1 (presented12 P c st h).2.2 (presented12 P c st h).2.1 = some p := by
  unfold decAead at hd
  simp only [h13, Bool.not_false, if_true] at hd
  by_cases h8 : (c.explicitNonce && decide (8 > h.body.length)) = true
  · simp [h8] at hd
  by_cases htl : P.tagLen > (if c.explicitNonce = true then h.body.drop 8 else h.body).length
  · simp [h8, htl] at hd
  simp only [h8, htl, Bool.false_eq_true, if_false] at hd
  split at hd
  · cases hd
  rename_i hop
  cases hd
  exact ⟨fun he => by simpa [he] using h8, hop⟩

/-- close a goal whose hypothesis `recvRecord … = .ok …` has been reduced to an error/skip branch -/
macro "absurd_recv" h:ident : tactic =>
  `(tactic| first
      | (simp at $h:ident; done)
      | (simp at $h:ident; split at $h:ident <;> simp at $h:ident; done)
      | (split at $h:ident <;> simp at $h:ident; done))

theorem decAead_ok13 {S} {P : Prims S} {c : Cfg} (h13 : c.is13 = true) {st st' : St S} {h : Rec} {data : Bytes}
    (hd : decAead P c st h = .ok (st', data)) :
    h.typ = 23 ∧ P.aeadOpen (nonce c st.seq) h.body (aad13 23 3 3 h.body.length) = some data := by
  unfold decAead at hd
  simp only [Cfg.explicitNonce_of_is13 h13, h13, Bool.false_and, Bool.false_eq_true, if_false, Bool.not_true] at hd
  split at hd
  · cases hd
  split at hd
  · cases hd
  split at hd
  · cases hd
  rename_i htyp hver
  have htyp : h.typ = 23 := by simpa using htyp
  have hver : h.vmaj = 3 ∧ h.vmin = 3 := by simpa using hver
  rw [htyp, hver.1, hver.2] at hd
  split at hd
  · cases hd
  · rename_i hop
    cases hd
    exact ⟨htyp, hop⟩

/-- the TLS 1.3 sender as a function of (type, fragment), the argument `trace` and `log_index` take -/
def send13 {S} (P : Prims S) (c : Cfg) (padCb : Option PadCb) (sendLimit : Nat) :
    St S → UInt8 → Bytes → St S × Bytes :=
  fun s t p => protAead P c s 23 (innerPlain padCb sendLimit t p)

/-- what `send13` seals, record by record: (nonce, additional data, sealed inner plaintext) -/
def log13 {S} (P : Prims S) (c : Cfg) (padCb : Option PadCb) (sendLimit : Nat)
    (tr : List (St S × UInt8 × Bytes)) : List (Bytes × Bytes × Bytes) :=
  tr.map fun x =>
    (nonce c x.1.seq, aad13 23 3 3 ((innerPlain padCb sendLimit x.2.1 x.2.2).length + P.tagLen),
     P.aeadSeal (nonce c x.1.seq) (innerPlain padCb sendLimit x.2.1 x.2.2)
       (aad13 23 3 3 ((innerPlain padCb sendLimit x.2.1 x.2.2).length + P.tagLen)))

theorem send13_body {S} (P : Prims S) (c : Cfg) (h13 : c.is13 = true) (padCb : Option PadCb) (sendLimit : Nat)
    (s : St S) (t : UInt8) (p : Bytes) :
    (send13 P c padCb sendLimit s t p).2 =
      P.aeadSeal (nonce c s.seq) (innerPlain padCb sendLimit t p)
        (aad13 23 3 3 ((innerPlain padCb sendLimit t p).length + P.tagLen)) := by
  unfold send13 protAead
  simp [h13, Cfg.explicitNonce_of_is13 h13, Cfg.recVer_of_is13 h13]

end Tls.Rec
