import TlsModel.Suites
/-
  The statements of C20 are decided by kernel evaluation over the generated tables.  What costs there is parsing a
  registered name (`semOf s`) and scanning a classification list (`isIn s l`), and the kernel remembers the value of
  such a closed term only within one declaration.  So what the theorems evaluate stands in ONE declaration,
  `tables_checked`, spelt over the same terms throughout so that each is computed once (Props/C20.lean evaluates two
  more facts where they stand; its head comment names them).  Its conjuncts are propositions with a name and a
  `Decidable` instance of their own because the instance search gives up on the conjunction written out; a named
  conjunct is one search.  Everything else is derived from `tables_checked`.
-/
namespace Tls.Suites
open Tls.Gen.Suites Tls.Gen.KexChains

theorem Obs.agree_iff (a b : Obs) : a.agree b = true ↔ a = b := by
  cases a; cases b
  simp only [Obs.agree, Bool.and_eq_true, beq_iff_eq, Obs.mk.injEq, and_assoc]

theorem Obs.optAgree_sound {x y : Option Obs} (h : Obs.optAgree x y = true) : y.isSome = true ∧ x = y := by
  cases x <;> cases y <;> simp [Obs.optAgree] at h ⊢
  exact (Obs.agree_iff _ _).mp h

theorem isIn_iff {s : Nat} {l : List Nat} : isIn s l = true ↔ s ∈ l := by
  induction l with
  | nil => simp [isIn]
  | cons x xs ih => rw [isIn, Bool.or_eq_true, ih, Nat.beq_eq, List.mem_cons, eq_comm]

theorem isIn_filter_eq (s : Nat) (l : List Nat) (p : Nat → Bool) :
    isIn s (l.filter p) = (isIn s l && p s) := by
  rw [Bool.eq_iff_iff]
  simp [isIn_iff, List.mem_filter]

theorem isIn_flatMap {α} (s : Nat) (l : List α) (f : α → List Nat) :
    isIn s (l.flatMap f) = l.any fun a => isIn s (f a) := by
  rw [Bool.eq_iff_iff]
  simp [isIn_iff, List.mem_flatMap]

theorem isIn_filter {s : Nat} {l : List Nat} {p : Nat → Bool} (h : isIn s (l.filter p) = true) :
    p s = true := by
  rw [isIn_filter_eq, Bool.and_eq_true] at h
  exact h.2

theorem isIn_singleton_filter {s : Nat} {p : Nat → Bool} (h : isIn s ([s].filter p) = true) : p s = true :=
  isIn_filter h

theorem versionIncludes_mem {mn mx : Ver} {s : Nat} (h : versionIncludes mn mx s = true) :
    s ∈ ssl3Suites ++ tls12Suites ++ tls13Suites := by
  simp only [versionIncludes, Bool.or_eq_true, Bool.and_eq_true, isIn_iff] at h
  simp only [List.mem_append]
  rcases h with (h | h) | h
  · exact Or.inl (Or.inl h.2)
  · exact Or.inl (Or.inr h.2)
  · exact Or.inr h.2

theorem mem_filterForVersion_self {s : Nat} {v : Ver} :
    s ∈ filterForVersion [s] v v ↔ versionIncludes v v s = true := by
  simp [filterForVersion]

theorem isIn_filterForVersion_self (s : Nat) (v : Ver) :
    isIn s (filterForVersion [s] v v) = versionIncludes v v s := by
  simp [filterForVersion, isIn_filter_eq, isIn]

/-- one direction only (its siblings `mem_…` are iffs): the other is not used -/
theorem mem_getter {g : Getter} {ms : List MName} {cs : List CName} {ks : List KName} {v : Ver} {s : Nat}
    (h : s ∈ getter g ms cs ks v) :
    s ∈ g.base ∧ macAdmits ms v s = true ∧ cipherAdmits cs v s = true ∧ kexAdmits ks v s = true := by
  simpa [getter, filterSuites, and_assoc] using h

/-- `_filterSuites` tests each suite on its own, so "some selector returns `s`" is "some selector's
    list holds `s`, and `s` passes the three settings filters" -/
theorem any_isIn_getter (ms : List MName) (cs : List CName) (ks : List KName) (v : Ver) (s : Nat) :
    (Getter.all.any fun g => isIn s (getter g ms cs ks v)) =
      ((Getter.all.any fun g => isIn s g.base) &&
        (macAdmits ms v s && cipherAdmits cs v s && kexAdmits ks v s)) := by
  simp only [getter, filterSuites, isIn_filter_eq, ← List.and_any_distrib_right]

/-- `selectableIn`, asked of the suite first (`any_isIn_getter`) -/
def selectableR (v : Ver) (s : Nat) : Bool :=
  (Getter.all.any fun g => isIn s g.base) &&
    (macAdmits fullMac v s && cipherAdmits fullCipher v s && kexAdmits fullKex v s)

theorem selectableIn_eq (v : Ver) (s : Nat) : selectableIn v s = selectableR v s :=
  any_isIn_getter fullMac fullCipher fullKex v s

theorem resumeSuiteOk_eq (ms : List MName) (cs : List CName) (ks : List KName) (v : Ver) (s : Nat) :
    resumeSuiteOk ms cs ks v s =
      ((Getter.all.any fun g => isIn s g.base) &&
        (macAdmits ms v s && cipherAdmits cs v s && kexAdmits ks v s) && versionIncludes v v s) := by
  rw [resumeSuiteOk, filterForVersion, isIn_filter_eq, isIn_flatMap, any_isIn_getter]

theorem negotiable_eq (r : Role) (v : Ver) (s : Nat) :
    negotiable r v s =
      ((match r with
        | .client => allVersions.any fun mv => Ver.le v mv && selectableIn mv s
        | .server => selectableIn v s) && versionIncludes v v s) := by
  cases r <;> simp only [negotiable, clientNegotiable, serverNegotiable, isIn_filterForVersion_self]

theorem mem_negotiableTriples {s : Nat} {v : Ver} {r : Role} :
    (s, v, r) ∈ negotiableTriples ↔ s ∈ allIds ∧ v ∈ allVersions ∧ negotiable r v s = true := by
  simp only [negotiableTriples, negotiableAt, List.mem_flatMap, List.mem_map, List.mem_filter,
    Prod.mk.injEq]
  constructor
  · rintro ⟨_, _, _, hv, _, hs, rfl, rfl, rfl⟩
    exact ⟨hs.1, hv, hs.2⟩
  · rintro ⟨hs, hv, hn⟩
    exact ⟨r, by cases r <;> simp, v, hv, s, ⟨hs, hn⟩, rfl, rfl, rfl⟩

/-- the classification list a settings name stands for in `_filterSuites` (likewise `cipherList`, `kexList`;
    "aes192" stands for none: `cipherAdmits`, like `_filterSuites`, has no test for it) -/
def macList : MName → List Nat
  | .sha => shaSuites | .sha256 => sha256Suites | .sha384 => sha384Suites | .md5 => md5Suites
  | .aead => aeadSuites

def cipherList : CName → List Nat
  | .chacha20 => chacha20Suites | .chacha20draft00 => chacha20draft00Suites
  | .aes128gcm => aes128GcmSuites | .aes256gcm => aes256GcmSuites | .aes128ccm => aes128CcmSuites
  | .aes128ccm_8 => aes128Ccm_8Suites | .aes256ccm => aes256CcmSuites
  | .aes256ccm_8 => aes256Ccm_8Suites | .aes128 => aes128Suites | .aes192 => []
  | .aes256 => aes256Suites | .tdes => tripleDESSuites | .rc4 => rc4Suites | .null => nullSuites

def kexList : KName → List Nat
  | .rsa => certSuites | .dhe_rsa => dheCertSuites | .dhe_dsa => dheDsaSuites
  | .ecdhe_rsa => ecdheCertSuites | .ecdhe_ecdsa => ecdheEcdsaSuites | .srp_sha => srpSuites
  | .srp_sha_rsa => srpCertSuites | .dh_anon => anonSuites | .ecdh_anon => ecdhAnonSuites

theorem macAdmits_list {ms : List MName} {v : Ver} {s : Nat} (h : macAdmits ms v s = true) :
    ∃ m ∈ ms, s ∈ macList m := by
  simp only [macAdmits, Bool.or_eq_true, Bool.and_eq_true, List.contains_iff_mem, isIn_iff,
    or_assoc, and_assoc] at h
  rcases h with ⟨hm, hs⟩ | ⟨hm, -, hs⟩ | ⟨hm, -, hs⟩ | ⟨hm, hs⟩ | ⟨hm, -, hs⟩ <;> exact ⟨_, hm, hs⟩

theorem cipherAdmits_list {cs : List CName} {v : Ver} {s : Nat} (h : cipherAdmits cs v s = true) :
    ∃ c ∈ cs, s ∈ cipherList c := by
  simp only [cipherAdmits, Bool.or_eq_true, Bool.and_eq_true, List.contains_iff_mem, isIn_iff,
    or_assoc, and_assoc] at h
  rcases h with ⟨hc, -, hs⟩ | ⟨hc, -, hs⟩ | ⟨hc, -, hs⟩ | ⟨hc, -, hs⟩ | ⟨hc, -, hs⟩ | ⟨hc, -, hs⟩ |
    ⟨hc, -, hs⟩ | ⟨hc, -, hs⟩ | ⟨hc, hs⟩ | ⟨hc, hs⟩ | ⟨hc, hs⟩ | ⟨hc, hs⟩ | ⟨hc, hs⟩ <;>
    exact ⟨_, hc, hs⟩

theorem kexAdmits_list {ks : List KName} {v : Ver} {s : Nat} (h : kexAdmits ks v s = true) :
    s ∈ tls13Suites ∨ ∃ k ∈ ks, s ∈ kexList k := by
  simp only [kexAdmits, Bool.or_eq_true, Bool.and_eq_true, List.contains_iff_mem, isIn_iff,
    or_assoc] at h
  rcases h with ⟨-, hs⟩ | h
  · exact Or.inl hs
  · right
    rcases h with ⟨hk, hs⟩ | ⟨hk, hs⟩ | ⟨hk, hs⟩ | ⟨hk, hs⟩ | ⟨hk, hs⟩ | ⟨hk, hs⟩ | ⟨hk, hs⟩ |
      ⟨hk, hs⟩ | ⟨hk, hs⟩ <;> exact ⟨_, hk, hs⟩

/-- Every member of the list behind a settings name has a registered name denoting that MAC class,
    cipher or key exchange (TLS 1.3 suites: no key-exchange name), and every member of a version list
    one that defines it for each version the list admits it to. -/
def ListsDenote : Prop :=
    (∀ m ∈ MName.all, ∀ s ∈ macList m, (semOf s).all (specMacClass · == m) = true) ∧
    (∀ c ∈ CName.all, ∀ s ∈ cipherList c, (semOf s).all (specCipherName · == some c) = true) ∧
    (∀ k ∈ KName.all, ∀ s ∈ kexList k, (semOf s).all (specKexName · == some k) = true) ∧
    (∀ s ∈ tls13Suites, (semOf s).all (specKexName · == none) = true) ∧
    (∀ s ∈ ssl3Suites ++ tls12Suites ++ tls13Suites, ∀ v ∈ allVersions,
      versionIncludes v v s = true → ∃ sem, semOf s = some sem ∧ sem.definedIn v = true)

/-- In every version whose filter it passes the code does with `s`, in both roles, what the name of
    `s` says. -/
def ObsAgree (s : Nat) : Prop :=
  ∀ v ∈ allVersions, versionIncludes v v s = true → ∀ r ∈ [Role.client, Role.server],
    Obs.optAgree (modelObs s v r) (specObsOf s v) = true

/-- `s` passes the filter of, and is selectable in, every version its name defines it for. -/
def VersionsExact (s : Nat) : Prop :=
  ∀ v ∈ allVersions, (semOf s).any (·.definedIn v) = true →
    versionIncludes v v s = true ∧ selectableR v s = true

/-- `s` is classified once by each family of lists, the derived lists being the unions they are
    documented to be. -/
def Partitioned (s : Nat) : Prop :=
    (classCount cipherLists s = 1 ∧ classCount macLists s = 1 ∧ classCount kexLists s = 1 ∧
      classCount versionLists s = 1 ∧
      classCount prfLists s = (if isIn s ssl3Suites then 0 else 1)) ∧
    (isIn s aeadSuites = (isIn s aes128GcmSuites || isIn s aes256GcmSuites || isIn s aes128CcmSuites
       || isIn s aes128Ccm_8Suites || isIn s aes256CcmSuites || isIn s aes256Ccm_8Suites
       || isIn s chacha20Suites || isIn s chacha20draft00Suites)) ∧
    (isIn s streamSuites = (isIn s rc4Suites || isIn s nullSuites)) ∧
    (isIn s srpAllSuites = (isIn s srpSuites || isIn s srpCertSuites)) ∧
    (isIn s certAllSuites = (isIn s srpCertSuites || isIn s certSuites || isIn s dheCertSuites
       || isIn s ecdheCertSuites)) ∧
    (isIn s dhAllSuites = (isIn s dheCertSuites || isIn s anonSuites || isIn s dheDsaSuites)) ∧
    (isIn s ecdhAllSuites = (isIn s ecdheEcdsaSuites || isIn s ecdheCertSuites || isIn s ecdhAnonSuites))

/-- What the generated key-exchange chains do with a suite of TLS ≤ 1.2, against its name: the
    key-exchange family each role's chain selects; that neither chain falls through, the client's
    final `else` being RSA key transport exactly; that the two roles pick the same class up to the
    anonymous counterparts; and the Certificate / ServerKeyExchange expectations. -/
def ChainFacts (s : Nat) : Prop :=
    (∀ r ∈ [Role.client, Role.server],
      (chainKex r s).isSome = true ∧ chainKex r s = (semOf s).map (·.kex)) ∧
    (((serverKexChain.eval s).bind id).isSome = true ∧
      (clientKexClass s).isSome = true ∧
      (clientKexClass s = some .RSAKeyExchange ↔ (semOf s).map (·.kex) = some Kex.rsa)) ∧
    (chainKex .client s = chainKex .server s ∧ (chainKex .client s).isSome = true ∧
      ((serverKexClass s).map (·.1) = clientKexClass s ∨
        ((semOf s).map (·.auth) = some Auth.anon ∧
          ((clientKexClass s, (serverKexClass s).map (·.1)) = (some .DHE_RSAKeyExchange, some .ADHKeyExchange) ∨
           (clientKexClass s, (serverKexClass s).map (·.1)) = (some .ECDHE_RSAKeyExchange, some .AECDHKeyExchange))))) ∧
    (clientExpectsCertificate s = (semOf s).map specCertified ∧
      clientChecksChain s = (semOf s).map specCertified ∧
      clientExpectsSKE s = (semOf s).map specSke ∧
      (serverKexClass s).map (·.2) = (semOf s).map specCertified ∧
      serverRecordsChain s = (semOf s).map specCertified ∧
      (semOf s).isSome = true)

instance : Decidable ListsDenote := by unfold ListsDenote; infer_instance
instance (s : Nat) : Decidable (ObsAgree s) := by unfold ObsAgree; infer_instance
instance (s : Nat) : Decidable (VersionsExact s) := by unfold VersionsExact; infer_instance
instance (s : Nat) : Decidable (Partitioned s) := by unfold Partitioned; infer_instance
instance (s : Nat) : Decidable (ChainFacts s) := by unfold ChainFacts; infer_instance

/-- The last two conjuncts tie the model's selectors to the real selectors' outputs: the suites some selector
    returns, and the whole output table. -/
theorem tables_checked :
    (∀ s ∈ selectorUnion,
      ObsAgree s ∧ VersionsExact s ∧ Partitioned s ∧ (isIn s tls13Suites = false → ChainFacts s)) ∧
    ListsDenote ∧
    (allIds.filter fun s => allVersions.any fun v => selectableR v s) = selectorUnion ∧
    selectorOut = Getter.all.flatMap fun g => [0, 1, 2, 3, 4].map fun m =>
      (g.str, m, getter g fullMac fullCipher fullKex (3, m)) := by
  decide +kernel

theorem lists_denote_names : ListsDenote := tables_checked.2.1

theorem modelSelectorUnion_eq : modelSelectorUnion = selectorUnion := by
  simp only [modelSelectorUnion, selectableIn_eq]
  exact tables_checked.2.2.1

theorem negotiableTriples_selectable {s : Nat} {v : Ver} {r : Role} (h : (s, v, r) ∈ negotiableTriples) :
    s ∈ selectorUnion ∧ v ∈ allVersions ∧ versionIncludes v v s = true := by
  obtain ⟨hs, hv, hn⟩ := mem_negotiableTriples.mp h
  rw [negotiable_eq, Bool.and_eq_true] at hn
  refine ⟨?_, hv, hn.2⟩
  have hsel : ∃ mv ∈ allVersions, selectableIn mv s = true := by
    cases r
    · obtain ⟨mv, hmv, h⟩ := List.any_eq_true.mp hn.1
      rw [Bool.and_eq_true] at h
      exact ⟨mv, hmv, h.2⟩
    · exact ⟨v, hv, hn.1⟩
  rw [← modelSelectorUnion_eq]
  exact List.mem_filter.mpr ⟨hs, List.any_eq_true.mpr hsel⟩

theorem versionIncludes_definedIn {s : Nat} {v : Ver} (hv : v ∈ allVersions)
    (h : versionIncludes v v s = true) : ∃ sem, semOf s = some sem ∧ sem.definedIn v = true :=
  lists_denote_names.2.2.2.2 s (versionIncludes_mem h) v hv h

theorem MName.mem_all (m : MName) : m ∈ MName.all := by cases m <;> decide
theorem CName.mem_all (c : CName) : c ∈ CName.all := by cases c <;> decide
theorem KName.mem_all (k : KName) : k ∈ KName.all := by cases k <;> decide

theorem getter_respects_settings {g : Getter} {ms : List MName} {cs : List CName} {ks : List KName}
    {v : Ver} {s : Nat} {sem : SuiteSem} (hs : s ∈ getter g ms cs ks v) (hsem : semOf s = some sem) :
    specMacClass sem ∈ ms ∧ (∀ c, specCipherName sem = some c → c ∈ cs) ∧
      (∀ k, specKexName sem = some k → k ∈ ks) := by
  obtain ⟨-, hm, hc, hk⟩ := mem_getter hs
  obtain ⟨hmac, hcipher, hkex, h13, -⟩ := lists_denote_names
  refine ⟨?_, fun c hc' => ?_, fun k hk' => ?_⟩
  · obtain ⟨m, hm, hs⟩ := macAdmits_list hm
    have := hmac m m.mem_all s hs
    rw [hsem, Option.all_some, beq_iff_eq] at this
    exact this ▸ hm
  · obtain ⟨c', hc, hs⟩ := cipherAdmits_list hc
    have := hcipher c' c'.mem_all s hs
    rw [hsem, Option.all_some, beq_iff_eq, hc', Option.some_inj] at this
    exact this ▸ hc
  · rcases kexAdmits_list hk with hs | ⟨k', hk, hs⟩
    · have := h13 s hs
      rw [hsem, Option.all_some, beq_iff_eq, hk'] at this
      cases this
    · have := hkex k' k'.mem_all s hs
      rw [hsem, Option.all_some, beq_iff_eq, hk', Option.some_inj] at this
      exact this ▸ hk

theorem Ver.le_refl (v : Ver) : Ver.le v v = true := by simp [Ver.le]

/-- a suite selectable in `v` and passing the filter of `v` is negotiable in `v` by the server, and by
    the client that offers `v` as its highest version -/
theorem negotiable_of_selectable {s : Nat} {v : Ver} (hv : v ∈ allVersions)
    (hsel : selectableR v s = true) (hinc : versionIncludes v v s = true) (r : Role) :
    negotiable r v s = true := by
  rw [negotiable_eq, hinc, Bool.and_true]
  cases r
  · exact List.any_eq_true.mpr ⟨v, hv, by rw [Ver.le_refl, selectableIn_eq, hsel]; rfl⟩
  · rw [selectableIn_eq, hsel]

theorem negotiable_of_definedIn {s : Nat} {v : Ver} (hs : s ∈ selectorUnion) (hv : v ∈ allVersions)
    (h : (semOf s).any (·.definedIn v) = true) :
    versionIncludes v v s = true ∧ ∀ r ∈ [Role.client, Role.server], negotiable r v s = true :=
  have ⟨hinc, hsel⟩ := (tables_checked.1 s hs).2.1 v hv h
  ⟨hinc, fun r _ => negotiable_of_selectable hv hsel hinc r⟩

end Tls.Suites
