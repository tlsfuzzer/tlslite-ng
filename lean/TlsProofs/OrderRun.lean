import TlsProofs.Order
/-
  C06: facts about one step of the automaton and the link between the observable run
  (`feed`, `hsRun`, epochs, fragments, alignment) and the kind-level run `hsRunK`.
-/
namespace Tls.Order

theorem stepK_noPlus (c : Cfg) (s : St) (n : Nat) (k : MsgKind) : stepK c s n k false = stepK0 c s n k := by
  simp [stepK]

/-- `plus` can only turn an accepted message into an `unexpected_message` abort (by `_getMsg`, or by the flow for
    the first hello) -/
theorem stepK_plus (c : Cfg) (s : St) (n : Nat) (k : MsgKind) (p : Bool) :
    stepK c s n k p = stepK0 c s n k ∨ stepK c s n k p = .abort .unexpected_message ∨
    (stepK c s n k p = .acceptAbort .unexpected_message ∧ firstHello c s k = true) := by
  fun_cases stepK c s n k p
  · exact Or.inr (Or.inl rfl)
  · exact Or.inr (Or.inr ⟨rfl, by simp_all⟩)
  · exact Or.inl rfl

def stepPost (c : Cfg) (s : St) (n : Nat) (k : MsgKind) : PostOut :=
  match s with
  | .phaWaitCV => stepPha c true k
  | .phaWaitFin => stepPha c false k
  | .closing => stepClosing c k
  | _ => stepDone c n k

theorem St.isPost_cases {s : St} (h : s.isPost = true) :
    s = .done ∨ s = .phaWaitCV ∨ s = .phaWaitFin ∨ s = .closing := by
  cases s <;> first | contradiction | simp

theorem stepK0_post (c : Cfg) (s : St) (n : Nat) (k : MsgKind) (hp : s.isPost = true) :
    stepK0 c s n k = (stepPost c s n k).toOut := by
  rcases St.isPost_cases hp with rfl | rfl | rfl | rfl <;> rfl

theorem stepK0_pre (c : Cfg) (s : St) (n : Nat) (k : MsgKind) (hp : s.isPost = false) (hd : s ≠ .dead) :
    stepK0 c s n k = (stepHs c s k).toOut := by
  cases s <;> first | contradiction | rfl

theorem stepHs_closed (c : Cfg) (s : St) (k : MsgKind)
    (h : stepHs c s k = .peerClosed ∨ stepHs c s k = .acceptClosed) : k.isAlert = true := by
  revert h
  fun_cases stepHs c s k <;> simp_all

theorem stepHs_app_data (c : Cfg) (s : St) : stepHs c s .app_data = .abort .unexpected_message := by
  simp [stepHs, MsgKind.isAlert]

/-- `_middlebox_compat_mode` is off on an established connection: a ChangeCipherSpec is never dropped -/
theorem stepPost_ccs (c : Cfg) (s : St) (n : Nat) : stepPost c s n .ccs = .abort .unexpected_message := by
  unfold stepPost; split <;> rfl

/-- what `HsOut` lacks: before completion `_getMsg` never delivers data, processes a post-handshake message, starts
    an authentication flight or answers with a warning -/
theorem stepK0_hsOut (c : Cfg) (s : St) (n : Nat) (k : MsgKind) (hp : s.isPost = false) :
    ∃ o : HsOut, stepK0 c s n k = o.toOut := by
  by_cases hd : s = .dead
  · exact ⟨.abort .unexpected_message, by rw [hd]; rfl⟩
  · exact ⟨_, stepK0_pre c s n k hp hd⟩

theorem stepK0_outstanding (c : Cfg) (s : St) (n : Nat) (k : MsgKind) (hp : s.isPost = false) :
    stepK0 c s n k = stepK0 c s 0 k := by
  cases s <;> first | contradiction | rfl

def Msg.isHead (m : Msg) : Bool := m.part == .head && m.kind.isHandshake

/-- a complete message goes through `_getMsg` (a handshake message with its `plus`, the defragmenter holding nothing
    but its head; an expected ChangeCipherSpec only while nothing is buffered), a head is buffered, or the record
    layer / the defragmenter ends the connection -/
theorem step_shape (c : Cfg) (r : Run) (m : Msg) :
    (step c r m = stepK c r.st r.outstanding m.kind (m.plus && m.kind.isHandshake) ∧ m.isHead = false ∧
      (m.kind.isHandshake = true → r.pending = none ∨ (m.part = .tail ∧ r.pending = some m.kind)) ∧
      (m.kind = .ccs → expectsCCS c r.st = true → r.pending = none)) ∨
    (step c r m = .buffer m.kind ∧ m.isHead = true) ∨
    (∃ a, step c r m = .abort a) ∨
    (step c r m = .acceptAbort .unexpected_message ∧ m.kind = .ccs ∧ r.pending.isSome = true ∧
      expectsCCS c r.st = true) := by
  fun_cases step c r m <;> simp_all [Msg.isHead]
  -- left: the tail of the buffered message, and a record that is not handshake; in both the clause on
  -- an expected ChangeCipherSpec is still open
  · next hh _ _ => exact Or.inl fun e => by rw [e] at hh; cases hh
  · next h => exact Or.inl fun hk hx => by cases hp : r.pending <;> simp_all

/-- `step_shape` with `plus` resolved by `stepK_plus` -/
theorem step_cases (c : Cfg) (r : Run) (m : Msg) :
    (step c r m = stepK0 c r.st r.outstanding m.kind ∧ m.isHead = false) ∨
    (step c r m = .buffer m.kind ∧ m.isHead = true) ∨
    (∃ a, step c r m = .abort a) ∨ (∃ a, step c r m = .acceptAbort a) := by
  rcases step_shape c r m with ⟨hs, hnh, _⟩ | h | h | ⟨hs, _⟩
  · rcases stepK_plus c r.st r.outstanding m.kind (m.plus && m.kind.isHandshake) with h | h | ⟨h, _⟩
    · exact Or.inl ⟨hs.trans h, hnh⟩
    · exact Or.inr (Or.inr (Or.inl ⟨_, hs.trans h⟩))
    · exact Or.inr (Or.inr (Or.inr ⟨_, hs.trans h⟩))
  · exact Or.inr (Or.inl h)
  · exact Or.inr (Or.inr (Or.inl h))
  · exact Or.inr (Or.inr (Or.inr ⟨_, hs⟩))

theorem step_record (c : Cfg) (r : Run) (m : Msg) (h : m.kind.isHandshake = false) :
    step c r m = stepK0 c r.st r.outstanding m.kind ∨ (∃ a, step c r m = .abort a) ∨
    (step c r m = .acceptAbort .unexpected_message ∧ m.kind = .ccs ∧ expectsCCS c r.st = true) := by
  rcases step_shape c r m with ⟨hs, _⟩ | ⟨_, hh⟩ | ⟨a, hs⟩ | ⟨hs, hk, _, hx⟩
  · rw [h, Bool.and_false, stepK_noPlus] at hs; exact Or.inl hs
  · simp [Msg.isHead, h] at hh
  · exact Or.inr (Or.inl ⟨a, hs⟩)
  · exact Or.inr (Or.inr ⟨hs, hk, hx⟩)

theorem step_hsOut (c : Cfg) (r : Run) (m : Msg) (hp : r.st.isPost = false) :
    (∃ o : HsOut, step c r m = o.toOut) ∨ step c r m = .buffer m.kind := by
  rcases step_cases c r m with ⟨h, _⟩ | ⟨h, _⟩ | ⟨a, h⟩ | ⟨a, h⟩
  · rw [h]; exact Or.inl (stepK0_hsOut c r.st r.outstanding m.kind hp)
  · exact Or.inr h
  · exact Or.inl ⟨.abort a, h⟩
  · exact Or.inl ⟨.acceptAbort a, h⟩

def Out.target (o : Out) (cur : St) : St :=
  match o with
  | .next s _ => s
  | .phaStart s => s
  | .acceptAbort _ | .abort _ | .peerClosed | .acceptClosed => .dead
  | _ => cur

theorem apply_st (r : Run) (o : Out) : (apply r o).st = o.target r.st := by
  cases o <;> simp [apply, Out.target]
  split <;> rfl

theorem prep_fields (c : Cfg) (r : Run) (m : Msg) :
    let q := clearPending (countRecord c r m) m
    q.st = r.st ∧ q.hsDone = r.hsDone ∧ q.delivered = r.delivered ∧ q.closed = r.closed ∧
    q.alert = r.alert ∧ q.accAtDone = r.accAtDone ∧ q.epoch = r.epoch ∧ q.acc = r.acc ∧
    q.warns = r.warns ∧ q.outstanding = r.outstanding ∧
    q.pending = if (m.part == .tail && m.kind.isHandshake) then none else r.pending := by
  unfold clearPending countRecord; split <;> split <;> simp_all

theorem feed_st (c : Cfg) (r : Run) (m : Msg) (h : r.st ≠ .dead) :
    (feed c r m).st = (step c r m).target r.st := by
  rw [feed, if_neg (by simpa using h), apply_st, (prep_fields c r m).1]

theorem hsRun_dead (c : Cfg) (r : Run) (ms : List Msg) (h : r.st = .dead) : hsRun c r ms = none := by
  cases ms with
  | nil => rfl
  | cons m ms => simp [hsRun, h]

theorem kinds_cons (m : Msg) (ms : List Msg) :
    kinds (m :: ms) = if m.isHead then kinds ms else m.kind :: kinds ms := by
  unfold kinds Msg.isHead
  by_cases h : (m.part == Part.head && m.kind.isHandshake) = true
  · simp only [List.filter_cons, h, Bool.not_true, Bool.false_eq_true, if_false, if_true]
  · have h' : (m.part == Part.head && m.kind.isHandshake) = false := by simpa using h
    simp only [List.filter_cons, h', Bool.not_false, if_true, List.map_cons, Bool.false_eq_true, if_false]

theorem hsRun_K (c : Cfg) : ∀ (ms : List Msg) (r r' : Run),
    hsRun c r ms = some r' → hsRunK c r.st (kinds ms) = true := by
  intro ms
  induction ms with
  | nil => intro r r' h; simp [hsRun] at h
  | cons m ms ih =>
    intro r r' h
    unfold hsRun at h
    by_cases hg : (r.st == St.dead || r.st.isPost) = true
    · simp [hg] at h
    simp only [hg] at h
    have hnd : r.st ≠ .dead := by intro e; simp [e] at hg
    have hpost : r.st.isPost = false := by simpa [hnd] using hg
    have hst := feed_st c r m hnd
    -- the run goes on from `feed c r m`: that is not `dead`, and if its position is still `r.st`
    -- (not `done`) the induction hypothesis applies as it stands
    have hlive : (feed c r m).st ≠ .dead := by
      intro e; simp [e, hsRun_dead c _ ms e] at h
    have hsame : (feed c r m).st = r.st → hsRunK c r.st (kinds ms) = true := by
      intro e
      have hd : ((feed c r m).st == St.done) = false := by
        rw [e]; revert hpost; cases r.st <;> simp [St.isPost]
      rw [← e]; exact ih _ r' (by simpa [hd] using h)
    rw [kinds_cons]
    rcases step_cases c r m with ⟨hs, hnh⟩ | ⟨hs, hh⟩ | ⟨a, hs⟩ | ⟨a, hs⟩
    · simp only [hnh, Bool.false_eq_true, if_false]
      unfold hsRunK
      simp only [hg]
      have hk : stepK c r.st 0 m.kind false = stepK0 c r.st r.outstanding m.kind := by
        rw [stepK_noPlus, ← stepK0_outstanding c r.st r.outstanding m.kind hpost]
      obtain ⟨o, ho⟩ := stepK0_hsOut c r.st r.outstanding m.kind hpost
      rw [hs, ho] at hst
      rw [hk, ho]
      cases o with
      | next s b =>
        simp only [HsOut.toOut, Out.target] at hst ⊢
        rw [hst] at h
        by_cases hd : (s == St.done) = true
        · simp only [hd, if_true] at h ⊢
          cases ms with
          | nil => rfl
          | cons a as => simp at h
        · simp only [hd] at h ⊢
          rw [← hst]; exact ih _ r' h
      | ignore => exact hsame hst
      | _ => exact absurd hst hlive
    · -- the head of a fragmented message was buffered: invisible on the level of kinds
      simp only [hh, if_true]
      rw [hs] at hst
      exact hsame hst
    · rw [hs] at hst; exact absurd hst hlive
    · rw [hs] at hst; exact absurd hst hlive

end Tls.Order
