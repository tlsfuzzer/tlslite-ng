import TlsProofs.ResumeStep
/-
  History invariant for C13: everything the server can resume from (sealed tickets, session
  objects) stems from a completed connection of the log and carries that connection's parameters:
  the connection whose number is the object's master secret (`Origin`, `InvAt`); `Inv` forgets which one.
-/
namespace Tls.Resume

def Logged (w : World) (pr : Params) : Prop := ∃ r ∈ w.conns, r.params = some pr

structure Inv (w : World) : Prop where
  sealed : ∀ e ∈ w.sealed, e.2.2.completed = true ∧ Logged w e.2.2.params
  sheap : ∀ s ∈ w.sheap, s.completed = true ∧ Logged w s.params

/-- A handshake that creates a master secret names it by its own number in the log (`connId`): an object with
    secret `k`, completion flag `c` and parameters `pr` stems from connection `k`, which completed with `pr`. -/
def Origin (w : World) (k : Nat) (c : Bool) (pr : Params) : Prop :=
  c = true ∧ ∃ r, w.conns[k]? = some r ∧ r.params = some pr

theorem Origin.logged {w : World} {k : Nat} {c : Bool} {pr : Params} (h : Origin w k c pr) :
    c = true ∧ Logged w pr :=
  h.imp_right fun ⟨r, hr, hp⟩ => ⟨r, List.mem_of_getElem? hr, hp⟩

theorem Origin.mono {w w' : World} {k : Nat} {c : Bool} {pr : Params} (l : List ConnRec)
    (h : w'.conns = w.conns ++ l) (ho : Origin w k c pr) : Origin w' k c pr := by
  obtain ⟨hc, r, hr, hp⟩ := ho
  refine ⟨hc, r, ?_, hp⟩
  rw [h, List.getElem?_append_left (List.getElem?_eq_some_iff.mp hr).1]
  exact hr

structure InvAt (w : World) : Prop where
  sealed : ∀ e ∈ w.sealed, Origin w e.2.2.secret e.2.2.completed e.2.2.params
  sheap : ∀ s ∈ w.sheap, Origin w s.secret s.completed s.params

theorem InvAt.inv {w : World} (hi : InvAt w) : Inv w :=
  ⟨fun e he => (hi.sealed e he).logged, fun s hs => (hi.sheap s hs).logged⟩

theorem InvAt.init : InvAt World.init := ⟨by simp [World.init], by simp [World.init]⟩

theorem env_open_mem {w : World} {sha : List Nat} {k : Nat} {n c : Bytes} {p : Payload}
    (h : (w.env sha).aeadOpen k n c = some p) : ∃ e ∈ w.sealed, e.2.2 = p := by
  simp only [World.env, Option.map_eq_some_iff] at h
  obtain ⟨e, he, hp⟩ := h
  exact ⟨e, List.mem_of_find?_eq_some he, hp⟩

theorem lookup_mem {w : World} {srv : Nat} {id : Bytes} {s : Sess} (h : w.lookup srv id = some s) :
    s ∈ w.sheap := by
  rw [lookup_eq_bind] at h
  cases hi : w.lookupIdx srv id with
  | none => simp [hi] at h
  | some i => simp only [hi, Option.bind_some] at h; exact List.mem_of_getElem? h

theorem Quiet.invAt {w w' : World} (h : Quiet w w') (hi : InvAt w) : InvAt w' := by
  obtain ⟨hsealed, hconns, hsheap, _⟩ := h
  have hl {k c pr} (h : Origin w k c pr) : Origin w' k c pr := h.mono [] (by rw [hconns, List.append_nil])
  refine ⟨fun e he => hl (hi.sealed e (hsealed ▸ he)), fun s hs => ?_⟩
  -- every server object is an old one, possibly after `shutdown`, which changes nothing the invariant looks at
  have : ∃ y ∈ w.sheap, s.secret = y.secret ∧ s.completed = y.completed ∧ s.params = y.params := by
    rcases hsheap with h | ⟨i, b, h⟩ <;> rw [h] at hs
    · exact ⟨s, hs, rfl, rfl, rfl⟩
    · rcases mem_modifyAt hs with h | ⟨y, hy, rfl⟩
      · exact ⟨s, h, rfl, rfl, rfl⟩
      · exact ⟨y, hy, by unfold Sess.shutdown; split <;> exact ⟨rfl, rfl, rfl⟩⟩
  obtain ⟨y, hy, hk, hc, hp⟩ := this
  rw [hk, hc, hp]
  exact hl (hi.sheap y hy)

@[simp] theorem purgeCache_sealed (w : World) (srv : Nat) : (w.purgeCache srv).sealed = w.sealed := rfl
@[simp] theorem purgeCache_conns (w : World) (srv : Nat) : (w.purgeCache srv).conns = w.conns := rfl
@[simp] theorem cacheSet_sealed (w : World) (srv : Nat) (id : Bytes) (i : Option Nat) :
    (w.cacheSet srv id i).sealed = w.sealed := rfl
@[simp] theorem cacheSet_conns (w : World) (srv : Nat) (id : Bytes) (i : Option Nat) :
    (w.cacheSet srv id i).conns = w.conns := rfl

theorem Committed.invAt {w : World} {dec : Decision} {r : World × HsObs} (hc : Committed w dec r) (hi : InvAt w)
    (hdec : ∀ s, dec = .resume s → Origin w s.secret s.completed s.params) : InvAt r.1 := by
  obtain ⟨_, rec, ls, lt, h1, h2, h3, _, hls, hlt⟩ := hc
  have old {k c pr} (h : Origin w k c pr) : Origin r.1 k c pr := h.mono [rec] h1
  -- the new record is connection number `w.conns.length`
  have new {k c pr} (h : c = true ∧ k = w.conns.length ∧ rec.params = some pr) : Origin r.1 k c pr :=
    ⟨h.1, rec, by rw [h1, h.2.1, List.getElem?_concat_length], h.2.2⟩
  refine ⟨fun e he => ?_, fun s hs => ?_⟩
  · rw [h3] at he
    exact (List.mem_append.mp he).elim (fun h => old (hi.sealed e h)) (fun h => new (hlt e h))
  · rw [h2] at hs
    exact (List.mem_append.mp hs).elim (fun h => old (hi.sheap s h))
      fun h => (hls s h).elim (fun hd => old (hdec s hd)) new

theorem InvAt.resume12 {w : World} (hi : InvAt w) {sha : List Nat} {srv : Nat}
    {now : Nat} {st : SrvSettings} {h : Hello} {s : Sess}
    (hr : serverResume12 (w.env sha) (w.lookup srv) now st h = .resume s) :
    Origin w s.secret s.completed s.params := by
  obtain ⟨hf, _⟩ := serverResume12_resume hr
  rcases findSession_some hf with hv | ⟨_, _, _, hl, _⟩
  · obtain ⟨t, k, p, _, _, hop, hc, hpar, hsec⟩ := hv.payload
    obtain ⟨e, he, rfl⟩ := env_open_mem hop
    rw [hc, hpar, hsec]
    exact hi.sealed e he
  · exact hi.sheap s (lookup_mem hl)

theorem negAdjust_resume {nf : Bool} {d : Decision} {s : Sess} (h : negAdjust nf d = .resume s) :
    d = .resume s := by
  unfold negAdjust at h
  split at h
  · contradiction
  · exact h

theorem InvAt.resume13 {w : World} (hi : InvAt w) {sha : List Nat} {st : SrvSettings} {now : Nat} {ver : Ver}
    {prf : Hash} {h : Hello} {s : Sess} (hr : serverResume13 (w.env sha) st now ver prf h = .resume s) :
    Origin w s.secret s.completed s.params := by
  obtain ⟨i, p, hsel, rfl, _⟩ := serverResume13_resume hr
  obtain ⟨_, _, _, _, _, _, ⟨_, _, hop⟩, _⟩ := serverPsk13_selected hsel
  obtain ⟨e, he, rfl⟩ := env_open_mem hop
  exact hi.sealed e he

theorem InvAt.decided {w : World} (hi : InvAt w) {a : HsArgs} {dec : Decision} (hd : DecidedOn w a dec) {s : Sess}
    (hr : dec = .resume s) : Origin w s.secret s.completed s.params := by
  subst hr
  rcases hd with ⟨_, prf, h, hd⟩ | ⟨_, h, hd⟩
  · by_cases hn : a.negFail = true
    · rw [if_pos hn] at hd; cases hd
    · rw [if_neg hn] at hd; exact hi.resume13 hd.symm
  · exact hi.resume12 (negAdjust_resume hd.symm)

theorem step_inv {w : World} (hi : InvAt w) (op : Op) : InvAt (step w op) := by
  rcases step_spec w op with ⟨a, dec, rfl, hc, hd⟩ | h
  · exact hc.invAt hi fun s => hi.decided hd
  · exact h.invAt hi

theorem run_inv {w : World} (hi : InvAt w) (ops : List Op) : InvAt (run w ops) := by
  induction ops generalizing w with
  | nil => exact hi
  | cons op r ih => exact ih (step_inv hi op)

/-- Histories, every version: whatever a server decides to resume from is a session of a COMPLETED handshake and has
    the parameters of the connection of the history that created its master secret (connection number `s.secret`). -/
theorem history_resume_sound (ops : List Op) (a : HsArgs) (s : Sess)
    (hd : (stepHs (run World.init ops) a).2.dec = some (.resume s)) :
    Origin (run World.init ops) s.secret s.completed s.params :=
  (run_inv InvAt.init ops).decided (stepHs_decided hd) rfl

end Tls.Resume
