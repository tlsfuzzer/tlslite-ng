import TlsModel.Settings
/-
  C19 — the value-level model of `validate()` read once.  `validate_ok_stages` is its control skeleton (three lists of
  tests, two emptiness tests, four filters); `Passes env s` says with one named field per test what it means that no test
  fires, and `validate_ok_iff : validate env s = .ok o ↔ Passes env s ∧ o = normalize env s` is the one place where the
  Boolean tests become propositions.  Idempotence (`normalize_idem`, `Passes.normalize`) is read off `Passes` by field
  name here, the domains and supported-only in SettingsDomain and Props/C19.
-/
namespace Tls.Settings

theorem chk_eq_none (b : Bool) (m : String) : chk b m = none ↔ b = false := by
  cases b <;> simp [chk]

theorem firstSome_nil : firstSome [] = none := rfl

theorem firstSome_cons (x : Option String) (r : List (Option String)) :
    firstSome (x :: r) = none ↔ x = none ∧ firstSome r = none := by
  cases x <;> simp [firstSome]

theorem filterImpls_impls (env : Env) (s : Settings) :
    (filterImpls env s).cipherImplementations = loadedImpls env s.cipherImplementations := by
  simp only [filterImpls]

theorem validateD_ok_iff (env : Env) (s2 o : Settings) :
    validateD env s2 = .ok o ↔
      (loadedImpls env s2.cipherImplementations).isEmpty = false ∧
      (filter3des env (filterImpls env s2)).cipherNames.isEmpty = false ∧
      o = filter3des env (filterImpls env s2) := by
  simp only [validateD, filterImpls_impls]
  cases h1 : (loadedImpls env s2.cipherImplementations).isEmpty with
  | true => simp
  | false =>
    cases h2 : (filter3des env (filterImpls env s2)).cipherNames.isEmpty with
    | true => simp
    | false =>
      simp only [cond_false, true_and, Except.ok.injEq]
      exact eq_comm

/-- one stage of `validate`: the three stages share the matcher that Lean generated first, for `vhostsErr`
    (a lemma stated with `match` syntax would get a matcher of its own and not rewrite) -/
theorem stage_ok_iff (x : Option String) (rest : Except String Settings) (o : Settings) :
    vhostsErr.match_1 (fun _ => Except String Settings) x (fun e => .error e) (fun _ => rest) = .ok o ↔
      x = none ∧ rest = .ok o := by
  cases x <;> simp

theorem filterMacs_filterVersions_impls (s : Settings) :
    (filterMacs (filterVersions s)).cipherImplementations = s.cipherImplementations := by
  simp only [filterMacs, filterVersions]

theorem validate_ok_stages (env : Env) (s o : Settings) :
    validate env s = .ok o ↔
      firstSome (stageA env s) = none ∧
      firstSome (stageB env (filterVersions s)) = none ∧
      firstSome (stageC env (filterMacs (filterVersions s))) = none ∧
      (loadedImpls env s.cipherImplementations).isEmpty = false ∧
      (normalize env s).cipherNames.isEmpty = false ∧
      o = normalize env s := by
  rw [validate, stage_ok_iff, validateB, stage_ok_iff, validateC, stage_ok_iff, validateD_ok_iff,
    filterMacs_filterVersions_impls, normalize]

theorem normalize_eq (env : Env) (s : Settings) : normalize env s =
    { s with
      versions := bif verLt s.maxVersion (3, 4) then s.versions.filter (fun v => verLt v (3, 4)) else s.versions
      macNames := bif verLt s.maxVersion (3, 3) then s.macNames.filter (fun e => e == "sha" || e == "md5")
                  else s.macNames
      cipherImplementations := loadedImpls env s.cipherImplementations
      cipherNames := bif env.tripleDES then s.cipherNames else s.cipherNames.filter fun c => c != "3des" } := by
  simp only [normalize, filter3des, filterImpls, filterMacs, filterVersions]

theorem normalize_cipherNames (env : Env) (s : Settings) :
    (normalize env s).cipherNames =
      bif env.tripleDES then s.cipherNames else s.cipherNames.filter fun c => c != "3des" := by
  rw [normalize_eq]

theorem normalize_impls (env : Env) (s : Settings) :
    (normalize env s).cipherImplementations = loadedImpls env s.cipherImplementations := by
  rw [normalize_eq]

theorem loadedImpls_eq_filter (env : Env) (l : List String) :
    loadedImpls env l =
      l.filter fun i => (env.m2crypto || i != "openssl") && (env.pycrypto || i != "pycrypto") := by
  simp only [loadedImpls, List.filter_filter]
  congr 1
  funext i
  exact Bool.and_comm _ _

theorem loadedImpls_idem (env : Env) (l : List String) :
    loadedImpls env (loadedImpls env l) = loadedImpls env l := by
  simp only [loadedImpls_eq_filter, List.filter_filter, Bool.and_self]

theorem mem_loadedImpls (env : Env) (l : List String) (i : String) :
    i ∈ loadedImpls env l ↔
      i ∈ l ∧ (i = "openssl" → env.m2crypto = true) ∧ (i = "pycrypto" → env.pycrypto = true) := by
  rw [loadedImpls_eq_filter, List.mem_filter]
  simp only [Bool.and_eq_true, Bool.or_eq_true, bne_iff_ne, ne_eq, Decidable.imp_iff_or_not]

theorem mem_normalize_impls (env : Env) (s : Settings) (a : String)
    (h : a ∈ (normalize env s).cipherImplementations) : a ∈ s.cipherImplementations := by
  rw [normalize_impls] at h
  exact ((mem_loadedImpls env _ a).mp h).1

theorem normalize_idem (env : Env) (s : Settings) : normalize env (normalize env s) = normalize env s := by
  rw [normalize_eq env (normalize env s), normalize_eq env s]
  simp only [Settings.mk.injEq, true_and, and_true, loadedImpls_idem]
  refine ⟨?_, ?_, ?_⟩
  · cases verLt s.maxVersion (3, 4) <;> simp [List.filter_filter]
  · cases env.tripleDES <;> simp [List.filter_filter]
  · cases verLt s.maxVersion (3, 3) <;> simp [List.filter_filter]

theorem ilt_eq_false (a b : Int) : ilt a b = false ↔ b ≤ a := by
  simp only [ilt, decide_eq_false_iff_not, Int.not_lt]

theorem ilt_eq_true (a b : Int) : ilt a b = true ↔ a < b := by
  simp only [ilt, decide_eq_true_eq]

theorem ile_eq_true (a b : Int) : ile a b = true ↔ a ≤ b := by
  simp only [ile, decide_eq_true_eq]

theorem notMatching_eq_nil (l S : List String) : notMatching l S = [] ↔ ∀ a ∈ l, a ∈ S := by
  simp only [notMatching, List.filter_eq_nil_iff, Bool.not_eq_true, Bool.not_eq_false', List.contains_iff_mem]

theorem contains_eq_false {α : Type} [BEq α] [LawfulBEq α] (l : List α) (x : α) :
    l.contains x = false ↔ x ∉ l := by
  rw [← List.contains_iff_mem, Bool.not_eq_true]

theorem any_eq_false_iff {α : Type} (l : List α) (p : α → Bool) : l.any p = false ↔ ∀ a ∈ l, p a = false := by
  simp only [List.any_eq_false, Bool.not_eq_true]

/-- the `match` on `record_size_limit` in `stageB` (a lemma has to name the matcher of the model file) -/
theorem optionCheck_eq_false (o : Option Int) (p : Int → Bool) :
    stageB.match_1 (fun _ => Bool) o (fun _ => false) p = false ↔ ∀ v, o = some v → p v = false := by
  cases o <;> simp

/-- the `match` on `dc_sig_algs` in `stageB` -/
theorem dcCheck_eq_false (d : DcAlgs) (p : Nat × Nat → Bool) :
    stageB.match_3 (fun _ => Bool) d p (fun _ => false) = false ↔ ∀ x, d = .scheme x → p x = false := by
  cases d <;> simp

theorem pskHashOk_iff (p : Psk) : pskHashOk p = true ↔ p.hash = some "sha256" ∨ p.hash = some "sha384" := by
  unfold pskHashOk
  cases p.hash <;> simp

theorem Flag.truthy_iff (x : Flag) : x.truthy = true ↔ x = .t := by
  cases x <;> simp [Flag.truthy]

theorem nil_or_forall_mem {α : Type} (l : List α) (P : α → Prop) : (l = [] ∨ ∀ a ∈ l, P a) ↔ ∀ a ∈ l, P a :=
  ⟨fun h a ha => h.elim (fun hn => absurd hn (List.ne_nil_of_mem ha)) (fun h => h a ha), Or.inr⟩

theorem vhostErr_eq_none (vh : List (Bool × Bool)) :
    vhostErr vh = none ↔ vh ≠ [] ∧ ∀ k ∈ vh, k = (true, true) := by
  cases vh with
  | nil => exact ⟨fun h => (nomatch h), fun h => absurd rfl h.1⟩
  | cons k r =>
    simp only [vhostErr, List.isEmpty_cons, cond_false, ne_eq, reduceCtorEq, not_false_eq_true, true_and]
    cases ha : ((k :: r).any fun k => !(k.1 && k.2)) with
    | true =>
      simp only [cond_true, reduceCtorEq, false_iff]
      intro hall
      obtain ⟨x, hx, hb⟩ := List.any_eq_true.mp ha
      rw [hall x hx] at hb
      cases hb
    | false =>
      simp only [cond_false, true_iff]
      intro x hx
      have := List.any_eq_false.mp ha x hx
      simpa [Prod.ext_iff] using this

theorem vhostsErr_eq_none (l : List (List (Bool × Bool))) :
    vhostsErr l = none ↔ ∀ vh ∈ l, vh ≠ [] ∧ ∀ k ∈ vh, k = (true, true) := by
  induction l with
  | nil => exact ⟨fun _ _ h => (nomatch h), fun _ => rfl⟩
  | cons v r ih =>
    rw [List.forall_mem_cons, ← ih, ← vhostErr_eq_none, vhostsErr]
    cases vhostErr v with
    | none => exact ⟨fun h => ⟨rfl, h⟩, fun h => h.2⟩
    | some e => exact ⟨fun h => (nomatch h), fun h => (nomatch h.1)⟩

/-- Every test of `validate()` passes, as propositions: one field per `chk` of `stageA`, `stageB`,
    `stageC`, in program order, then the two emptiness tests of `validateD`. -/
structure Passes (env : Env) (s : Settings) : Prop where
  -- stageA
  someCertificateType : s.certificateTypes ≠ []
  minKeyLo : 512 ≤ s.minKeySize
  minKeyHi : s.minKeySize ≤ 16384
  maxKeyLo : 512 ≤ s.maxKeySize
  maxKeyHi : s.maxKeySize ≤ 16384
  keyOrder : s.minKeySize ≤ s.maxKeySize
  virtualHosts : ∀ vh ∈ s.virtual_hosts, vh ≠ [] ∧ ∀ k ∈ vh, k = (true, true)
  cipherNames : ∀ a ∈ s.cipherNames, a ∈ Gen.allCipherNames env
  macNames : ∀ a ∈ s.macNames, a ∈ Gen.allMacNames env
  keyExchangeNames : ∀ a ∈ s.keyExchangeNames, a ∈ Gen.keyExchangeNames env
  cipherImplementations : ∀ a ∈ s.cipherImplementations, a ∈ Gen.cipherImplementations env
  eccCurves : ∀ a ∈ s.eccCurves, a ∈ Gen.allCurveNames env
  defaultCurve : s.defaultCurve ∈ Gen.allCurveNames env
  keySharesEnabled : ∀ a ∈ s.keyShares, a ∈ s.eccCurves ∨ a ∈ s.dhGroups
  ecdsaSigHashes : ∀ a ∈ s.ecdsaSigHashes, a ∈ Gen.ecdsaSignatureHashes env
  moreSigSchemes : ∀ a ∈ s.more_sig_schemes, a ∈ Gen.signatureSchemes env
  dhGroups : ∀ a ∈ s.dhGroups, a ∈ Gen.allDhGroupNames env
  tls13Groups : (3, 3) ∉ s.versions ∧ (3, 4) ∈ s.versions →
    ∀ a ∈ s.eccCurves, a ∈ Gen.tls13PermittedGroups env
  keySharesKnown : ∀ a ∈ s.keyShares, a ∈ Gen.allDhGroupNames env ∨ a ∈ Gen.allCurveNames env
  dhParams : s.dhParams ≠ .malformed
  certificateTypes : ∀ a ∈ s.certificateTypes, a ∈ Gen.certificateTypes env
  rsaSigHashes : ∀ a ∈ s.rsaSigHashes, a ∈ Gen.allRsaSignatureHashes env
  rsaSchemes : ∀ a ∈ s.rsaSchemes, a ∈ Gen.rsaSchemes env
  dsaSigHashes : ∀ a ∈ s.dsaSigHashes, a ∈ Gen.dsaSignatureHashes env
  sigAlgsForTls12 : ((s.rsaSigHashes = [] ∧ s.ecdsaSigHashes = []) ∧ s.dsaSigHashes = []) ∧
    s.more_sig_schemes = [] → verLe (3, 3) s.maxVersion = false
  versionOrder : verLt s.maxVersion s.minVersion = false
  minVersion : s.minVersion ∈ Gen.knownVersions env
  maxVersion : s.maxVersion ∈ Gen.knownVersions env
  -- stageB
  encryptThenMAC : s.useEncryptThenMAC ≠ .other
  paddingExtension : s.usePaddingExtension ≠ .other
  heartbeatExtension : s.use_heartbeat_extension ≠ .other
  heartbeatCallback : s.heartbeat_response_callback = true → s.use_heartbeat_extension = .t
  recordSizeLimit : ∀ v, s.record_size_limit = some v → 64 ≤ v ∧ v ≤ 16385
  ecPointFormats : ∀ a ∈ s.ec_point_formats, a ∈ Gen.ecPointFormats env
  ecPointUncompressed : Gen.ecPointUncompressed ∈ s.ec_point_formats
  dcSigAlgs : ∀ x, s.dc_sig_algs = .scheme x → x ∉ Gen.delegetedCredentialForbiddenAlg env
  dcValidTime : s.dc_valid_time ≤ Gen.dcValidTime env
  extendedMasterSecret : s.useExtendedMasterSecret ≠ .other
  requireEMSFlag : s.requireExtendedMasterSecret ≠ .other
  requireEMS : s.requireExtendedMasterSecret = .t → s.useExtendedMasterSecret = .t
  compressionSend : ∀ a ∈ s.certificate_compression_send, a ∈ Gen.allCompressionAlgosSend env
  compressionReceive : ∀ a ∈ s.certificate_compression_receive, a ∈ Gen.allCompressionAlgosReceive env
  -- stageC
  pskLen : ∀ a ∈ s.pskConfigs, a.len = 2 ∨ a.len = 3
  pskHash : ∀ a ∈ s.pskConfigs, a.len = 3 → a.hash = some "sha256" ∨ a.hash = some "sha384"
  pskModes : ∀ a ∈ s.psk_modes, a ∈ Gen.pskModes env
  ticketCipher : s.ticketCipher ∈ Gen.ticketCiphers env
  ticketKeys : ∀ a ∈ s.ticketKeys, a = 16 ∨ a = 32
  ticketLifetime : 0 < s.ticketLifetime ∧ s.ticketLifetime ≤ 604800
  maxEarlyData : 0 < s.max_early_data ∧ s.max_early_data ≤ 18446744073709551616
  ticketCount : 0 ≤ s.ticket_count ∧ s.ticket_count < 65536
  -- validateD
  someImplementation : loadedImpls env s.cipherImplementations ≠ []
  someCipher : (normalize env s).cipherNames ≠ []

/-- The `simp only` set is the whole translation from the Boolean tests to propositions; the rest only moves
    the conjuncts into the named fields. -/
theorem validate_ok_iff (env : Env) (s o : Settings) :
    validate env s = .ok o ↔ Passes env s ∧ o = normalize env s := by
  rw [validate_ok_stages]
  simp only [stageA, stageB, stageC, filterVersions, filterMacs, firstSome_cons, firstSome_nil, chk_eq_none, and_true,
    Bool.not_eq_false', Bool.not_eq_true', Bool.and_eq_false_imp, Bool.and_eq_true, Bool.or_eq_true, beq_iff_eq,
    beq_eq_false_iff_ne, any_eq_false_iff, List.contains_iff_mem, contains_eq_false, ← Decidable.or_iff_not_imp_left,
    List.isEmpty_iff, List.isEmpty_eq_false_iff, ilt_eq_false, ilt_eq_true, ile_eq_true,
    notMatching_eq_nil, vhostsErr_eq_none, optionCheck_eq_false, dcCheck_eq_false, pskHashOk_iff,
    Flag.truthy_iff, nil_or_forall_mem]
  constructor
  · rintro ⟨⟨a1, a2, a3, a4, a5, a6, a7, a8, a9, a10, a11, a12, a13, a14, a15, a16, a17, a18, a19, a20, a21,
      a22, a23, a24, a25, a26, a27, a28⟩, ⟨b1, b2, b3, b4, b5, b6, b7, b8, b9, b10, b11, b12, b13, b14⟩,
      ⟨c1, c2, c3, c4, c5, c6, c7, c8⟩, d1, d2, ho⟩
    exact ⟨⟨a1, a2, a3, a4, a5, a6, a7, a8, a9, a10, a11, a12, a13, a14, a15, a16, a17, a18, a19, a20, a21,
      a22, a23, a24, a25, a26, a27, a28, b1, b2, b3, b4, b5, b6, b7, b8, b9, b10, b11, b12, b13, b14,
      c1, c2, c3, c4, c5, c6, c7, c8, d1, d2⟩, ho⟩
  · rintro ⟨⟨a1, a2, a3, a4, a5, a6, a7, a8, a9, a10, a11, a12, a13, a14, a15, a16, a17, a18, a19, a20, a21,
      a22, a23, a24, a25, a26, a27, a28, b1, b2, b3, b4, b5, b6, b7, b8, b9, b10, b11, b12, b13, b14,
      c1, c2, c3, c4, c5, c6, c7, c8, d1, d2⟩, ho⟩
    exact ⟨⟨a1, a2, a3, a4, a5, a6, a7, a8, a9, a10, a11, a12, a13, a14, a15, a16, a17, a18, a19, a20, a21,
      a22, a23, a24, a25, a26, a27, a28⟩, ⟨b1, b2, b3, b4, b5, b6, b7, b8, b9, b10, b11, b12, b13, b14⟩,
      ⟨c1, c2, c3, c4, c5, c6, c7, c8⟩, d1, d2, ho⟩

theorem validate_error_or_ok (env : Env) (s : Settings) :
    (∃ e, validate env s = .error e) ∨ validate env s = .ok (normalize env s) := by
  cases h : validate env s with
  | error e => exact Or.inl ⟨e, rfl⟩
  | ok o => exact Or.inr (by rw [((validate_ok_iff env s o).mp h).2])

theorem mem_cond_filter_r (c : Bool) (p : String → Bool) (l : List String) (a : String)
    (h : a ∈ (bif c then l else l.filter p)) : a ∈ l := by
  cases c
  · exact (List.mem_filter.mp h).1
  · exact h

theorem mem_cond_filter_l (c : Bool) (p : String → Bool) (l : List String) (a : String)
    (h : a ∈ (bif c then l.filter p else l)) : a ∈ l := by
  cases c
  · exact h
  · exact (List.mem_filter.mp h).1

theorem of_mem_cond_filter {α : Type} {c : Bool} {p : α → Bool} {l : List α} {a : α} (hc : c = true)
    (h : a ∈ (bif c then l.filter p else l)) : p a = true := by
  subst hc
  exact (List.mem_filter.mp h).2

/-- What passed still passes after `normalize`: the filters only shrink three lists that the tests
    bound from above, and drop (3, 4) from `versions` only together with everything above (3, 3). -/
theorem Passes.normalize {env : Env} {s : Settings} (h : Passes env s) : Passes env (normalize env s) := by
  -- trap: inside this proof a bare `normalize` is the theorem itself
  have hI : loadedImpls env (Settings.normalize env s).cipherImplementations ≠ [] := by
    rw [normalize_impls, loadedImpls_idem]; exact h.someImplementation
  have hC : (Settings.normalize env (Settings.normalize env s)).cipherNames ≠ [] := by
    rw [normalize_idem]; exact h.someCipher
  rw [normalize_eq env s] at hI hC ⊢
  exact { h with
    cipherNames := fun a ha => h.cipherNames a (mem_cond_filter_r _ _ _ a ha)
    macNames := fun a ha => h.macNames a (mem_cond_filter_l _ _ _ a ha)
    cipherImplementations := fun a ha => h.cipherImplementations a ((mem_loadedImpls env _ a).mp ha).1
    tls13Groups := fun hv => by
      cases hc : verLt s.maxVersion (3, 4) with
      | false => rw [hc] at hv; exact h.tls13Groups hv
      | true => exact nomatch of_mem_cond_filter hc hv.2
    someImplementation := hI
    someCipher := hC }

end Tls.Settings
