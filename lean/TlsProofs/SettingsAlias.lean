import TlsModel.Settings
/-
  C19 — soundness of the alias analysis: an op list accepted by `pureOps` leaves, on every path and
  for every interpretation of the abstracted parts, the receiver's attribute bindings and every
  object reachable from the receiver unchanged (`validate_pure`, Props/C19.lean, from `run_inv` along the
  enumerated assignment that `allBits_complete` gives).  At the end: an accepted list has a final taint on every path
  (`pureFrom_eq_isSome`), so `useSafe` can be evaluated one field at a time (`useSafe_of_pure`).
-/
namespace Tls.Settings

variable {α : Type}

def Reach (st0 : Store α) (o : Nat) : Prop := ∃ f, st0.selfF f = some o

/-- `untainted`: an attribute of the copy whose taint is off points outside what the receiver reached at the start, so
    changing that object in place cannot be seen from the receiver -/
structure Inv (st0 st : Store α) (T : Taint) : Prop where
  selfEq : st.selfF = st0.selfF
  objsEq : ∀ o, Reach st0 o → st.objs o = st0.objs o
  untainted : ∀ f o, st.otherF f = some o → T f = false → ¬ Reach st0 o
  nextLe : st0.next ≤ st.next

theorem Inv.init (st0 : Store α) : Inv st0 st0 (fun _ => true) :=
  ⟨rfl, fun _ _ => rfl, by intro f o _ h; simp at h, Nat.le_refl _⟩

theorem setF_eq (m : String → Option Nat) (f g : String) (v : Option Nat) :
    setF m f v g = if g = f then v else m g := rfl

theorem Inv.bind {st0 st : Store α} {T : Taint} (hinv : Inv st0 st T) (dst : String) (p : Nat) (b : Bool)
    (hp : b = false → ¬ Reach st0 p) :
    Inv st0 { st with otherF := setF st.otherF dst (some p) } (fun f => if f = dst then b else T f) := by
  refine ⟨hinv.selfEq, hinv.objsEq, ?_, hinv.nextLe⟩
  intro f q hf hT
  simp only [setF_eq] at hf
  by_cases hfd : f = dst
  · simp only [hfd, if_true, Option.some.injEq] at hf hT
    exact hf ▸ hp hT
  · simp only [hfd, if_false] at hf hT
    exact hinv.untainted f q hf hT

theorem Inv.alloc (st0 : Store α) (hwf : ∀ o, Reach st0 o → o < st0.next) {st : Store α} {T : Taint}
    (hinv : Inv st0 st T) (v : α) (dst : String) :
    Inv st0 { st with objs := setObj st.objs st.next v, otherF := setF st.otherF dst (some st.next),
                      next := st.next + 1 }
      (fun f => if f = dst then false else T f) := by
  have hlt : ∀ q, Reach st0 q → q < st.next := fun q hq => Nat.lt_of_lt_of_le (hwf q hq) hinv.nextLe
  have hobj : Inv st0 { st with objs := setObj st.objs st.next v, next := st.next + 1 } T := by
    refine ⟨hinv.selfEq, fun q hq => ?_, hinv.untainted, Nat.le_succ_of_le hinv.nextLe⟩
    simp only [setObj, Nat.ne_of_lt (hlt q hq), if_false]
    exact hinv.objsEq q hq
  exact hobj.bind dst st.next false fun _ hr => Nat.lt_irrefl _ (hlt _ hr)

theorem step_inv (I : Interp α) (st0 : Store α) (hwf : ∀ o, Reach st0 o → o < st0.next)
    (a : Act) (st st' : Store α) (T T' : Taint)
    (hinv : Inv st0 st T) (ht : stepTaint a T = some T') (hs : step I a st = some st') :
    Inv st0 st' T' := by
  cases a with
  | initOther fields =>
    simp only [step, Option.some.injEq] at hs
    simp only [stepTaint, Option.some.injEq] at ht
    subst hs; subst ht
    have hnext := hinv.nextLe
    refine ⟨hinv.selfEq, ?_, ?_, by simp only; omega⟩
    · intro o ho
      have := hwf o ho
      have hno : ¬ (st.next ≤ o ∧ o < st.next + fields.length) := by omega
      simp only [hno, if_false]
      exact hinv.objsEq o ho
    · intro f o hf _ hr
      simp only at hf
      split at hf
      · have := hwf o hr
        simp only [Option.some.injEq] at hf
        omega
      · cases hf
  | alias dst o src =>
    simp only [step, Option.map_eq_some_iff] at hs
    obtain ⟨p, hp, rfl⟩ := hs
    cases o with
    | self =>
      simp only [stepTaint, Option.some.injEq] at ht
      subst ht
      exact hinv.bind dst p true fun h => nomatch h
    | other =>
      simp only [stepTaint, Option.some.injEq] at ht
      subst ht
      exact hinv.bind dst p (T src) (hinv.untainted src p hp)
  | copy dst o src =>
    simp only [step, Option.map_eq_some_iff] at hs
    obtain ⟨p, _, rfl⟩ := hs
    simp only [stepTaint, Option.some.injEq] at ht
    subst ht
    exact Inv.alloc st0 hwf hinv _ dst
  | fresh dst k =>
    simp only [step, Option.some.injEq] at hs
    subst hs
    simp only [stepTaint, Option.some.injEq] at ht
    subst ht
    exact Inv.alloc st0 hwf hinv _ dst
  | mutate o tgt k =>
    cases o with
    | self => simp [stepTaint] at ht
    | other =>
      simp only [stepTaint] at ht
      split at ht
      · cases ht
      · rename_i hT
        simp only [Option.some.injEq] at ht
        subst ht
        simp only [step, Store.lookup, Option.map_eq_some_iff] at hs
        obtain ⟨p, hp, rfl⟩ := hs
        have hnr : ¬ Reach st0 p := hinv.untainted tgt p hp (by simpa using hT)
        refine ⟨hinv.selfEq, ?_, hinv.untainted, hinv.nextLe⟩
        intro q hq
        have hne : q ≠ p := fun h => hnr (h ▸ hq)
        simp only [setObj, hne, if_false]
        exact hinv.objsEq q hq
  | rebindSelf dst => simp [stepTaint] at ht
  | mayRaise k =>
    simp only [stepTaint, Option.some.injEq] at ht
    subst ht
    simp only [step] at hs
    split at hs
    · cases hs
    · simp only [Option.some.injEq] at hs
      subst hs
      exact hinv
  | unknown w => simp [stepTaint] at ht

theorem guardsHold_congr (n : Nat) (b b' : List Bool)
    (h : ∀ i, i < n → b.getD i false = b'.getD i false) :
    ∀ (gs : List (Nat × Bool)), (gs.all fun g => decide (g.1 < n)) = true →
      guardsHold b gs = guardsHold b' gs := by
  intro gs
  induction gs with
  | nil => intro _; rfl
  | cons g rest ih =>
    intro hg
    simp only [List.all_cons, Bool.and_eq_true, decide_eq_true_eq] at hg
    have := ih hg.2
    simp only [guardsHold, List.all_cons] at this ⊢
    rw [this, h g.1 hg.1]

/-- The run under `bits` keeps the invariant as soon as the taint analysis accepts the path of an
    assignment `b` that agrees with `bits` on the first `n` conditions, all the guards name. -/
theorem run_inv (I : Interp α) (bits b : List Bool) (n : Nat)
    (hb : ∀ i, i < n → bits.getD i false = b.getD i false) (st0 : Store α)
    (hwf : ∀ o, Reach st0 o → o < st0.next) :
    ∀ (ops : List AliasOp) (st : Store α) (T : Taint), Inv st0 st T → guardsBelow n ops = true →
      pureFrom b ops T = true → ∃ T', Inv st0 (runOps I bits ops st) T' := by
  intro ops
  induction ops with
  | nil => intro st T h _ _; exact ⟨T, h⟩
  | cons op rest ih =>
    intro st T hinv hn hp
    simp only [guardsBelow, List.all_cons, Bool.and_eq_true] at hn
    simp only [pureFrom, ← guardsHold_congr n bits b hb op.guards hn.1] at hp
    simp only [runOps]
    by_cases hg : guardsHold bits op.guards = true
    · simp only [hg, if_true] at hp ⊢
      cases ht : stepTaint op.act T with
      | none => simp [ht] at hp
      | some T' =>
        simp only [ht] at hp
        cases hs : step I op.act st with
        | none => exact ⟨T, hinv⟩
        | some st' => exact ih st' T' (step_inv I st0 hwf op.act st st' T T' hinv ht hs) hn.2 hp
    · simp only [hg] at hp ⊢
      exact ih st T hinv hn.2 hp

theorem allBits_complete : ∀ (n : Nat) (bits : List Bool),
    ∃ b ∈ allBits n, ∀ i, i < n → bits.getD i false = b.getD i false
  | 0, _ => ⟨[], List.mem_singleton.mpr rfl, fun _ h => nomatch h⟩
  | n + 1, bits => by
    obtain ⟨b, hb, h⟩ := allBits_complete n bits.tail
    refine ⟨bits.getD 0 false :: b, List.mem_flatMap.mpr ⟨b, hb, ?_⟩, fun i hi => ?_⟩
    · cases bits.getD 0 false <;> simp
    · cases i with
      | zero => rfl
      | succ i =>
        rw [List.getD_cons_succ, ← h i (Nat.lt_of_succ_lt_succ hi)]
        cases bits <;> rfl

theorem pureFrom_eq_isSome (bits : List Bool) :
    ∀ (ops : List AliasOp) (T : Taint), pureFrom bits ops T = (finalTaint bits ops T).isSome := by
  intro ops
  induction ops with
  | nil => intro T; rfl
  | cons op rest ih =>
    intro T
    simp only [pureFrom, finalTaint]
    split
    · split
      · exact ih _
      · rfl
    · exact ih T

theorem useSafe_of_pure (ops : List AliasOp) (mutated : List String) (h : pureOps ops = true)
    (hm : mutated.all (fun f => useSafe ops [f]) = true) : useSafe ops mutated = true := by
  simp only [pureOps, Bool.and_eq_true, List.all_eq_true] at h
  simp only [useSafe, List.all_eq_true] at hm ⊢
  intro bits hb
  have hp := h.2 bits hb
  rw [pureFrom_eq_isSome] at hp
  cases hT : finalTaint bits ops (fun _ => true) with
  | none => rw [hT] at hp; cases hp
  | some T =>
    refine List.all_eq_true.mpr fun f hf => ?_
    have := hm f hf bits hb
    rw [hT] at this
    exact List.all_eq_true.mp this f (List.mem_singleton.mpr rfl)

end Tls.Settings
