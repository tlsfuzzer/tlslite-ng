import TlsProofs.RsaCorrect
import TlsProofs.Guards
/-
  Byte level: `_raw_public_key_op_bytes` / `_raw_private_key_op_bytes`, and the PKCS#1 v1.5 encoded
  message of `_addPKCS1Padding`: its length, that it is below the modulus and determines the DigestInfo.
-/
namespace Tls.Rsa
open Nat

/-- THE encoding of RFC 8017 §9.2 for a `k`-byte modulus and DigestInfo `t`:
    `00 01 FF … FF 00 t`, padding filling the block exactly -/
def canonicalEM (k : ℕ) (t : Bytes) : Bytes :=
  [0x00, 0x01] ++ List.replicate (k - 3 - t.length) 0xFF ++ [0x00] ++ t

theorem addPKCS1Padding_eq (n : ℕ) (bytes : Bytes) :
    addPKCS1Padding n bytes = canonicalEM (numBytes n) bytes := by
  unfold addPKCS1Padding canonicalEM
  have : ((numBytes n : ℤ) - ((bytes.length : ℤ) + 3)).toNat = numBytes n - 3 - bytes.length := by
    omega
  simp only [this]

theorem canonicalEM_length_eq (k : ℕ) (t : Bytes) :
    (canonicalEM k t).length = (k - 3 - t.length) + (t.length + 3) := by
  simp only [canonicalEM, List.length_append, List.length_replicate, List.length_cons, List.length_nil]
  omega

theorem canonicalEM_length (k : ℕ) (t : Bytes) (h : t.length + 3 ≤ k) :
    (canonicalEM k t).length = k := by
  rw [canonicalEM_length_eq]; omega

theorem canonicalEM_length_gt (k : ℕ) (t : Bytes) (h : k < t.length + 3) :
    k < (canonicalEM k t).length := by
  rw [canonicalEM_length_eq]; omega

theorem canonicalEM_lt (n : ℕ) (hn : n ≠ 0) (t : Bytes) (h : t.length + 3 ≤ numBytes n) :
    beDecode (canonicalEM (numBytes n) t) < n := by
  have hlen := canonicalEM_length (numBytes n) t h
  unfold canonicalEM at hlen ⊢
  simp only [List.append_assoc, List.cons_append, List.nil_append] at hlen ⊢
  generalize List.replicate (numBytes n - 3 - t.length) (0xFF : UInt8) ++ 0x00 :: t = rest at hlen ⊢
  -- `00 01 rest` is below `2 · 256^|rest| = 2 · 256^(numBytes n − 2) ≤ 256^(numBytes n − 1) ≤ n`
  have hr : numBytes n - 1 = rest.length + 1 := by rw [List.length_cons, List.length_cons] at hlen; omega
  have hle := pow_numBytes_pred_le n hn
  rw [hr, Nat.pow_succ] at hle
  have := (beDecode_cons_bounds 1 rest).2
  rw [beDecode_zero_cons]
  rw [show ((1 : UInt8).toNat + 1) = 2 from rfl] at this
  omega

theorem replicate_append_cons_inj {α : Type} {a b : α} (hab : a ≠ b) :
    ∀ {n m : ℕ} {s t : List α}, List.replicate n a ++ b :: s = List.replicate m a ++ b :: t → s = t
  | 0, 0, _, _, h => (List.cons.inj h).2
  | 0, _ + 1, _, _, h => absurd (List.cons.inj h).1.symm hab
  | _ + 1, 0, _, _, h => absurd (List.cons.inj h).1 hab
  | _ + 1, _ + 1, _, _, h => replicate_append_cons_inj hab (List.cons.inj h).2

theorem canonicalEM_inj (k : ℕ) (t1 t2 : Bytes) (h : canonicalEM k t1 = canonicalEM k t2) : t1 = t2 := by
  unfold canonicalEM at h
  rw [List.append_assoc, List.append_assoc, List.append_assoc, List.append_assoc] at h
  exact replicate_append_cons_inj (by decide) (List.append_cancel_left h)

theorem rawPublicKeyOpBytes_eq (k : PubKey) (c : Bytes) :
    rawPublicKeyOpBytes k c =
      if c.length = numBytes k.n ∧ beDecode c < k.n then .ok (beEncode (numBytes k.n) (beDecode c ^ k.e % k.n))
      else .error .valueError := by
  unfold rawPublicKeyOpBytes rawPublicKeyOp
  simp only [powMod_eq]
  by_cases h1 : c.length = numBytes k.n
  · by_cases h2 : beDecode c < k.n
    · rw [if_neg (not_not_intro h1), if_neg (Nat.not_le.mpr h2), if_pos ⟨h1, h2⟩]
    · rw [if_neg (not_not_intro h1), if_pos (Nat.not_lt.mp h2), if_neg (fun h => h2 h.2)]
  · rw [if_pos h1, if_neg (fun h => h1 h.1)]

theorem rawPublicKeyOpBytes_ok_iff (k : PubKey) (c out : Bytes) :
    rawPublicKeyOpBytes k c = .ok out ↔
      c.length = numBytes k.n ∧ beDecode c < k.n ∧
      out = beEncode (numBytes k.n) ((beDecode c) ^ k.e % k.n) := by
  rw [rawPublicKeyOpBytes_eq, ok_or_throw_eq_ok, and_assoc]

theorem rawPublicKeyOpBytes_err (k : PubKey) (c : Bytes) (e : Err)
    (h : rawPublicKeyOpBytes k c = .error e) : e = .valueError := by
  rw [rawPublicKeyOpBytes_eq, ok_or_throw_eq_error] at h
  exact h.2

theorem rawPrivateKeyOpBytes_of_valid {k : PrivKey} (vk : ValidKey k) {st : Blind} {rnd : ℕ}
    (hst : BlindOk k st) (hrnd : st.blinder = 0 → invMod rnd k.pub.n * rnd % k.pub.n = 1)
    (msg : Bytes) (hl : msg.length = numBytes k.pub.n) (hv : beDecode msg < k.pub.n) :
    ∃ sig st', rawPrivateKeyOpBytes k st rnd msg = .ok (sig, st') ∧ BlindOk k st' ∧
      sig = beEncode (numBytes k.pub.n) ((beDecode msg) ^ k.d % k.pub.n) ∧
      rawPublicKeyOpBytes k.pub sig = .ok msg := by
  have hp0 := Nat.ne_zero_of_lt vk.hp2
  have hq0 := Nat.ne_zero_of_lt vk.hq2
  obtain ⟨hr1, hr2⟩ := rawPrivateKeyOp_root vk hst hrnd (beDecode msg)
  refine ⟨beEncode (numBytes k.pub.n) (rawPrivateKeyOp k st rnd (beDecode msg)).1,
    (rawPrivateKeyOp k st rnd (beDecode msg)).2, ?_, rawPrivateKeyOp_blindOk vk hst hrnd _, ?_, ?_⟩
  · unfold rawPrivateKeyOpBytes
    have : ¬ beDecode msg ≥ k.pub.n := by omega
    simp only [hl, ne_eq, not_true_eq_false, if_false, this, hp0, hq0, or_self]
  · rw [vk.root_unique hr1 hr2]
  · rw [rawPublicKeyOpBytes_ok_iff]
    have hlt : (rawPrivateKeyOp k st rnd (beDecode msg)).1 < 256 ^ numBytes k.pub.n :=
      Nat.lt_trans hr1 (lt_pow_numBytes _)
    refine ⟨length_beEncode _ _, ?_, ?_⟩
    · rw [beDecode_beEncode_of_lt _ _ hlt]; exact hr1
    · rw [beDecode_beEncode_of_lt _ _ hlt]
      rw [Nat.mod_eq_of_modEq hr2 hv, ← hl, beEncode_beDecode]

end Tls.Rsa
