import TlsProofs.Transcript
/-
  What the C04 proofs need of the flow scripts of TlsModel/Transcript.lean, by argument: the optional
  parts of a flow are plain messages, so its skeleton of Finished and restart events is the same for
  all options (`sk_flowPrefix`).  From it: every flow script has one Finished per direction
  (`flowScript_twoFins`, the hypothesis of `both_complete_of_twoFins`) and a HelloRetryRequest flow
  restarts once, after its first message (`hrr_script`, the hypothesis of `run_restart_head`).
-/
namespace Tls.Transcript

def sk (l : List Ev) : List Ev := l.filter fun | .fin _ | .restart => true | _ => false

theorem sk_append (a b : List Ev) : sk (a ++ b) = sk a ++ sk b := List.filter_append ..

theorem sk_opt_msg (b : Bool) (s : Side) (k : Kind) : sk (opt b [.msg s k]) = [] := by
  cases b <;> rfl

def isHrrFlow (f : Flow) : Bool := f == .hrr13 || f == .pskHrr13

theorem sk_flowPrefix (f : Flow) (o : Opts) :
    sk (flowPrefix f o) = (if isHrrFlow f then [.restart] else []) ++ [.fin (lastFin f).other] := by
  cases f <;> simp only [flowPrefix, sk_append, sk_opt_msg] <;> rfl

theorem noFin_of_sk {l : List Ev} {d : Side} (h : .fin d ∉ sk l) : noFin d l = true :=
  List.all_eq_true.mpr fun ev hev => by
    cases ev <;> simp only [isFin, Bool.not_false, Bool.not_eq_true', beq_eq_false_iff_ne]
    rintro rfl
    exact h (List.mem_filter.mpr ⟨hev, rfl⟩)

theorem noRestart_of_sk {l : List Ev} (h : .restart ∉ sk l) : noRestart l = true :=
  List.all_eq_true.mpr fun _ hev => bne_iff_ne.mpr fun he =>
    h (List.mem_filter.mpr ⟨he ▸ hev, rfl⟩)

theorem twoFins_of_sk {p pre : List Ev} {z : Side} (h : sk p = pre ++ [.fin z.other])
    (hpre : ∀ d, .fin d ∉ pre) : TwoFins (p ++ [.fin z]) z := by
  obtain ⟨l₁, l₂, rfl, h₁, h₂⟩ := List.filter_eq_append_iff.mp h
  obtain ⟨m₁, m₂, rfl, hm₁, -, hm₂⟩ := List.filter_eq_cons_iff.mp h₂
  have ha : sk (l₁ ++ m₁) = pre := by
    rw [sk_append, sk, sk, h₁, List.filter_eq_nil_iff.mpr hm₁, List.append_nil]
  refine ⟨l₁ ++ m₁, m₂, by simp, fun d => noFin_of_sk (ha ▸ hpre d), fun d => noFin_of_sk ?_,
    noRestart_of_sk ?_⟩ <;> simp [sk, hm₂]

theorem flowScript_twoFins (f : Flow) (o : Opts) : TwoFins (flowScript f o) (lastFin f) :=
  twoFins_of_sk (sk_flowPrefix f o) fun d => by cases isHrrFlow f <;> simp

theorem hrr_script {f : Flow} (o : Opts) (hf : isHrrFlow f = true) :
    ∃ rest, flowScript f o = .msg .client .clientHello :: .restart :: rest ∧ noRestart rest = true := by
  obtain ⟨rest, hscript⟩ : ∃ rest, flowPrefix f o = .msg .client .clientHello :: .restart :: rest :=
    match f, hf with
    | .hrr13, _ => ⟨_, rfl⟩
    | .pskHrr13, _ => ⟨_, rfl⟩
  refine ⟨rest ++ [.fin (lastFin f)], by rw [flowScript, hscript]; rfl, noRestart_of_sk ?_⟩
  have := sk_flowPrefix f o
  rw [hscript, hf] at this
  rw [sk_append, show sk rest = _ from (List.cons.inj this).2]
  simp [sk]

theorem hrr_run_shape {P : Prims} {me : Side} {B : Beh} {f : Flow} {o : Opts} {input : List Wire}
    {e : EP} (hf : isHrrFlow f = true) (h : runSide P me B (flowScript f o) input = .ok e) :
    ∃ ch1 rest, e.pre = [ch1] ∧ ch1.htype = Kind.clientHello.htype ∧ ch1.WF ∧
      e.tr = ⟨Kind.messageHash.htype, P.H (encAll [ch1])⟩ :: rest := by
  obtain ⟨rest, hscript, hk⟩ := hrr_script o hf
  exact run_restart_head hk (hscript ▸ h)

end Tls.Transcript
