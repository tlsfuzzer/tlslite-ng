import TlsModel.Msgs
import TlsProofs.FmtRoundTrip
/-
  `encode` succeeds exactly on the well-shaped values whose fields all fit (it never wraps or
  truncates); a well-formed format round-trips through the model of its real parser (`Msgs.Msg.decode`).
-/
namespace Tls.Fmt

theorem isSome_bind₂ {α : Type} (x y : Option α) (k : α → α → α) :
    (x.bind fun a => y.bind fun c => some (k a c)).isSome = (x.isSome && y.isSome) := by
  cases x <;> cases y <;> rfl

theorem isSome_ite {α : Type} (c : Prop) [Decidable c] (a : α) :
    (if c then some a else none).isSome = decide c := by
  by_cases h : c
  · rw [if_pos h, decide_eq_true h]; rfl
  · rw [if_neg h, decide_eq_false h]; rfl

theorem and_and_and_comm (a b c d : Bool) : (a && b && (c && d)) = (a && c && (b && d)) := by
  cases a <;> cases b <;> cases c <;> rfl

theorem encodeMany_isSome (e : Val → Option Bytes) (s p : Val → Bool)
    (h1 : ∀ h, (e h).isSome = (s h && p h)) :
    ∀ v, (encodeMany e v).isSome = (allMany s v && allMany p v) := by
  intro v
  induction v with
  | nil => rfl
  | cons hd tl _ iht =>
    rw [encodeMany_cons, isSome_bind₂, h1, iht]
    exact and_and_and_comm _ _ _ _
  | _ => rfl

theorem encode_isSome (f : Fmt) (t : Nat) (v : Val) :
    (encode f t v).isSome = (shape f t v && fits f t v) := by
  induction f generalizing t v with
  | unit => cases v <;> rfl
  | uint n =>
    cases v with
    | nat x => exact isSome_ite _ _
    | _ => rfl
  | bytes n =>
    cases v with
    | bytes b =>
      show (if b.length = n then some b else none).isSome = ((b.length == n) && true)
      rw [isSome_ite, Bool.and_true]
      exact (Bool.beq_eq_decide_eq _ _).symm
    | _ => rfl
  | rest => cases v <;> rfl
  | pair f g ihf ihg =>
    cases v with
    | pair v1 v2 =>
      rw [encode_pair_eq, isSome_bind₂, ihf, ihg]
      exact and_and_and_comm _ _ _ _
    | _ => rfl
  | lenPref ll f ih =>
    show _ = (shape f t v && (fits f t v && decide (encLen f t v < 256 ^ ll)))
    rw [encode_lenPref_eq, ← Bool.and_assoc, ← ih]
    cases hf : encode f t v with
    | none => rfl
    | some c =>
      -- the length test of `encode` is the one `fits` makes on `encLen`
      rw [← encode_length f t v c hf]
      exact (isSome_ite _ _).trans (Bool.true_and _).symm
  | many f ih => exact encodeMany_isSome _ _ _ (ih t) v
  | optTail f ih =>
    cases v with
    | none => rfl
    | some w => exact ih t w
    | _ => rfl
  | tagged n f ih =>
    cases v with
    | pair a w =>
      cases a with
      | nat x =>
        show _ = (shape f x w && (decide (x < 256 ^ n) && fits f x w))
        rw [encode_tagged_eq, Bool.and_left_comm, ← ih]
        by_cases hx : x < 256 ^ n
        · rw [if_pos hx, decide_eq_true hx]; cases encode f x w <;> rfl
        · rw [if_neg hx, decide_eq_false hx]; rfl
      | _ => rfl
    | _ => rfl
  | caseOf k f g ihf ihg =>
    simp only [encode, shape, fits]
    by_cases hk : t = k
    · simp only [hk, if_true]; exact ihf k v
    · simp only [hk, if_false]; exact ihg t v
  | fail => rfl

end Tls.Fmt

namespace Tls.Msgs
open Tls.Fmt

/-- Holds for the rows of `table` (`C15.msgs_table_wf`) and equally for the `ext:` / `extdata:` formats of
    `lookup` (`C15.msgs_ext_wf`, `C15.msgs_extBody_wf`), which are not in the table. -/
theorem Msg.decode_encode (m : Msg) (hwf : wf m.exact m.fmt = true)
    (v : Val) (b r : Bytes) (he : m.encode v = some b) (hp : m.post v = true)
    (hd : noDupTags m.fmt 0 v = true)
    (hr : m.exact = true → r = []) : m.decode (b ++ r) = .ok (v, r) := by
  rw [Msg.decode, decode_of_encode m.fmt m.exact 0 v b r hwf he hr]
  by_cases hx : m.exact = true
  · simp [hr hx, hp, hd]
  · simp [hx, hp, hd]

end Tls.Msgs
