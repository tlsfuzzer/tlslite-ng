import TlsProofs.OrderSafety
import TlsProofs.OrderSim
/-
  C06: which messages change the read keys and that they got through `_getMsg`
  unchanged and aligned (`stepK0_bump`, `stepK_bump`), and the simulation between the
  post-handshake automaton and the post-handshake grammar `postSpec`: `absP` reads the grammar's position
  off a run, `o.leads p` is where outcome `o` takes position `p`, and per position the automaton's answer
  leads where `postSpec` says (`sim_done`, `sim_cv`, `sim_fin`, `sim_closing`); `postRun_feed` adds the pieces.
-/
namespace Tls.Order

/-- an outcome that installs new read keys -/
def Out.bumps : Out → Bool
  | .next _ b => b
  | .post b => b
  | _ => false

theorem Out.accepted_of_bumps (o : Out) (h : o.bumps = true) : o.accepted = true := by
  cases o <;> first | rfl | cases h

theorem mustAlign_isHandshake (k : MsgKind) (h : mustAlign k = true) : k.isHandshake = true := by
  cases k <;> first | rfl | cases h

theorem stepHs_bump (c : Cfg) (s : St) (k : MsgKind) (h : (stepHs c s k).toOut.bumps = true) :
    (k = .ccs ∧ expectsCCS c s = true) ∨
    (k.isHandshake = true ∧ mustAlign k = true ∧ (firstHello c s k = true ∨ v13Active c s = true)) := by
  revert h
  fun_cases stepHs c s k <;> simp [HsOut.toOut, Out.bumps]
  -- the ≤ 1.2 ChangeCipherSpec
  next hk hx => exact Or.inl ⟨by simpa using hk, hx⟩
  -- a message the flow goes on with
  next s' b hf =>
    intro hb; subst hb
    have := flow_bump c s s' k hf
    exact Or.inr ⟨mustAlign_isHandshake k this.1, this⟩

theorem PostOut.post_of_bumps (o : PostOut) (h : o.toOut.bumps = true) : o = .post true := by
  cases o <;> simp [PostOut.toOut, Out.bumps] at h ⊢
  exact h

theorem stepDone_bump (c : Cfg) (n : Nat) (k : MsgKind) (h : stepDone c n k = .post true) :
    k = .key_update ∧ c.isTls13 = true := by
  revert h
  fun_cases stepDone c n k <;> simp_all

theorem stepClosing_bump (c : Cfg) (k : MsgKind) (h : stepClosing c k = .post true) :
    k = .key_update ∧ c.isTls13 = true := by
  revert h
  fun_cases stepClosing c k <;> simp_all

theorem stepPha_bump (c : Cfg) (cv : Bool) (k : MsgKind) : stepPha c cv k ≠ .post true := by
  fun_cases stepPha c cv k <;> simp

theorem stepPost_bump (c : Cfg) (s : St) (n : Nat) (k : MsgKind) (h : stepPost c s n k = .post true) :
    k = .key_update ∧ c.isTls13 = true := by
  unfold stepPost at h
  split at h
  · exact absurd h (stepPha_bump c true k)
  · exact absurd h (stepPha_bump c false k)
  · exact stepClosing_bump c k h
  · exact stepDone_bump c n k h

theorem stepK0_bump (c : Cfg) (s : St) (n : Nat) (k : MsgKind) (h : (stepK0 c s n k).bumps = true) :
    (k = .ccs ∧ expectsCCS c s = true) ∨
    (k.isHandshake = true ∧ mustAlign k = true ∧ (firstHello c s k = true ∨ v13Active c s = true)) := by
  cases hp : s.isPost
  · by_cases hd : s = .dead
    · rw [hd] at h; cases h
    · rw [stepK0_pre c s n k hp hd] at h; exact stepHs_bump c s k h
  · rw [stepK0_post c s n k hp] at h
    obtain ⟨hk, h13⟩ := stepPost_bump c s n k (PostOut.post_of_bumps _ h)
    have hv : v13Active c s = true := by
      rcases St.isPost_cases hp with rfl | rfl | rfl | rfl <;> simp [v13Active, h13]
    rw [hk]
    exact Or.inr ⟨rfl, rfl, Or.inr hv⟩

theorem apply_epoch (q : Run) (o : Out) :
    (apply q o).epoch = (if o.bumps then q.epoch + 1 else q.epoch) ∧
    (o.bumps = true → (apply q o).pending = q.pending) := by
  cases o with
  | next s b =>
    cases b <;> simp only [apply, Out.bumps] <;> (split <;> simp)
  | post b => cases b <;> simp [apply, Out.bumps]
  | _ => simp [apply, Out.bumps]

/-- a message that changes the read keys got through `_getMsg` unchanged, and a handshake message
    among them ended its record: with `plus` the alignment check of `_getMsg` (or the flow's check of
    the first hello) would have fired -/
theorem stepK_bump (c : Cfg) (s : St) (n : Nat) (k : MsgKind) (p : Bool) (h : (stepK c s n k p).bumps = true) :
    stepK c s n k p = stepK0 c s n k ∧ (k.isHandshake = true → p = false) := by
  revert h
  fun_cases stepK c s n k p
  · simp [Out.bumps]
  · simp [Out.bumps]
  · intro h
    refine ⟨rfl, fun hh => ?_⟩
    rcases stepK0_bump c s n k h with ⟨hc, _⟩ | ⟨_, hm, hf⟩
    · rw [hc] at hh; cases hh
    · have hacc := Out.accepted_of_bumps _ h
      cases p
      · rfl
      · simp_all

def absP (r : Run) : PSt :=
  match r.st with
  | .done => .idle r.outstanding
  | .phaWaitCV => .wantCV r.outstanding
  | .phaWaitFin => .wantFin r.outstanding
  | .closing => .closing r.outstanding
  | _ => .ended

/-- the unanswered CertificateRequests a grammar position counts -/
def PSt.count : PSt → Nat
  | .idle n | .wantCV n | .wantFin n | .closing n => n
  | .ended => 0

/-- `none`: a fatal alert of ours -/
def PostOut.leads (o : PostOut) (p : PSt) : Option PSt :=
  match o with
  | .peerClosed | .acceptClosed => some .ended
  | .abort _ => none
  | .deliver | .ignore | .warn | .post _ => some p
  | .phaStart cv => some (if cv then .wantCV (p.count - 1) else .wantFin (p.count - 1))
  | .phaCV => some (.wantFin p.count)
  | .phaFin => some (.idle p.count)

theorem PostOut.leads_none (o : PostOut) (p : PSt) (h : o.leads p = none) : ∃ a, o = .abort a := by
  cases o <;> first | exact ⟨_, rfl⟩ | cases h

theorem sim_done (c : Cfg) (n : Nat) (k : MsgKind) :
    (stepDone c n k).leads (.idle n) = postSpec c (.idle n) (.msg k) := by
  fun_cases stepDone c n k <;> simp_all [postSpec, PostOut.leads, PSt.count, renegAttempt]
  -- the server branch: model and grammar test `outstanding > 0` and the kind in opposite orders
  next h => intro hk; exact Nat.eq_zero_of_not_pos fun hn => by simp_all

theorem sim_cv (c : Cfg) (n : Nat) (k : MsgKind) :
    (stepPha c true k).leads (.wantCV n) = postSpec c (.wantCV n) (.msg k) := by
  fun_cases stepPha c true k <;> simp_all [postSpec, PostOut.leads, PSt.count]

theorem sim_fin (c : Cfg) (n : Nat) (k : MsgKind) :
    (stepPha c false k).leads (.wantFin n) = postSpec c (.wantFin n) (.msg k) := by
  fun_cases stepPha c false k <;> simp_all [postSpec, PostOut.leads, PSt.count]

theorem sim_closing (c : Cfg) (n : Nat) (k : MsgKind) :
    (stepClosing c k).leads (.closing n) = postSpec c (.closing n) (.msg k) := by
  fun_cases stepClosing c k <;> simp_all [postSpec, PostOut.leads, renegAttempt]

theorem stepDone_shape (c : Cfg) (n : Nat) (k : MsgKind) :
    stepDone c n k ≠ .phaCV ∧ stepDone c n k ≠ .phaFin := by
  fun_cases stepDone c n k <;> simp

theorem stepPha_shape (c : Cfg) (cv : Bool) (k : MsgKind) :
    (∀ b, stepPha c cv k ≠ .phaStart b) ∧ (cv = true → stepPha c cv k ≠ .phaFin) ∧
    (cv = false → stepPha c cv k ≠ .phaCV) := by
  fun_cases stepPha c cv k <;> simp_all

theorem stepClosing_shape (c : Cfg) (k : MsgKind) :
    (∀ b, stepClosing c k ≠ .phaStart b) ∧ stepClosing c k ≠ .phaCV ∧ stepClosing c k ≠ .phaFin := by
  fun_cases stepClosing c k <;> simp

theorem sim_post (c : Cfg) (r : Run) (k : MsgKind) (hp : r.st.isPost = true) :
    (stepPost c r.st r.outstanding k).leads (absP r) = postSpec c (absP r) (.msg k) := by
  unfold absP stepPost
  rcases St.isPost_cases hp with hs | hs | hs | hs <;> rw [hs]
  · exact sim_done c _ k
  · exact sim_cv c _ k
  · exact sim_fin c _ k
  · exact sim_closing c _ k

theorem absP_count (q : Run) (hp : q.st.isPost = true) : (absP q).count = q.outstanding := by
  unfold absP
  rcases St.isPost_cases hp with hs | hs | hs | hs <;> rw [hs] <;> rfl

theorem apply_leads (q : Run) (o : PostOut) (p' : PSt) (hp : q.st.isPost = true)
    (h : o.leads (absP q) = some p') :
    absP (apply q o.toOut) = p' := by
  have hc := absP_count q hp
  cases o <;> simp [PostOut.leads, hc] at h <;> subst h <;> simp [PostOut.toOut, apply, absP, St.isPost]
  -- what is left: the parts of an authentication flight
  · rename_i cv; cases cv <;> rfl
  · cases q.hsDone <;> simp
  · cases q.hsDone <;> simp

theorem absP_prep (c : Cfg) (r : Run) (m : Msg) : absP (clearPending (countRecord c r m) m) = absP r := by
  obtain ⟨f1, _, _, _, _, _, _, _, _, f10, _⟩ := prep_fields c r m
  unfold absP; rw [f1, f10]

theorem post_not_dead (r : Run) (hp : r.st.isPost = true) : (r.st == St.dead) = false := by
  rcases St.isPost_cases hp with hs | hs | hs | hs <;> rw [hs] <;> rfl

/-- one piece on an established connection, seen from the grammar: the head of a fragmented
    message is invisible, any other piece is one step of `postSpec` -/
theorem postRun_feed (c : Cfg) (r : Run) (m : Msg) (es : List Ev) (hp : r.st.isPost = true)
    (h' : (feed c r m).alert = none) :
    postRun c (absP r) (evKinds (.msg m :: es)) = postRun c (absP (feed c r m)) (evKinds es) := by
  have hnd := post_not_dead r hp
  have hq := absP_prep c r m
  obtain ⟨f1, _⟩ := prep_fields c r m
  unfold feed at h' ⊢
  simp only [hnd, Bool.false_eq_true, if_false] at h' ⊢
  generalize clearPending (countRecord c r m) m = q at *
  have hqp : q.st.isPost = true := by rw [f1]; exact hp
  rcases step_cases c r m with ⟨hs, hnh⟩ | ⟨hs, hh⟩ | ⟨a, hs⟩ | ⟨a, hs⟩
  · simp only [Msg.isHead] at hnh
    simp only [evKinds, hnh, Bool.false_eq_true, if_false, postRun]
    rw [hs, stepK0_post c r.st r.outstanding m.kind hp] at h' ⊢
    cases hl : (stepPost c r.st r.outstanding m.kind).leads (absP r) with
    | none =>
      obtain ⟨a, ha⟩ := PostOut.leads_none _ _ hl
      rw [ha] at h'; simp [PostOut.toOut, apply] at h'
    | some p' =>
      rw [← sim_post c r m.kind hp, hl]
      rw [← hq] at hl
      rw [apply_leads q _ p' hqp hl]
  · simp only [Msg.isHead] at hh
    simp only [evKinds, hh, if_true]
    rw [hs]
    simp only [apply]
    rw [← hq]; rfl
  all_goals rw [hs] at h'; simp [apply] at h'

theorem postRun_feedEv (c : Cfg) (r : Run) (e : Ev) (es : List Ev) (hp : r.st.isPost = true)
    (h' : (feedEv c r e).alert = none) :
    postRun c (absP r) (evKinds (e :: es)) = postRun c (absP (feedEv c r e)) (evKinds es) := by
  cases e with
  | msg m => exact postRun_feed c r m es hp h'
  | requestPha | close =>
    simp only [absP, feedEv, evKinds, postRun]
    rcases St.isPost_cases hp with hs | hs | hs | hs <;> simp [hs, postSpec]
    -- a request at `done`: automaton and grammar test the same condition
    all_goals split <;> simp [hs]

theorem postRun_ended (c : Cfg) (l : List EvKind) : postRun c .ended l = some .ended := by
  induction l with
  | nil => rfl
  | cons e l ih => simpa [postRun, postSpec] using ih

theorem postRun_runEv (c : Cfg) : ∀ (es : List Ev) (r : Run), Inv r → (r.st.isPost = true ∨ r.st = .dead) →
    (runEv c r es).alert = none → postRun c (absP r) (evKinds es) = some (absP (runEv c r es)) := by
  intro es
  induction es with
  | nil => intro r _ _ _; rfl
  | cons e es ih =>
    intro r hinv hp h'
    rcases hp with hp | hd
    · simp only [runEv, List.foldl_cons] at ih h' ⊢
      have hinv' := inv_feedEv c r e hinv
      -- a fatal alert at this event would shut the connection down and stay to the end
      have h1 : (feedEv c r e).alert = none := by
        cases ha : (feedEv c r e).alert with
        | none => rfl
        | some a =>
          have := runEv_dead c es _ (hinv'.alertDead (by rw [ha]; rfl)).1
          simp only [runEv] at this
          rw [this, ha] at h'; cases h'
      rw [postRun_feedEv c r e es hp h1]
      exact ih (feedEv c r e) hinv' (feedEv_post_or_dead c r e hp) h'
    · rw [runEv_dead c _ r hd]
      simp only [absP, hd]
      exact postRun_ended c _

end Tls.Order
