import TlsProofs.OrderRun
/-
  C06: run-level invariants (no data before completion, aborts are final,
  completion is never left except into `dead`), for runs of pieces (`feed`, `run`) and of pieces
  and local actions (`feedEv`, `runEv`).
-/
namespace Tls.Order

theorem PostOut.target_post (o : PostOut) :
    (∀ s' b, o.toOut = .next s' b → s'.isPost = true) ∧ (∀ s', o.toOut = .phaStart s' → s'.isPost = true) := by
  refine ⟨fun s' b h => ?_, fun s' h => ?_⟩ <;> cases o <;> cases h
  · rfl
  · rfl
  · rename_i cv; cases cv <;> rfl

theorem step_post_target (c : Cfg) (r : Run) (m : Msg) (hp : r.st.isPost = true) :
    (∀ s' b, step c r m = .next s' b → s'.isPost = true) ∧
    (∀ s', step c r m = .phaStart s' → s'.isPost = true) := by
  rcases step_cases c r m with ⟨h, _⟩ | ⟨h, _⟩ | ⟨a, h⟩ | ⟨a, h⟩
  · rw [h, stepK0_post c r.st r.outstanding m.kind hp]; exact PostOut.target_post _
  all_goals rw [h]; simp

/-- `noData`: nothing is delivered and no post-handshake position is entered before `_handshakeDone`; `hsPost`, the
    converse: a live handshake position has not completed; `atDone`: an established connection is open (what
    `_handshakeStart` tests); `alertDead`: a fatal alert of ours is the end -/
structure Inv (r : Run) : Prop where
  noData : r.hsDone = false → r.delivered = 0 ∧ r.st.isPost = false
  atDone : r.st.isPost = true → r.hsDone = true ∧ r.closed = false
  alertDead : r.alert.isSome = true → r.st = .dead ∧ r.closed = true
  hsPost : r.st.isPost = false → r.st ≠ .dead → r.hsDone = false

theorem inv_start (c : Cfg) : Inv (start c) := by
  constructor <;> simp [start] <;> (split <;> simp [St.isPost])

theorem inv_feed (c : Cfg) (r : Run) (m : Msg) (h : Inv r) : Inv (feed c r m) := by
  unfold feed
  by_cases hd : (r.st == St.dead) = true
  · simp only [hd, if_true]; exact h
  simp only [hd]
  obtain ⟨f1, f2, f3, f4, f5, _⟩ := prep_fields c r m
  generalize clearPending (countRecord c r m) m = q at *
  have hnd : r.st ≠ .dead := by simpa using hd
  have hna : r.alert.isSome = false := Bool.eq_false_iff.2 fun ha => hnd (h.alertDead ha).1
  have hdp : St.dead.isPost = false := rfl
  cases hq : r.st.isPost
  · -- before completion nothing was delivered and `_getMsg` answers as a handshake position does:
    -- the handshake completes exactly by a step into a post-handshake position
    have hdone := h.hsPost hq hnd
    have hdel := (h.noData hdone).1
    rcases step_hsOut c r m hq with ⟨o, e⟩ | e <;> rw [e]
    · cases o with
      | next s b => cases hsp : s.isPost <;> constructor <;> simp [HsOut.toOut, apply, f2, f3, f5, hna, hsp, hdone, hdel]
      | _ => constructor <;> simp [HsOut.toOut, apply, f1, f2, f3, f5, hna, hdp, hdone, hdel, hq]
    · constructor <;> simp [apply, f1, f2, f3, f5, hna, hdone, hdel, hq]
  · -- after completion every target is a post-handshake position again, or `dead`
    obtain ⟨hdone, hcl⟩ := h.atDone hq
    have ht := step_post_target c r m hq
    cases ho : step c r m <;> constructor <;> simp [apply, f1, f2, f3, f4, f5, hna, hdone, hcl, hq, hdp]
    · rw [ht.1 _ _ ho]; nofun
    · rw [ht.2 _ ho]; nofun

theorem inv_run (c : Cfg) (ms : List Msg) : ∀ r, Inv r → Inv (run c r ms) := by
  induction ms with
  | nil => intro r h; exact h
  | cons m ms ih => intro r h; exact ih _ (inv_feed c r m h)

theorem inv_start_run (c : Cfg) (ms : List Msg) : Inv (run c (start c) ms) :=
  inv_run c ms _ (inv_start c)

theorem run_append (c : Cfg) (r : Run) (ms more : List Msg) :
    run c r (ms ++ more) = run c (run c r ms) more :=
  List.foldl_append ..

theorem run_dead (c : Cfg) (ms : List Msg) : ∀ r, r.st = .dead → run c r ms = r := by
  induction ms with
  | nil => intro r _; rfl
  | cons m ms ih =>
    intro r h
    have : feed c r m = r := by simp [feed, h]
    simp only [run, List.foldl_cons] at ih ⊢
    rw [this]; exact ih r h

theorem feed_post_or_dead (c : Cfg) (r : Run) (m : Msg) (hp : r.st.isPost = true) :
    (feed c r m).st.isPost = true ∨ (feed c r m).st = .dead := by
  have hnd : r.st ≠ .dead := by intro e; simp [e, St.isPost] at hp
  rw [feed_st c r m hnd]
  have ht := step_post_target c r m hp
  cases ho : step c r m <;> simp [Out.target, hp]
  · exact Or.inl (ht.1 _ _ ho)
  · exact Or.inl (ht.2 _ ho)

theorem apply_done (q : Run) (o : Out) (hd : q.hsDone = true) :
    (apply q o).accAtDone = q.accAtDone ∧ (apply q o).hsDone = true := by
  cases o <;> simp [apply, hd]

theorem feed_stays_post (c : Cfg) (r : Run) (m : Msg) (hp : r.st.isPost = true) (hd : r.hsDone = true) :
    ((feed c r m).st.isPost = true ∨ (feed c r m).st = .dead) ∧ (feed c r m).accAtDone = r.accAtDone ∧
    (feed c r m).hsDone = true := by
  refine ⟨feed_post_or_dead c r m hp, ?_⟩
  obtain ⟨_, f2, _, _, _, f6, _⟩ := prep_fields c r m
  unfold feed
  split
  · exact ⟨rfl, hd⟩
  · rw [← f6]; exact apply_done _ _ (f2.trans hd)

/-- the completion record (`accAtDone`, `hsDone`) is never rewritten: no second handshake -/
theorem post_stays (c : Cfg) (ms : List Msg) : ∀ r, r.st.isPost = true → r.hsDone = true →
    ((run c r ms).st.isPost = true ∨ (run c r ms).st = .dead) ∧ (run c r ms).accAtDone = r.accAtDone ∧
    (run c r ms).hsDone = true := by
  induction ms with
  | nil => intro r h hd; exact ⟨Or.inl h, rfl, hd⟩
  | cons m ms ih =>
    intro r h hd
    simp only [run, List.foldl_cons] at ih ⊢
    have key := feed_stays_post c r m h hd
    rcases key.1 with hk | hk
    · have := ih (feed c r m) hk key.2.2
      exact ⟨this.1, by rw [this.2.1, key.2.1], this.2.2⟩
    · have e : List.foldl (feed c) (feed c r m) ms = feed c r m := run_dead c ms _ hk
      rw [e]
      exact ⟨Or.inr hk, key.2.1, key.2.2⟩

theorem feedEv_dead (c : Cfg) (r : Run) (e : Ev) (h : r.st = .dead) : feedEv c r e = r := by
  cases e <;> simp [feedEv, feed, h]

theorem runEv_dead (c : Cfg) (es : List Ev) : ∀ r, r.st = .dead → runEv c r es = r := by
  induction es with
  | nil => intro r _; rfl
  | cons e es ih =>
    intro r h
    simp only [runEv, List.foldl_cons] at ih ⊢
    rw [feedEv_dead c r e h]; exact ih r h

theorem feedEv_post_or_dead (c : Cfg) (r : Run) (e : Ev) (hp : r.st.isPost = true) :
    (feedEv c r e).st.isPost = true ∨ (feedEv c r e).st = .dead := by
  cases e with
  | msg m => exact feed_post_or_dead c r m hp
  | requestPha | close => simp only [feedEv]; split <;> first | exact Or.inl hp | exact Or.inl rfl

theorem inv_feedEv (c : Cfg) (r : Run) (e : Ev) (h : Inv r) : Inv (feedEv c r e) := by
  cases e with
  | msg m => exact inv_feed c r m h
  | requestPha =>
    simp only [feedEv]; split
    · exact ⟨h.noData, h.atDone, h.alertDead, h.hsPost⟩
    · exact h
  | close =>
    simp only [feedEv]; split
    · next hd =>
      have hd : r.st = .done := by simpa using hd
      have hp := h.atDone (by rw [hd]; rfl)
      refine ⟨fun hh => ?_, fun _ => hp, fun ha => ?_, nofun⟩
      · rw [hp.1] at hh; cases hh
      · have := (h.alertDead ha).1; rw [hd] at this; cases this
    · exact h

end Tls.Order
