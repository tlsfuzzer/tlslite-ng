import TlsProofs.AuthSig
/-
  C05: what an accepting verification site has established (TLS 1.3 CertificateVerify on both sides, delegated
  credential, post-handshake authentication, TLS ≤ 1.2 CertificateVerify and ServerKeyExchange), as
  `Proved C key msg sig`: some algorithm of `key` verified `sig` on `f msg` for an `f` with `EncFn C f` — a public
  encoding built from hashing, constant prefixes, truncation and the legacy MD5‖SHA-1 pair, the only things the code
  does to a message before the key operation sees it.
-/
namespace Tls.Auth
open Gen

inductive EncFn (C : Crypto) : (Bytes → Bytes) → Prop
  | id : EncFn C (fun m => m)
  | hash (h : HashName) {f : Bytes → Bytes} : EncFn C f → EncFn C (fun m => C.hash h (f m))
  | pref (p : Bytes) {f : Bytes → Bytes} : EncFn C f → EncFn C (fun m => p ++ f m)
  | take (n : Nat) {f : Bytes → Bytes} : EncFn C f → EncFn C (fun m => (f m).take n)
  | legacy {f : Bytes → Bytes} : EncFn C f → EncFn C (fun m => C.hash .md5 (f m) ++ C.hash .sha1 (f m))

theorem EncFn.comp {C : Crypto} {g : Bytes → Bytes} (hg : EncFn C g) :
    ∀ {f : Bytes → Bytes}, EncFn C f → EncFn C (fun m => g (f m)) := by
  induction hg with
  | id => intro f hf; exact hf
  | hash h _ ih => intro f hf; exact EncFn.hash h (ih hf)
  | pref p _ ih => intro f hf; exact EncFn.pref p (ih hf)
  | take n _ ih => intro f hf; exact EncFn.take n (ih hf)
  | legacy _ ih => intro f hf; exact EncFn.legacy (ih hf)

theorem EncFn.ite {C : Crypto} {c : Prop} [Decidable c] {f g : Bytes → Bytes} (hf : EncFn C f)
    (hg : EncFn C g) : EncFn C (fun m => if c then f m else g m) := by
  by_cases h : c
  · simpa only [if_pos h] using hf
  · simpa only [if_neg h] using hg

/-- the antecedent is the goal an accepting arm of `fun_cases` leaves, so that the arm is closed by a term
    (`Proved.of_ok` likewise) -/
theorem EncFn.of_ok {C : Crypto} {f : Bytes → Bytes} (hf : EncFn C f) {x vb : Bytes} :
    (.ok (f x) : Except Reject Bytes) = .ok vb → ∃ f, EncFn C f ∧ vb = f x :=
  fun h => ⟨f, hf, (Except.ok.inj h).symm⟩

def Proved (C : Crypto) (key : Nat) (msg sig : Bytes) : Prop :=
  ∃ (alg : SigAlg) (f : Bytes → Bytes), EncFn C f ∧ C.verify key alg (f msg) sig = true

theorem Proved.of_enc {C : Crypto} {key : Nat} {msg sig : Bytes} {g : Bytes → Bytes} (hg : EncFn C g)
    (h : Proved C key (g msg) sig) : Proved C key msg sig := by
  obtain ⟨alg, f, hf, hv⟩ := h
  exact ⟨alg, fun m => f (g m), hf.comp hg, hv⟩

theorem Proved.of_ok {C : Crypto} {key : Nat} {alg : SigAlg} {msg sig : Bytes} {f : Bytes → Bytes}
    (hf : EncFn C f) :
    (.ok (C.verify key alg (f msg) sig) : Except Reject Bool) = .ok true → Proved C key msg sig :=
  fun h => ⟨alg, f, hf, Except.ok.inj h⟩

theorem rsaVerify_true {C : Crypto} {c : Cert} {sig data : Bytes} {a : VArgs} :
    rsaVerify C c sig data a = .ok true → Proved C c.key data sig := by
  fun_cases rsaVerify C c sig data a
  -- the arms that can return `true`: 2 PKCS#1 with SHA-1 (either DigestInfo header), 3 PKCS#1 with another hash,
  -- 4 PKCS#1 on the bare bytes, 5 PSS
  case case2 =>
    intro h
    rcases Bool.or_eq_true_iff.mp (Except.ok.inj h) with h | h <;> exact ⟨_, _, .pref _ .id, h⟩
  case case3 => exact .of_ok (.pref _ .id)
  case case4 | case5 => exact .of_ok .id
  all_goals nofun

theorem ecdsaVerify_true {C : Crypto} {c : Cert} {sig data : Bytes}
    (h : ecdsaVerify C c sig data = .ok true) : Proved C c.key data sig :=
  ⟨_, _, .id, Except.ok.inj (ite_eq_right h nofun).2⟩

theorem keyVerify_true {C : Crypto} {c : Cert} {m : Method} {sig data : Bytes} {a : VArgs} :
    keyVerify C c m sig data a = .ok true → Proved C c.key data sig := by
  fun_cases keyVerify C c m sig data a
  -- 1, 2 RSA `verify`; 3, 6 RSA `hashAndVerify` (hashes first); 9, 10 ECDSA likewise; 15, 16 EdDSA `hashAndVerify` (which
  -- does not hash; 13, 14, its `verify`, raise); 19 DSA `verify`; the others raise or return `false`
  case case1 | case2 => exact rsaVerify_true
  case case3 | case6 => exact fun h => .of_enc (.hash _ .id) (rsaVerify_true h)
  case case9 => exact ecdsaVerify_true
  case case10 => exact fun h => .of_enc (.hash _ .id) (ecdsaVerify_true h)
  case case15 | case16 | case19 => exact .of_ok .id
  all_goals nofun

theorem calcVerifyBytes13_enc {C : Crypto} {t : Transcript} {sid : SchemeId} {prf : HashName} {tag : Bytes}
    {b : Bool} {vb : Bytes} : calcVerifyBytes C 4 t (some sid) prf tag b = .ok vb →
    ∃ f, EncFn C f ∧ vb = f (tbs13 tag (digest C prf t)) := by
  fun_cases calcVerifyBytes C 4 t (some sid) prf tag b
  -- 7: the scheme hashes itself (`intrinsic`); 8: the scheme names a hash
  case case7 => exact EncFn.id.of_ok
  case case8 => exact (EncFn.hash _ .id).of_ok
  -- the other branches belong to the other versions, or reject
  all_goals first | omega | nofun

theorem cv13Call_true {C : Crypto} {pk : Cert} {sid : SchemeId} {sig ctx : Bytes} {cc : Bool}
    {bp : Option SchemeId} : cv13Call C pk sid sig ctx cc bp = .ok true → Proved C pk.key ctx sig := by
  fun_cases cv13Call C pk sid sig ctx cc bp
  all_goals first | exact keyVerify_true | nofun

/-- `sid ← match o with | some x => pure x | none => throw e`, the step with which every site that names a scheme
    begins -/
theorem some_or_throw_bind_ok {β : Type} {o : Option SchemeId} {e : Reject} {f : SchemeId → Except Reject β} {b : β}
    (h : (match o with | some x => pure x >>= f | none => throw e >>= f) = .ok b) :
    ∃ sid, o = some sid ∧ f sid = .ok b := by
  cases o with
  | none => cases h
  | some sid => exact ⟨sid, rfl, h⟩

/-- what a TLS 1.3 client knows about a server chain it recorded (no delegated credential) -/
def ServerProof13 (C : Crypto) (chSig : List SchemeId) (chain : Chain) (tCV : Transcript) (prf : HashName)
    (cv : CertVerify) : Prop :=
  ∃ c rest sid, chain = c :: rest ∧ cv.scheme = some sid ∧ sid ∈ chSig ∧ compatible c 4 sid = true ∧
    Proved C c.key (tbs13 tagServer (digest C prf tCV)) cv.signature

/-- what a TLS 1.3 server knows about a client chain it recorded -/
def ClientProof13 (C : Crypto) (offered : List SchemeId) (chain : Chain) (tCV : Transcript) (prf : HashName)
    (cv : CertVerify) : Prop :=
  chain = [] ∨ ∃ c rest sid, chain = c :: rest ∧ cv.scheme = some sid ∧ sid ∈ offered ∧
    compatible c 4 sid = true ∧ Proved C c.key (tbs13 tagClient (digest C prf tCV)) cv.signature

theorem verifyCV13Server_ok {C : Crypto} {s : Settings} {offered : List SchemeId} {chain : Chain}
    {t : Transcript} {prf : HashName} {own : Option SchemeId} {cv : CertVerify} {ch : Chain}
    (h : verifyCV13Server C s offered chain t prf own cv = .ok ch) :
    ch = chain ∧ ClientProof13 C offered chain t prf cv := by
  unfold verifyCV13Server at h
  cases chain with
  | nil => exact ⟨(Except.ok.inj h).symm, .inl rfl⟩
  | cons c rest =>
    obtain ⟨sid, hsch, h⟩ := some_or_throw_bind_ok h
    simp only [guard_eq_ok, bind_eq_ok_iff, pure_or_throw_eq_ok, not_or, Decidable.not_not] at h
    obtain ⟨valid, hv, ⟨hval, hoff⟩, ctx, hvb, ok, hcall, rfl, rfl⟩ := h
    obtain ⟨f, hf, rfl⟩ := calcVerifyBytes13_enc hvb
    exact ⟨rfl, .inr ⟨c, rest, sid, rfl, hsch, hoff, sigHashes_cert_compatible hv hval,
      .of_enc hf (cv13Call_true hcall)⟩⟩

theorem checkCertChain_ok {s : Settings} {ver : Nat} {chain : Chain} {c : Cert} :
    checkCertChain s ver chain = .ok c → ∃ rest, chain = c :: rest := by
  fun_cases checkCertChain s ver chain <;> rintro ⟨⟩
  all_goals exact ⟨_, rfl⟩

theorem clientGetKeyFromChain_ok {s : Settings} {ver : Nat} {chain : Chain} {c : Cert}
    (h : clientGetKeyFromChain s ver chain = .ok c) : ∃ rest, chain = c :: rest := by
  unfold clientGetKeyFromChain at h
  cases chain with
  | nil => cases h
  | cons c0 rest => exact checkCertChain_ok h

theorem liftExc13_ok {α : Type} {r : Except Reject α} {x : α} : liftExc13 r = .ok x → r = .ok x := by
  fun_cases liftExc13 r <;> rintro ⟨⟩
  rfl

theorem verifyCV13Client_ok {C : Crypto} {s : Settings} {chSig : List SchemeId} {chain : Chain}
    {certBytes : Bytes} {t : Transcript} {prf : HashName} {cv : CertVerify} {ch : Chain}
    (h : verifyCV13Client C s chSig chain certBytes [] t prf cv = .ok ch) :
    ch = chain ∧ ServerProof13 C chSig chain t prf cv := by
  have h := liftExc13_ok h
  unfold verifyCV13ClientRaw at h
  obtain ⟨sid, hsch, h⟩ := some_or_throw_bind_ok h
  simp only [guard_eq_ok, bind_eq_ok_iff, pure_or_throw_eq_ok, pure_eq_ok, not_or, Decidable.not_not] at h
  obtain ⟨_, ctx, hvb, pk, hpk, _, valid, hv, ⟨h1, h2⟩, _, rfl, ok, hcall, rfl, rfl⟩ := h
  obtain ⟨rest, rfl⟩ := clientGetKeyFromChain_ok hpk
  obtain ⟨f, hf, rfl⟩ := calcVerifyBytes13_enc hvb
  exact ⟨rfl, pk, rest, sid, rfl, hsch, h1, sigHashes_cert_compatible hv h2, .of_enc hf (cv13Call_true hcall)⟩

theorem dcCall_true {C : Crypto} {cert : Cert} {sid : SchemeId} {sig ctx : Bytes} :
    dcCall C cert sid sig ctx = .ok true → Proved C cert.key ctx sig := by
  fun_cases dcCall C cert sid sig ctx
  all_goals first | exact keyVerify_true | nofun

theorem verifyDC_ok {C : Crypto} {cert : Cert} {certBytes : Bytes} {chSig chDc : List SchemeId}
    {dc : DelegatedCred} {cvScheme : SchemeId}
    (h : verifyDC C cert certBytes chSig chDc dc cvScheme = .ok ()) :
    dc.dcScheme ∈ chDc ∧ dc.algorithm ∈ chSig ∧ dc.dcScheme = cvScheme ∧
      Proved C cert.key (dcContext certBytes dc.credBytes dc.algorithm) dc.signature := by
  unfold verifyDC at h
  simp only [guard_eq_ok, bind_eq_ok_iff, pure_or_throw_eq_ok, Decidable.not_not, ne_eq] at h
  obtain ⟨h1, h2, h3, ok, hcall, rfl, _⟩ := h
  exact ⟨h1, h2, h3, dcCall_true hcall⟩

/-- what an accepted PHA answer has established; this file has the key operation (`phaCall_true`), the conclusion is
    `pha_chain_after_finished` in Props/C05.lean -/
def PhaProof (C : Crypto) (st : PhaState) (cr : CertRequest) (chain : Chain) (certMsg : Bytes)
    (cv : CertVerify) (cvBytes fin : Bytes) : Prop :=
  let ctx0 := st.firstHs ++ (cr.bytes ++ certMsg)
  (chain = [] ∧ fin = finished13 C st.prf st.clAppSecret ctx0) ∨
  (∃ c r sid, chain = c :: r ∧ cv.scheme = some sid ∧ sid ∈ cr.sigAlgs ∧ compatible c 4 sid = true ∧
    Proved C c.key (tbs13 tagClient (digest C st.prf ctx0)) cv.signature ∧
    fin = finished13 C st.prf st.clAppSecret (st.firstHs ++ (cr.bytes ++ (certMsg ++ cvBytes))))

theorem phaCall_true {C : Crypto} {pk : Cert} {sid : SchemeId} {sig sc : Bytes} :
    phaCall C pk sid sig sc = .ok true → Proved C pk.key sc sig := by
  fun_cases phaCall C pk sid sig sc
  all_goals first | exact keyVerify_true | nofun

theorem calcVerifyBytes_enc {C : Crypto} {ver : Nat} {t : Transcript} {sa : Option SchemeId} {prf : HashName}
    {tag : Bytes} {b : Bool} {vb : Bytes} :
    calcVerifyBytes C ver t sa prf tag b = .ok vb → ∃ f, EncFn C f ∧ vb = f t := by
  fun_cases calcVerifyBytes C ver t sa prf tag b
  -- 1: TLS 1.0 / 1.1; 5: TLS 1.2; 7, 8: TLS 1.3 (`intrinsic`, a named hash); the others raise
  case case1 => exact (EncFn.ite (.hash _ .id) (.legacy .id)).of_ok
  case case5 => exact (EncFn.ite (.pref _ (.ite .id (.hash _ .id))) (.ite .id (.hash _ .id))).of_ok
  case case7 => exact (EncFn.pref _ (.hash _ .id)).of_ok
  case case8 => exact (EncFn.hash _ (.pref _ (.hash _ .id))).of_ok
  all_goals nofun

theorem skeHash_enc {C : Crypto} {ver : Nat} {fam : SuiteSig} {ske : SKE} {cr sr hb : Bytes} :
    skeHash C ver fam ske cr sr = .ok hb → ∃ f, EncFn C f ∧ hb = f (cr ++ sr ++ ske.params) := by
  fun_cases skeHash C ver fam ske cr sr
  -- TLS 1.2: 2 `intrinsic`, 4 a named hash; before: 5 SHA-1 (ECDSA / DSA suites), 6 MD5 ‖ SHA-1
  case case2 => exact EncFn.id.of_ok
  case case4 | case5 => exact (EncFn.hash _ .id).of_ok
  case case6 => exact (EncFn.legacy .id).of_ok
  all_goals nofun

theorem cv12Call_true {C : Crypto} {pk : Cert} {sa : Option SchemeId} {sig vb : Bytes} :
    cv12Call C pk sa sig vb = .ok true → Proved C pk.key vb sig := by
  fun_cases cv12Call C pk sa sig vb
  -- the ECDSA branch truncates the digest to the curve size first
  all_goals first | exact keyVerify_true | exact fun h => .of_enc (.take _ .id) (keyVerify_true h) | nofun

theorem cv12Admit_ok {s : Settings} {ver : Nat} {c0 : Cert} {rest : Chain} {cv : CertVerify}
    {sa : Option SchemeId} (h : cv12Admit s ver (c0 :: rest) cv = .ok sa) :
    ver = 3 → ∃ sid, cv.scheme = some sid ∧ compatible c0 3 sid = true ∧
      ∀ l0, sigHashesToList s false [] 3 = .ok l0 → sid ∈ l0 := by
  intro h3
  subst h3
  unfold cv12Admit at h
  rw [if_pos rfl] at h
  obtain ⟨valid, hv, h⟩ := bind_eq_ok h
  cases hsch : cv.scheme with
  | none => rw [hsch] at h; cases h
  | some sid =>
    rw [hsch] at h
    have hmem := Decidable.not_not.mp (ite_eq_right h nofun).1
    exact ⟨sid, rfl, sigHashes_cert_compatible hv hmem,
      fun l0 hl0 => sigHashes_cert_subset_v3 hv hl0 hmem⟩

theorem cv12Tail_ok {C : Crypto} {s : Settings} {ver : Nat} {c0 : Cert} {rest : Chain} {t : Transcript}
    {sa : Option SchemeId} {sig : Bytes} {ch : Chain}
    (h : cv12Tail C s ver c0 rest t sa sig = .ok ch) : ch = c0 :: rest ∧ Proved C c0.key t sig := by
  unfold cv12Tail at h
  simp only [bind_eq_ok_iff, pure_or_throw_eq_ok] at h
  obtain ⟨vb, hvb, pk, hpk, ok, hcall, rfl, rfl⟩ := h
  obtain ⟨rest', hch⟩ := checkCertChain_ok hpk
  obtain ⟨f, hf, rfl⟩ := calcVerifyBytes_enc hvb
  cases hch
  exact ⟨rfl, .of_enc hf (cv12Call_true hcall)⟩

theorem verifyCV12_ok {C : Crypto} {s : Settings} {ver : Nat} {chain : Chain} {t : Transcript}
    {cv : CertVerify} {ch : Chain}
    (h : verifyCV12 C s ver chain t cv = .ok ch) :
    ch = chain ∧ (chain = [] ∨ ∃ c rest, chain = c :: rest ∧ Proved C c.key t cv.signature ∧
      (ver = 3 → ∃ sid, cv.scheme = some sid ∧ compatible c 3 sid = true ∧
        ∀ l0, sigHashesToList s false [] 3 = .ok l0 → sid ∈ l0)) := by
  unfold verifyCV12 at h
  cases chain with
  | nil => exact ⟨(Except.ok.inj h).symm, .inl rfl⟩
  | cons c0 rest =>
    obtain ⟨sa, hadm, h⟩ := bind_eq_ok h
    obtain ⟨h1, h2⟩ := cv12Tail_ok h
    exact ⟨h1, .inr ⟨c0, rest, rfl, h2, cv12Admit_ok hadm⟩⟩

theorem liftKV_ok {r : Except Reject Bool} {b : Bool} : liftKV r = .ok b → r = .ok b := by
  fun_cases liftKV r <;> rintro ⟨⟩
  rfl

theorem liftH_ok {r : Except Reject Bytes} {b : Bytes} : liftH r = .ok b → r = .ok b := by
  fun_cases liftH r <;> rintro ⟨⟩
  rfl

/-- hash, then key operation on a public encoding of the hash: what every branch ends with -/
theorem ske_proved {C : Crypto} {ver : Nat} {fam : SuiteSig} {ske : SKE} {pk : Cert} {cr sr hb : Bytes}
    {m : Method} {a : VArgs} {g : Bytes → Bytes} (hg : EncFn C g)
    (hh : liftH (skeHash C ver fam ske cr sr) = .ok hb)
    (hk : liftKV (keyVerify C pk m ske.signature (g hb) a) = .ok true) :
    Proved C pk.key (cr ++ sr ++ ske.params) ske.signature := by
  obtain ⟨f, hf, rfl⟩ := skeHash_enc (liftH_ok hh)
  exact .of_enc hf (.of_enc hg (keyVerify_true (liftKV_ok hk)))

theorem tls12VerifySKE_ok {C : Crypto} {fam : SuiteSig} {ske : SKE} {pk : Cert} {cr sr : Bytes}
    {valid : List SchemeId} (h : tls12VerifySKE C fam ske pk cr sr valid = .ok ()) :
    (ske.hashAlg, ske.signAlg) ∈ valid ∧ Proved C pk.key (cr ++ sr ++ ske.params) ske.signature := by
  unfold tls12VerifySKE at h
  obtain ⟨hmem, h⟩ := ite_eq_right h nofun
  refine ⟨Decidable.not_not.mp hmem, ?_⟩
  obtain ⟨_, h⟩ | ⟨_, h⟩ := ite_eq_cases h
  · -- EdDSA
    simp only [guard_eq_ok, bind_eq_ok_iff, pure_or_throw_eq_ok] at h
    obtain ⟨_, hb, hh, ok, hk, rfl, _⟩ := h
    exact ske_proved (g := fun m => m) .id hh hk
  obtain ⟨_, h⟩ | ⟨_, h⟩ := ite_eq_cases h
  · -- ECDSA: the digest is cut to the size of the curve
    cases hhr : hashRepr ske.hashAlg with
    | none => rw [hhr] at h; cases h
    | some hn =>
      rw [hhr] at h
      simp only [guard_eq_ok, bind_eq_ok_iff, pure_or_throw_eq_ok] at h
      obtain ⟨hb, hh, _, ok, hk, rfl, _⟩ := h
      exact ske_proved (.take _ .id) hh hk
  obtain ⟨_, h⟩ | ⟨_, h⟩ := ite_eq_cases h
  · -- DSA
    simp only [bind_eq_ok_iff, pure_or_throw_eq_ok] at h
    obtain ⟨hb, hh, ok, hk, rfl, _⟩ := h
    exact ske_proved (g := fun m => m) .id hh hk
  · -- RSA, PSS or PKCS#1 as the scheme says
    simp only [guard_eq_ok, bind_eq_ok_iff, pure_or_throw_eq_ok] at h
    obtain ⟨a, _, hb, hh, _, ok, hk, rfl, _⟩ := h
    exact ske_proved (g := fun m => m) .id hh hk

theorem verifyServerKeyExchange_ok {C : Crypto} {ver : Nat} {fam : SuiteSig} {ske : SKE} {pk : Cert}
    {cr sr : Bytes} {valid : List SchemeId}
    (h : verifyServerKeyExchange C ver fam ske pk cr sr valid = .ok ()) :
    Proved C pk.key (cr ++ sr ++ ske.params) ske.signature ∧ (¬ ver < 3 → (ske.hashAlg, ske.signAlg) ∈ valid) := by
  unfold verifyServerKeyExchange at h
  obtain ⟨hv, h⟩ | ⟨hv, h⟩ := ite_eq_cases h
  · simp only [guard_eq_ok, bind_eq_ok_iff, pure_or_throw_eq_ok] at h
    obtain ⟨hb, hh, _, ok, hk, rfl, _⟩ := h
    exact ⟨ske_proved (g := fun m => m) .id hh hk, fun x => absurd hv x⟩
  · obtain ⟨h1, h2⟩ := tls12VerifySKE_ok h
    exact ⟨h2, fun _ => h1⟩

theorem verifySKE_ok {C : Crypto} {s : Settings} {ver : Nat} {fam : SuiteSig} {chain : Chain}
    {ske : Option SKE} {cr sr : Bytes} {ch : Chain}
    (h : verifySKE C s ver fam chain ske cr sr = .ok ch) :
    ch = chain ∧ ∃ c rest, chain = c :: rest ∧ ∀ k, ske = some k →
      Proved C c.key (cr ++ sr ++ k.params) k.signature ∧
      (¬ ver < 3 → compatible c 3 (k.hashAlg, k.signAlg) = true ∧
        ∀ l0, sigHashesToList s false [] 3 = .ok l0 → (k.hashAlg, k.signAlg) ∈ l0) := by
  unfold verifySKE at h
  obtain ⟨pk, hpk, h⟩ := bind_eq_ok h
  obtain ⟨rest, rfl⟩ := clientGetKeyFromChain_ok hpk
  cases ske with
  | none => cases h; exact ⟨rfl, pk, rest, rfl, nofun⟩
  | some k =>
    obtain ⟨valid, hv, h⟩ := bind_eq_ok h
    cases hvs : verifyServerKeyExchange C ver fam k pk cr sr valid with
    | error e => rw [hvs] at h; cases e <;> cases h
    | ok u =>
      rw [hvs] at h
      cases h
      obtain ⟨p1, p2⟩ := verifyServerKeyExchange_ok hvs
      refine ⟨rfl, pk, rest, rfl, ?_⟩
      rintro _ ⟨⟩
      exact ⟨p1, fun hnv => ⟨sigHashes_cert_compatible hv (p2 hnv),
        fun l0 hl0 => sigHashes_cert_subset_v3 hv hl0 (p2 hnv)⟩⟩

end Tls.Auth
