import TlsModel.CacheConc
import TlsProofs.ConcLin
/-
  C18 — a serial history of cache calls (`Tls.Conc.runSeq` over `stepD`) is a history of the
  sequential cache model with a clock that never goes back: every call reads the clock inside its
  critical section, so the readings are the running sums of the `dt`s.
-/
namespace Tls.CacheConc
open Tls.Cache Tls.Conc

theorem runImplFrom_append (st : ImplState) (a b : List Op) :
    runImplFrom st (a ++ b) =
      ((runImplFrom (runImplFrom st a).1 b).1, (runImplFrom st a).2 ++ (runImplFrom (runImplFrom st a).1 b).2) := by
  induction a generalizing st with
  | nil => simp [runImplFrom]
  | cons op a ih =>
    simp only [List.cons_append, runImplFrom]
    rw [ih]

theorem opTimes_append (a b : List Op) : opTimes (a ++ b) = opTimes a ++ opTimes b := by
  induction a with
  | nil => rfl
  | cons op a ih => cases op <;> simp [opTimes, ih]

theorem ofThread_snoc (t : Nat) (hist : List Event) (e : Event) :
    ofThread t (hist ++ [e]) = ofThread t hist ++ if e.thread = t then [e] else [] := by
  simp only [ofThread, List.filter_append, List.filter_cons, List.filter_nil, beq_iff_eq]

/-- a history of TlsProofs/ConcLin.lean with the clock reading of each call filled in, from `clock` on: the `Event`s that
    `Tls.Cache.runImplFrom` is run over -/
def stamp : Int → List (Ev COp Out) → List Event
  | _, [] => []
  | clock, e :: r => ⟨e.thread, e.call, clock + e.call.dt, e.out⟩ :: stamp (clock + e.call.dt) r

def Event.ev (e : Event) : Ev COp Out := ⟨e.thread, e.call, e.out⟩

theorem stamp_ev (clock : Int) (h : List (Ev COp Out)) : (stamp clock h).map Event.ev = h := by
  induction h generalizing clock with
  | nil => rfl
  | cons e r ih => simp only [stamp, List.map_cons, ih]; rfl

theorem ofThread_stamp (t : Nat) (clock : Int) (h : List (Ev COp Out)) :
    (ofThread t (stamp clock h)).map Event.ev = evOf t h := by
  conv => rhs; rw [← stamp_ev clock h, evOf, List.filter_map]
  rfl

theorem opTimes_toOp (o : COp) (now : Int) (r : List Op) : opTimes (o.toOp now :: r) = now :: opTimes r := by
  cases o <;> rfl

theorem stamp_run (h : List (Ev COp Out)) : ∀ (x x' : Shared),
    runSeq stepD x (h.map (·.call)) = (x', h.map (·.out)) →
    runImplFrom x.st ((stamp x.clock h).map Event.op) = (x'.st, h.map (·.out)) ∧
    (x.clock :: opTimes ((stamp x.clock h).map Event.op)).Pairwise (· ≤ ·) := by
  induction h with
  | nil =>
    intro x x' hrun
    cases hrun
    exact ⟨rfl, List.pairwise_singleton _ _⟩
  | cons e r ih =>
    intro x x' hrun
    simp only [List.map_cons, runSeq, Prod.mk.injEq, List.cons.injEq] at hrun
    obtain ⟨h1, h2, h3⟩ := hrun
    obtain ⟨hr, hp⟩ := ih (stepD e.call x).1 x' (Prod.ext h1 h3)
    have hdt : x.clock ≤ x.clock + (e.call.dt : Int) := by omega
    simp only [stamp, List.map_cons, Event.op, opTimes_toOp]
    refine ⟨?_, List.pairwise_cons.mpr ⟨fun t ht => ?_, hp⟩⟩
    · simp only [runImplFrom]
      rw [show (x.st.step (e.call.toOp (x.clock + e.call.dt))) = ((stepD e.call x).1.st, e.out) from
        Prod.ext rfl h2]
      exact congrArg (fun p => (p.1, e.out :: p.2)) hr
    · rcases List.mem_cons.mp ht with rfl | ht
      · exact hdt
      · exact Int.le_trans hdt ((List.pairwise_cons.mp hp).1 t ht)

end Tls.CacheConc
