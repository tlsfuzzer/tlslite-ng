import TlsModel.Compat
import TlsProofs.Negotiate
/-
  Evaluating concrete negotiations in the kernel (for TlsProofs/NegotiateVectors.lean).

  `filterSuites` tests a suite with `contains` on three lists `rowsFor tbl names v` that depend on the settings, so
  the kernel scans them again for every settings term it meets: most of what a concrete `negotiate` costs.
  `filterSuitesR` tests the table row first: `r.2.2.contains s` is a closed term, and the kernel evaluates a closed
  term once per declaration.

  The filter sits several calls below what the vectors mention.  Each `…R : { f // model = f }` is the model
  function with the filter replaced at every call: its value is never written out; the equation is proved by
  unfolding the model's own body down to the calls and rewriting, and `rfl` then fixes the value to the rewritten
  body.  Only the equations `.2` are used: rewriting a vector with them replaces the model functions by their
  evaluators before the kernel runs.
-/
namespace Tls.Neg
open Tls.Gen.Neg

/-- membership in one accumulator of `_filterSuites` -/
def inRows (tbl : List (String × Nat × List Nat)) (names : List String) (v s : Nat) : Bool :=
  tbl.any fun r => r.2.2.contains s && (names.contains r.1 && decide (r.2.1 ≤ v))

def filterSuitesR (suites : List Nat) (st : Settings) (v : Nat) : List Nat :=
  suites.filter fun s => inRows macTable st.macNames v s && inRows cipherTable st.cipherNames v s &&
    inRows kexTable ("tls13" :: st.keyExchangeNames) v s

theorem contains_rowsFor (tbl : List (String × Nat × List Nat)) (names : List String) (v s : Nat) :
    (rowsFor tbl names v).contains s = inRows tbl names v s := by
  unfold rowsFor inRows
  induction tbl with
  | nil => rfl
  | cons r t ih =>
    rw [List.flatMap_cons, List.contains_append, ih, List.any_cons]
    cases hc : names.contains r.1 && decide (r.2.1 ≤ v)
    · rw [if_neg (by simp), Bool.and_false]; rfl
    · rw [if_pos rfl, Bool.and_true]

theorem filterSuites_eq_R : filterSuites = filterSuitesR := by
  funext suites st v
  unfold filterSuites filterSuitesR
  simp only [contains_rowsFor]

def clientSuitesR : { f // clientSuites = f } := by
  refine ⟨?f, ?h⟩
  case h =>
    delta clientSuites
    rw [filterSuites_eq_R]

def clientOfferR : { f // clientOffer = f } := by
  refine ⟨?f, ?h⟩
  case h =>
    delta clientOffer
    rw [clientSuitesR.2]

def serverSelectR : { f // serverSelect = f } := by
  refine ⟨?f, ?h⟩
  case h =>
    delta serverSelect serverSuites
    rw [filterSuites_eq_R]

def negotiateR : { f // negotiate = f } := by
  refine ⟨?f, ?h⟩
  case h =>
    delta negotiate
    rw [clientOfferR.2, serverSelectR.2]

def transcriptOfR : { f // transcriptOf = f } := by
  refine ⟨?f, ?h⟩
  case h =>
    delta transcriptOf
    rw [clientOfferR.2, serverSelectR.2]

def clientHelloSaneR : { f // clientHelloSane = f } := by
  refine ⟨?f, ?h⟩
  case h =>
    delta clientHelloSane
    rw [clientOfferR.2]

def compatibleR : { f // compatible = f } := by
  refine ⟨?f, ?h⟩
  case h =>
    delta compatible commonSuites certFamily suiteWorks group13Shared ecShared dhShared serverCurveListed clientGroups
    rw [clientOfferR.2, clientSuitesR.2, filterSuites_eq_R]

def compatibleSomeR : { f // compatibleSome = f } := by
  refine ⟨?f, ?h⟩
  case h =>
    delta compatibleSome commonSuites certFamily suiteWorks group13Shared ecShared dhShared serverCurveListed clientGroups
    rw [clientOfferR.2, clientSuitesR.2, filterSuites_eq_R]

end Tls.Neg
