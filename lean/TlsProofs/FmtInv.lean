import TlsModel.Fmt
import TlsProofs.Crypto.BE
import TlsProofs.Guards
/-
  Equations of `encode` and `decode` for the `Fmt` constructors whose arm is more than a value, and for `fail`.  Those of
  `decode` whose arm passes a sub-decoder's result on are in `>>=` form, so that an accepted input is taken apart with
  `bind_eq_ok` and the guard lemmas of Guards.lean; `lenPref` keeps its `match` (three arms on what the body left over)
  and has its own inversion, `decode_lenPref_exact`.
-/
namespace Tls.Fmt

theorem shorter_eq (b : Bytes) (n : Nat) : shorter b n = decide (b.length < n) := by
  induction b generalizing n with
  | nil => cases n <;> simp [shorter]
  | cons h t ih => cases n <;> simp [shorter, ih]

theorem encode_pair_eq {f g t v w} :
    encode (.pair f g) t (.pair v w) =
      (encode f t v).bind fun a => (encode g t w).bind fun c => some (a ++ c) := rfl

theorem encode_lenPref_eq {ll f t v} :
    encode (.lenPref ll f) t v =
      (encode f t v).bind fun b =>
        if b.length < 256 ^ ll then some (beEncode ll b.length ++ b) else none := rfl

theorem encode_tagged_eq {n f t x v} :
    encode (.tagged n f) t (.pair (.nat x) v) =
      if x < 256 ^ n then (encode f x v).bind fun b => some (beEncode n x ++ b) else none := rfl

theorem encode_many_eq {f t v} : encode (.many f) t v = encodeMany (encode f t) v := rfl

theorem encode_caseOf_eq {k f g t v} :
    encode (.caseOf k f g) t v = if t = k then encode f t v else encode g t v := rfl

theorem encode_fail_eq {t v} : encode .fail t v = none := rfl

theorem encodeMany_cons {e : Val → Option Bytes} {hd tl} :
    encodeMany e (.cons hd tl) = (e hd).bind fun a => (encodeMany e tl).bind fun c => some (a ++ c) := rfl

theorem decode_uint_eq (n t : Nat) (b : Bytes) :
    decode (.uint n) t b =
      if b.length < n then .error .truncated else .ok (.nat (beDecode (b.take n)), b.drop n) := by
  simp only [decode, shorter_eq, decide_eq_true_eq]

theorem decode_bytes_eq (n t : Nat) (b : Bytes) :
    decode (.bytes n) t b =
      if b.length < n then .error .truncated else .ok (.bytes (b.take n), b.drop n) := by
  simp only [decode, shorter_eq, decide_eq_true_eq]

theorem decode_pair_eq {f g t b} :
    decode (.pair f g) t b =
      decode f t b >>= fun p => decode g t p.2 >>= fun q => pure (.pair p.1 q.1, q.2) := by
  rw [decode]
  rcases decode f t b with e | ⟨v, r⟩
  · rfl
  · dsimp only [bind, Except.bind]
    cases decode g t r <;> rfl

theorem decode_lenPref_eq (ll : Nat) (f : Fmt) (t : Nat) (b : Bytes) :
    decode (.lenPref ll f) t b =
      if b.length < ll then .error .truncated
      else if (b.drop ll).length < beDecode (b.take ll) then .error .truncated
      else
        match decode f t ((b.drop ll).take (beDecode (b.take ll))) with
        | .error e => .error e
        | .ok (v, []) => .ok (v, (b.drop ll).drop (beDecode (b.take ll)))
        | .ok (_, _ :: _) => .error .trailing := by
  simp only [decode, shorter_eq, decide_eq_true_eq]
  rfl

theorem decode_many_eq {f t b} :
    decode (.many f) t b = decodeMany (decode f t) b.length b >>= fun vs => pure (vs, []) := by
  rw [decode]; cases decodeMany (decode f t) b.length b <;> rfl

theorem decode_optTail_cons {f t x xs} :
    decode (.optTail f) t (x :: xs) = decode f t (x :: xs) >>= fun p => pure (.some p.1, p.2) := by
  rw [decode]; cases decode f t (x :: xs) <;> rfl

theorem decode_tagged_eq (n : Nat) (f : Fmt) (t : Nat) (b : Bytes) :
    decode (.tagged n f) t b =
      if b.length < n then .error .truncated
      else decode f (beDecode (b.take n)) (b.drop n) >>= fun p => pure (.pair (.nat (beDecode (b.take n))) p.1, p.2) := by
  simp only [decode, shorter_eq, decide_eq_true_eq]
  cases decode f (beDecode (b.take n)) (b.drop n) <;> rfl

theorem decode_caseOf_eq {k f g t b} :
    decode (.caseOf k f g) t b = if t = k then decode f t b else decode g t b := rfl

theorem decode_fail_eq {t b} : decode .fail t b = .error .rejected := rfl

theorem decodeMany_nil {d : Bytes → Except Err (Val × Bytes)} {fuel} :
    decodeMany d fuel [] = .ok .nil := by
  cases fuel <;> rfl

theorem decodeMany_cons {d : Bytes → Except Err (Val × Bytes)} {fuel x xs} :
    decodeMany d (fuel + 1) (x :: xs) =
      d (x :: xs) >>= fun p => decodeMany d fuel p.2 >>= fun vs => pure (.cons p.1 vs) := by
  rw [decodeMany]
  rcases d (x :: xs) with e | ⟨v, r⟩
  · rfl
  · dsimp only [bind, Except.bind]
    cases decodeMany d fuel r <;> rfl

theorem decode_lenPref_err_trailing {ll f t b v x xs}
    (h1 : ll ≤ b.length) (h2 : beDecode (b.take ll) ≤ (b.drop ll).length)
    (hd : decode f t ((b.drop ll).take (beDecode (b.take ll))) = .ok (v, x :: xs)) :
    decode (.lenPref ll f) t b = .error .trailing := by
  rw [decode_lenPref_eq, if_neg (by omega), if_neg (by omega), hd]

theorem decode_lenPref_append (ll : Nat) (f : Fmt) (t : Nat) (body r : Bytes)
    (hl : body.length < 256 ^ ll) :
    decode (.lenPref ll f) t (beEncode ll body.length ++ body ++ r) =
      match decode f t body with
      | .ok (v, []) => .ok (v, r)
      | .ok (_, _ :: _) => .error .trailing
      | .error e => .error e := by
  obtain ⟨h1, h2, h3⟩ := beField ll body.length (body ++ r) hl
  rw [decode_lenPref_eq, List.append_assoc, if_neg h1, h2, h3, List.take_left, List.drop_left,
    if_neg (by rw [List.length_append]; omega)]
  cases decode f t body with
  | error e => rfl
  | ok p => obtain ⟨v, r'⟩ := p; cases r' <;> rfl

theorem decode_lenPref_exact {ll f t bs v r} (h : decode (.lenPref ll f) t bs = .ok (v, r)) :
    ∃ body, bs = beEncode ll body.length ++ body ++ r ∧ body.length < 256 ^ ll ∧
      decode f t body = .ok (v, []) := by
  rw [decode_lenPref_eq] at h
  obtain ⟨h1, h⟩ := ite_eq_right h nofun
  obtain ⟨h2, h⟩ := ite_eq_right h nofun
  have h1 := Nat.not_lt.mp h1
  have hbl : ((bs.drop ll).take (beDecode (bs.take ll))).length = beDecode (bs.take ll) :=
    List.length_take_of_le (Nat.not_lt.mp h2)
  generalize hX : decode f t ((bs.drop ll).take (beDecode (bs.take ll))) = X at h
  -- of the three arms only the one with nothing left returns `.ok`
  rcases X with e | ⟨w, _ | ⟨y, ys⟩⟩ <;> cases h
  refine ⟨_, ?_, hbl.symm ▸ beDecode_take_lt bs ll h1, hX⟩
  rw [hbl, beEncode_beDecode_take bs ll h1, List.append_assoc, List.take_append_drop,
    List.take_append_drop]

theorem decode_tagged_append (n : Nat) (f : Fmt) (t x : Nat) (b : Bytes) (hx : x < 256 ^ n) :
    decode (.tagged n f) t (beEncode n x ++ b) =
      decode f x b >>= fun p => pure (.pair (.nat x) p.1, p.2) := by
  obtain ⟨h1, h2, h3⟩ := beField n x b hx
  rw [decode_tagged_eq, if_neg h1, h2, h3]

end Tls.Fmt
