import TlsProofs.PyRtAttr
import TlsProofs.PyInt
import TlsModel.PyExc
/-
  The runtime model (`Tls.Py`, `Tls.PyE`) read on casts of naturals and on byte lists.  The lemmas under the
  attribute `pyrt` bring an unfolded generated function into a normal form with the casts outside (`↑a + ↑b` is
  `↑(a + b)`, literals from 2 on and `1` are casts of natural literals), so that every operation meets arguments
  `↑n` and is rewritten to the `Nat` / `List` operation.  Subtraction is the exception: `↑a - ↑b` is `↑(a - b)` only
  under `b ≤ a`, which the link modules supply per function from its guards.  `0` stays a literal: it occurs as an
  index and in sign tests, not in arithmetic.  (`Eq.trans rfl rfl` for `rfl`: see TlsProofs/PyInt.lean.)
-/
namespace Tls.Py
open Tls

/-- `d[a:b]` for non-negative bounds: Python clamps both to the length, as `drop` / `take` do -/
theorem slice_nat (d : Bytes) (a b : Nat) :
    slice d (some (a : Int)) (some (b : Int)) = (d.drop a).take (b - a) := by
  unfold slice
  simp only [sliceBound_nat]
  by_cases ha : a < d.length
  · by_cases hb : b < d.length
    · simp only [ha, hb, if_true]
    · simp only [ha, hb, if_true, if_false]
      rw [List.take_of_length_le (by simp), List.take_of_length_le (by simp; omega)]
  · rw [if_neg ha, List.drop_of_length_le (Nat.le_refl _), List.drop_of_length_le (by omega)]
    simp

theorem slice_zero_nat (d : Bytes) (b : Nat) : slice d (some 0) (some (b : Int)) = d.take b :=
  (slice_nat d 0 b).trans (by simp)

theorem lshift_nat (a b : Nat) : lshift (a : Int) (b : Int) = some ((a <<< b : Nat) : Int) := by
  unfold lshift
  rw [if_neg (by omega), Int.toNat_natCast, shl_nat]

end Tls.Py

namespace Tls.RsaDec
open Tls Tls.CT Tls.Py

theorem numBytes_nat (n : Nat) : PyE.numBytes (n : Int) = (numBytes n : Int) := by
  unfold PyE.numBytes; rw [Int.natAbs_natCast]

theorem numBits_nat (n : Nat) : PyE.numBits (n : Int) = (numBits n : Int) := by
  unfold PyE.numBits; rw [Int.natAbs_natCast]

theorem bytesToNumber_beDecode (b : Bytes) : PyE.bytesToNumber b = (beDecode b : Int) := Eq.trans rfl rfl

theorem numberToByteArray_nat (x k : Nat) : PyE.numberToByteArray (x : Int) (k : Int) = .ok (beEncode k x) := by
  unfold PyE.numberToByteArray
  have : ¬ ((x : Int) < 0) := by omega
  simp only [this, if_false, Int.toNat_natCast]

theorem ok_bind' {α β : Type} (a : α) (f : α → PyE.M β) : (Except.ok a : PyE.M α).bind f = f a := Eq.trans rfl rfl

theorem lift_some' {α : Type} (a : α) : (liftM (some a : Option α) : PyE.M α) = .ok a := Eq.trans rfl rfl

theorem monadLift_some' {α : Type} (a : α) : (monadLift (some a : Option α) : PyE.M α) = .ok a := Eq.trans rfl rfl

theorem bind_fst {α β γ : Type} (x : PyE.M (α × β)) (g : α → PyE.M γ) :
    x.bind (fun s => g s.1) = (Except.map Prod.fst x).bind g := by
  cases x <;> rfl

theorem fdivLit_nat (x m : Nat) : PyE.fdivLit (x : Int) m = ((x / m : Nat) : Int) := by
  unfold PyE.fdivLit; rw [Int.natCast_ediv]

theorem modLit_nat (x m : Nat) : PyE.modLit (x : Int) m = ((x % m : Nat) : Int) := by
  unfold PyE.modLit; rw [Int.natCast_emod]

theorem bor_zero_left (m : Nat) : Py.bor 0 (m : Int) = (m : Int) := bor_zero_nat m

theorem forInL_ok {β γ σ τ : Type} (φ : β → γ) (emb : τ → σ) (body : γ → σ → PyE.M σ) (g : τ → β → τ)
    (h : ∀ x t, body (φ x) (emb t) = .ok (emb (g t x))) (l : List β) (t0 : τ) :
    PyE.forInL (l.map φ) (emb t0) body = .ok (emb (l.foldl g t0)) := by
  obtain ⟨_, e, rfl⟩ := foldlM_sim (fun s t => s = emb t) (fun s x => body x s) φ g l
    (fun x _ _ t hs => ⟨_, hs ▸ h x t, rfl⟩) _ t0 rfl
  exact e

theorem slice_from (d : Bytes) (r : Nat) : Py.slice d (some (r : Int)) none = d.drop r := by
  unfold Py.slice
  simp only [sliceBound_nat]
  by_cases h : r < d.length
  · simp only [h, if_true]
    rw [List.take_of_length_le (by simp)]
  · simp only [h, if_false]
    rw [List.drop_of_length_le (Nat.le_refl _), List.drop_of_length_le (by omega)]
    simp

theorem next_enumFrom (pos : Nat) (b : UInt8) {rest : Bytes} :
    PyE.next (PyE.enumFrom pos (b :: rest)) = .ok (((pos : Int), (b.toNat : Int)), PyE.enumFrom (pos + 1) rest) :=
  Eq.trans rfl rfl

theorem fst_mk' {α β : Type} (a : α) (b : β) : (a, b).1 = a := Eq.trans rfl rfl

theorem snd_mk' {α β : Type} (a : α) (b : β) : (a, b).2 = b := Eq.trans rfl rfl

theorem lit10 : (10 : Int) = ((10 : Nat) : Int) := rfl

end Tls.RsaDec

namespace Tls.PyE
open Tls Tls.RsaDec

theorem bitLength_eq (x : Int) : bitLength x = numBits x := Eq.trans rfl rfl

theorem fdiv7_eq (x : Int) : fdivLit (numBits x + 7) 8 = numBytes x := by
  unfold fdivLit numBits numBytes Tls.RsaDec.numBytes
  omega

theorem intToBytes_big (x k : Nat) (h : x < 256 ^ k) :
    intToBytes (x : Int) (k : Int) "big" = .ok (beEncode k x) := by
  unfold intToBytes
  have h1 : ¬ ((k : Int) < 0) := by omega
  have h2 : ¬ ("big" ≠ "big" ∧ "big" ≠ "little") := by decide
  have h3 : ¬ ((x : Int) < 0) := by omega
  have h4 : ¬ (x ≥ 256 ^ k) := by omega
  simp only [h1, h2, h3, h4, if_false, Int.toNat_natCast, if_true]

theorem intToBytes_little (x k : Nat) (h : x < 256 ^ k) :
    intToBytes (x : Int) (k : Int) "little" = .ok (beEncode k x).reverse := by
  unfold intToBytes
  have h1 : ¬ ((k : Int) < 0) := by omega
  have h2 : ¬ ("little" ≠ "big" ∧ "little" ≠ "little") := by decide
  have h3 : ¬ ((x : Int) < 0) := by omega
  have h4 : ¬ (x ≥ 256 ^ k) := by omega
  have h5 : ¬ ("little" = "big") := by decide
  simp only [h1, h2, h3, h4, h5, if_false, Int.toNat_natCast]

theorem intToBytes_neg (x k : Int) (order : String) (hx : x < 0) (hk : 0 ≤ k)
    (ho : order = "big" ∨ order = "little") : intToBytes x k order = .error .overflowError := by
  unfold intToBytes
  have h1 : ¬ (k < 0) := by omega
  have h2 : ¬ (order ≠ "big" ∧ order ≠ "little") := by rcases ho with h | h <;> simp [h]
  simp only [h1, h2, hx, if_false, if_true]

theorem bytearrayOfInts_eq_map (l : List Int) (hl : ∀ v ∈ l, 0 ≤ v ∧ v < 256) :
    Py.bytearrayOfInts l = some (l.map fun v => UInt8.ofNat v.toNat) := by
  unfold Py.bytearrayOfInts
  induction l with
  | nil => rfl
  | cons a t ih =>
    rw [List.mapM_cons, if_pos (hl a (List.mem_cons_self ..)), ih fun v hv => hl v (List.mem_cons_of_mem _ hv)]
    rfl

theorem pad1_bytes (p : Int) :
    Py.bytearrayOfInts (([(0 : Int), 1] ++ PyE.listRepeat 255 p) ++ [(0 : Int)]) =
      some ([0, 1] ++ List.replicate p.toNat (0xFF : UInt8) ++ [0]) := by
  unfold PyE.listRepeat
  rw [bytearrayOfInts_eq_map]
  · simp only [List.map_append, List.map_replicate]
    rfl
  · intro v hv
    simp only [List.mem_append, List.mem_cons, List.mem_replicate, List.not_mem_nil, or_false] at hv
    omega

theorem pad2_bytes (l : List Int) (hl : ∀ v ∈ l, 1 ≤ v ∧ v < 256) :
    Py.bytearrayOfInts (([(0 : Int), 2] ++ l) ++ [(0 : Int)]) =
      some ([0, 2] ++ l.map (fun v => UInt8.ofNat v.toNat) ++ [0]) := by
  rw [bytearrayOfInts_eq_map]
  · simp only [List.map_append]
    rfl
  · intro v hv
    simp only [List.mem_append, List.mem_cons, List.not_mem_nil, or_false] at hv
    rcases hv with (hv | hv) | hv
    · omega
    · have := hl v hv; omega
    · omega

theorem getItem_last (em : Bytes) :
    Py.getItem em (-1) = em.getLast?.map fun l => (l.toNat : Int) := by
  unfold Py.getItem
  have h1 : ((-1 : Int) < 0) := by decide
  simp only [h1, if_true]
  cases em with
  | nil => simp
  | cons a t =>
    have h2 : ¬ ((-1 : Int) + ((a :: t).length : Nat) < 0) := by simp; omega
    simp only [h2, if_false]
    have e : ((-1 : Int) + ((a :: t).length : Nat)).toNat = (a :: t).length - 1 := by
      simp only [List.length_cons]; omega
    rw [e, List.getLast?_eq_getElem?]

theorem getItemE_last (em : Bytes) :
    PyE.getItemE em (-((1 : Nat) : Int)) = em.getLast?.elim (.error .indexError) fun l => .ok (l.toNat : Int) := by
  unfold PyE.getItemE
  rw [show (-((1 : Nat) : Int)) = -1 from rfl, getItem_last]
  cases em.getLast? <;> rfl

theorem getItem_nat' (d : Bytes) (i : Nat) : Py.getItem d (i : Int) = d[i]?.map fun b => (b.toNat : Int) := by
  unfold Py.getItem
  have h1 : ¬ ((i : Int) < 0) := by omega
  simp only [h1, if_false, Int.toNat_natCast]

theorem getItemE_nat (d : Bytes) (i : Nat) :
    PyE.getItemE d (i : Int) = d[i]?.elim (.error .indexError) fun b => .ok (b.toNat : Int) := by
  unfold PyE.getItemE
  rw [getItem_nat']
  cases d[i]? <;> rfl

theorem getItemE_zero (d : Bytes) :
    PyE.getItemE d 0 = d.head?.elim (.error .indexError) fun b => .ok (b.toNat : Int) := by
  rw [show (0 : Int) = ((0 : Nat) : Int) from rfl, getItemE_nat]
  cases d <;> rfl

theorem slice_neg_from (d : Bytes) (s : Nat) (hs : 0 < s) :
    Py.slice d (some (-(s : Int))) none = d.drop (d.length - s) := by
  unfold Py.slice Py.sliceBound
  have h1 : (-(s : Int)) < 0 := by omega
  simp only [h1, if_true]
  have e : (-(s : Int) + (d.length : Nat)).toNat = d.length - s := by omega
  rw [e, List.take_of_length_le (by simp)]

theorem band_bnot_255 (x : Nat) : Py.band (Py.bnot (x : Int)) ((255 : Nat) : Int) = ((255 - x % 256 : Nat) : Int) := by
  have hb : Py.bnot (x : Int) = Int.negSucc x := by
    unfold Py.bnot; rw [Int.negSucc_eq]; omega
  rw [hb]
  show ((255 ^^^ (255 &&& x) : Nat) : Int) = _
  have h1 := Nat.and_two_pow_sub_one_eq_mod x 8
  simp only [show (2:Nat)^8 - 1 = 255 from rfl, show (2:Nat)^8 = 256 from rfl] at h1
  rw [Nat.and_comm, h1, show (255 : Nat) = 2 ^ 8 - 1 from rfl, Py.xor_mask 8 _ (Nat.mod_lt _ (by decide))]

theorem anyNonZero_eq (b : Bytes) : PyE.anyNonZero b = b.any (· ≠ 0) := by
  unfold PyE.anyNonZero
  congr 1
  funext v
  by_cases h : v = 0 <;> simp [h]

theorem zeros_nat (n : Nat) : PyE.zeros (n : Int) = .ok (List.replicate n (0 : UInt8)) := by
  unfold PyE.zeros
  have : ¬ ((n : Int) < 0) := by omega
  simp only [this, if_false, Int.toNat_natCast]

theorem bind_assoc' {α β γ : Type} (x : PyE.M α) (f : α → PyE.M β) (g : β → PyE.M γ) :
    (x.bind f).bind g = x.bind fun a => (f a).bind g := by cases x <;> rfl

theorem elim_bind {α β γ : Type} (o : Option α) (e : PyE.Err) (g : α → PyE.M β) (f : β → PyE.M γ) :
    (o.elim (.error e) g).bind f = o.elim (.error e) fun a => (g a).bind f := by cases o <;> rfl

theorem bind_pure' {α : Type} (x : PyE.M α) : Except.bind x (fun a => Except.pure a) = x := by cases x <;> rfl

theorem filterNonZero_range (b : Bytes) : ∀ v ∈ PyE.filterNonZero b, 1 ≤ v ∧ v < 256 := by
  intro v hv
  unfold PyE.filterNonZero PyE.iterBytes at hv
  rw [List.mem_filter, List.mem_map] at hv
  obtain ⟨⟨x, _, rfl⟩, hnz⟩ := hv
  have := x.toNat_lt
  have hne : (x.toNat : Int) ≠ 0 := by simpa using hnz
  omega

section
variable {σ : Type} (cond : σ → Bool) (body : σ → PyE.M σ)

theorem whileLoop_done (fuel : Nat) {s : σ} (h : cond s = false) : PyE.whileLoop cond body fuel s = .ok s := by
  cases fuel <;> (unfold PyE.whileLoop; rw [h]; rfl)

theorem whileLoop_zero {s : σ} (h : cond s = true) : PyE.whileLoop cond body 0 s = .error .fuel := by
  unfold PyE.whileLoop; rw [h]; rfl

theorem whileLoop_succ (fuel : Nat) {s : σ} (h : cond s = true) :
    PyE.whileLoop cond body (fuel + 1) s = (body s).bind (PyE.whileLoop cond body fuel) := by
  unfold PyE.whileLoop; rw [h]; rfl

theorem whileLoop_inv (P : σ → Prop) (hstep : ∀ s s', P s → cond s = true → body s = .ok s' → P s')
    (fuel : Nat) (s0 s : σ) (h0 : P s0) (h : PyE.whileLoop cond body fuel s0 = .ok s) : P s ∧ cond s = false := by
  induction fuel generalizing s0 with
  | zero =>
    cases hc : cond s0 with
    | false => cases (whileLoop_done cond body 0 hc).symm.trans h; exact ⟨h0, hc⟩
    | true => cases (whileLoop_zero cond body hc).symm.trans h
  | succ f ih =>
    cases hc : cond s0 with
    | false => cases (whileLoop_done cond body _ hc).symm.trans h; exact ⟨h0, hc⟩
    | true =>
      rw [whileLoop_succ cond body f hc] at h
      cases hb : body s0 with
      | error e => rw [hb] at h; cases h
      | ok s1 => rw [hb] at h; exact ih s1 (hstep s0 s1 h0 hc hb) h

theorem whileLoop_stuck (s1 : σ) (hc : cond s1 = true) (hb : body s1 = .ok s1) :
    ∀ fuel, PyE.whileLoop cond body fuel s1 = .error .fuel
  | 0 => whileLoop_zero cond body hc
  | f + 1 => by rw [whileLoop_succ cond body f hc, hb]; exact whileLoop_stuck s1 hc hb f

theorem whileLoop_const (s1 : σ) (fuel : Nat) (s0 : σ) :
    PyE.whileLoop cond (fun _ => Except.pure s1) fuel s0 =
      if cond s0 = false then .ok s0
      else if fuel = 0 ∨ cond s1 = true then .error .fuel else .ok s1 := by
  by_cases h0 : cond s0 = false
  · rw [if_pos h0]; exact whileLoop_done cond _ fuel h0
  rw [if_neg h0]
  have h0' : cond s0 = true := by simpa using h0
  cases fuel with
  | zero => exact whileLoop_zero cond _ h0'
  | succ f =>
    rw [whileLoop_succ cond _ f h0']
    by_cases h1 : cond s1 = true
    · rw [if_pos (Or.inr h1)]
      exact whileLoop_stuck cond (fun _ => Except.pure s1) s1 h1 rfl f
    · rw [if_neg (by simp [h1])]
      exact whileLoop_done cond (fun _ => Except.pure s1) f (by simpa using h1)

end

theorem toNat_ne_lit (v : UInt8) (c : Nat) (h : c < 256) : ((v.toNat : Nat) : Int) ≠ ((c : Nat) : Int) ↔ v ≠ UInt8.ofNat c := by
  rw [Ne, Ne, Int.natCast_inj, ← UInt8.toNat_inj, UInt8.toNat_ofNat', Nat.mod_eq_of_lt h]

theorem divmod_nat (a b : Nat) (hb : 0 < b) :
    divmod (a : Int) (b : Int) = .ok (((a / b : Nat) : Int), ((a % b : Nat) : Int)) := by
  unfold divmod
  rw [if_neg (by omega), Int.fdiv_eq_ediv_of_nonneg _ (by omega), Int.fmod_eq_emod_of_nonneg _ (by omega),
    Int.natCast_ediv, Int.natCast_emod]

theorem intBool_nat (r : Nat) : intBool (r : Int) = ((if r = 0 then 0 else 1 : Nat) : Int) := by
  unfold intBool
  by_cases h : r = 0
  · rw [if_pos h, if_pos (by omega)]; rfl
  · rw [if_neg h, if_neg (by omega)]; rfl

theorem forInL_range (b : Nat) {σ : Type} (init : σ) (body : Int → σ → M σ) :
    forInL (Py.range 0 (b : Int)) init body = (List.range b).foldlM (fun st (k : Nat) => body (k : Int) st) init := by
  unfold Py.range forInL
  rw [show ((b : Int) - 0).toNat = b by omega, ← List.range_eq_range', List.foldlM_map]
  simp only [Int.zero_add]

/-- the body `g` is found by unification, so `simp` rewrites with this -/
theorem foldlM_ok {β σ : Type} (l : List β) (g : σ → β → σ) (init : σ) :
    l.foldlM (fun st k => (Except.ok (g st k) : M σ)) init = .ok (l.foldl g init) := by
  induction l generalizing init with
  | nil => rfl
  | cons x xs ih => rw [List.foldlM_cons, List.foldl_cons]; exact ih _

/-- the literals from 2 on (found by instance resolution, as Mathlib's `Nat.AtLeastTwo`) -/
class Lit (n : Nat) : Prop
instance (n : Nat) : Lit (n + 2) := ⟨⟩

theorem lit_cast (n : Nat) [Lit n] : (OfNat.ofNat n : Int) = ((OfNat.ofNat n : Nat) : Int) := Eq.trans rfl rfl
theorem lit_cast_one : (1 : Int) = ((1 : Nat) : Int) := Eq.trans rfl rfl

theorem one_shiftLeft_sub_one (b : Nat) : ((1 <<< b : Nat) : Int) - ((1 : Nat) : Int) = (((1 <<< b) - 1 : Nat) : Int) := by
  have : 0 < 1 <<< b := by rw [Nat.one_shiftLeft]; exact Nat.pow_pos (by decide)
  omega

-- stated as equations of propositions: a core `iff` lemma put under an attribute gets an auxiliary `._simp_n`
-- declaration here, which collides with any Mathlib module that does the same (Mathlib.Tactic.Zify)
theorem cast_lt (a b : Nat) : ((a : Int) < (b : Int)) = (a < b) := propext Int.ofNat_lt
theorem cast_le (a b : Nat) : ((a : Int) ≤ (b : Int)) = (a ≤ b) := propext Int.ofNat_le
theorem cast_inj (a b : Nat) : ((a : Int) = (b : Int)) = (a = b) := propext Int.natCast_inj
theorem cast_ne_zero (a : Nat) : ((a : Int) ≠ 0) = (a ≠ 0) := propext Int.natCast_ne_zero
-- a bare `rfl` does no harm in the next two: `>` and `≥` are reducible notation, so the kernel has nothing to unfold
theorem gt_eq_lt (a b : Int) : (a > b) = (b < a) := rfl
theorem ge_eq_le (a b : Int) : (a ≥ b) = (b ≤ a) := rfl

theorem bindE_eq_of {α β : Type} {x : M α} {f : α → M β} {r : M β} (a : α) (hx : x = .ok a) (hf : f a = r) :
    x.bind f = r := by
  rw [hx]; exact hf

theorem attempt_ok {α : Type} (a : α) (kind : Err) : attempt (.ok a) kind = .ok (some a) := Eq.trans rfl rfl
theorem attempt_error {α : Type} (e kind : Err) :
    attempt (.error e : M α) kind = if e = kind then .ok none else .error e := Eq.trans rfl rfl
theorem getSome_some {α : Type} (a : α) : getSome (some a) = .ok a := Eq.trans rfl rfl
theorem pure_eq_ok {α : Type} (a : α) : (Except.pure a : M α) = .ok a := Eq.trans rfl rfl
theorem raise_eq {α : Type} (e : Err) : (raise e : M α) = .error e := Eq.trans rfl rfl

end Tls.PyE

attribute [pyrt] Tls.Py.band_nat Tls.Py.bor_nat Tls.Py.bxor_nat Tls.Py.shl_nat Tls.Py.shr_nat Tls.Py.lshift_nat
  Tls.Py.len_eq Tls.Py.max2_zero Tls.Py.slice_nat Tls.Py.slice_zero_nat Tls.Py.slice_to Tls.Py.bind_some'
  Tls.RsaDec.slice_from Tls.RsaDec.ok_bind' Tls.RsaDec.lift_some' Tls.RsaDec.monadLift_some'
  Tls.RsaDec.numBytes_nat Tls.RsaDec.numBits_nat Tls.RsaDec.bytesToNumber_beDecode Tls.RsaDec.numberToByteArray_nat
  Tls.RsaDec.fdivLit_nat Tls.RsaDec.modLit_nat
  Tls.PyE.getItemE_nat Tls.PyE.getItemE_zero Tls.PyE.getItemE_last Tls.PyE.zeros_nat Tls.PyE.anyNonZero_eq
  Tls.PyE.band_bnot_255 Tls.PyE.bind_assoc' Tls.PyE.elim_bind Tls.PyE.bind_pure'
  Tls.PyE.intBool_nat Tls.PyE.forInL_range Tls.PyE.foldlM_ok Tls.PyE.lit_cast Tls.PyE.lit_cast_one Tls.PyE.one_shiftLeft_sub_one
  Tls.PyE.cast_lt Tls.PyE.cast_le Tls.PyE.cast_inj Tls.PyE.cast_ne_zero Tls.PyE.gt_eq_lt Tls.PyE.ge_eq_le
  Tls.PyE.attempt_ok Tls.PyE.attempt_error Tls.PyE.getSome_some Tls.PyE.pure_eq_ok Tls.PyE.raise_eq
attribute [pyrt ←] Int.natCast_add Int.natCast_mul
