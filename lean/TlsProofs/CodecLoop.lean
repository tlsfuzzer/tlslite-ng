import TlsModel.CodecLoop
import TlsProofs.Codec
import TlsProofs.FmtRoundTrip
/-
  The `startLengthCheck … while not atLengthCheck() … stopLengthCheck` idiom against the generic
  `list ll f`.  The loop is followed along the declared region `reg` of the buffer: an item that
  the region's own decoder accepts is read identically from the shared buffer (`ItemLaw`), and an
  item that only the shared buffer lets through ends beyond the region, where `atLengthCheck`
  raises.
-/
namespace Tls.Codec.Parser
open Tls.Fmt

/-- what the item decoders of well-formed self-delimiting formats satisfy -/
def ItemLaw (d : Bytes → Except Err (Val × Bytes)) : Prop :=
  ∀ x v r, d x = .ok (v, r) → ∃ c, x = c ++ r ∧ 0 < c.length ∧ ∀ s, d (c ++ s) = .ok (v, s)

theorem itemLaw_decode (f : Fmt) (hw : wf false f = true) (hm : 0 < minLen f) (t : Nat) :
    ItemLaw (decode f t) := by
  intro x v r h
  obtain ⟨e, he, hx⟩ := (decode_ok_iff f hw t x v r).mp h
  exact ⟨e, hx.symm, Nat.lt_of_lt_of_le hm (encode_minLen f t v e he),
    fun s => (decode_ok_iff f hw t _ v s).mpr ⟨e, he, rfl⟩⟩

theorem atLengthCheck_mk (B : Bytes) (i c L : Nat) :
    atLengthCheck ⟨B, i, c, L⟩ =
      if i < c + L then .ok false else if i = c + L then .ok true else .error .readPast := by
  unfold atLengthCheck
  dsimp only
  by_cases h1 : i < c + L
  · rw [if_pos h1, if_pos (by omega)]
  · by_cases h2 : i = c + L
    · rw [if_neg h1, if_pos h2, if_neg (by omega), if_pos (by omega)]
    · rw [if_neg h1, if_neg h2, if_neg (by omega), if_neg (by omega)]

theorem liftDecode_mk (d : Bytes → Except Err (Val × Bytes)) (B : Bytes) (i c L : Nat) :
    liftDecode d ⟨B, i, c, L⟩ =
      match d (B.drop i) with
      | .error _ => .error .readPast
      | .ok (v, r) => .ok (v, ⟨B, B.length - r.length, c, L⟩) := rfl

section lcLoop
variable (item : Parser → Except PErr (Val × Parser)) (B : Bytes) (i c L : Nat)

theorem lcLoop_done (fuel : Nat) (h : i = c + L) :
    lcLoop item fuel ⟨B, i, c, L⟩ = .ok (.nil, ⟨B, i, c, L⟩) := by
  cases fuel <;> simp [lcLoop, atLengthCheck_mk, h]

theorem lcLoop_past (fuel : Nat) (h : c + L < i) :
    lcLoop item fuel ⟨B, i, c, L⟩ = .error .readPast := by
  have h1 : ¬ i < c + L := by omega
  have h2 : ¬ i = c + L := by omega
  cases fuel <;> simp [lcLoop, atLengthCheck_mk, h1, h2]

theorem lcLoop_zero (h : i < c + L) : lcLoop item 0 ⟨B, i, c, L⟩ = .error .readPast := by
  simp [lcLoop, atLengthCheck_mk, h]

theorem lcLoop_step (fuel : Nat) (h : i < c + L) :
    lcLoop item (fuel + 1) ⟨B, i, c, L⟩ =
      match item ⟨B, i, c, L⟩ with
      | .error e => .error e
      | .ok (v, p1) =>
        match lcLoop item fuel p1 with
        | .error e => .error e
        | .ok (vs, p2) => .ok (.cons v vs, p2) := by
  rw [lcLoop, atLengthCheck_mk, if_pos h]
  rfl

end lcLoop

theorem lcLoop_short (d : Bytes → Except Err (Val × Bytes)) (B : Bytes) (c L : Nat)
    (hB : B.length < c + L) : ∀ (fuel i : Nat), i ≤ B.length →
      (lcLoop (liftDecode d) fuel ⟨B, i, c, L⟩).toOption = none := by
  intro fuel
  induction fuel with
  | zero => intro i hi; rw [lcLoop_zero _ _ _ _ _ (by omega)]; rfl
  | succ fuel ih =>
    intro i hi
    rw [lcLoop_step _ _ _ _ _ _ (by omega), liftDecode_mk]
    cases d (B.drop i) with
    | error e => rfl
    | ok q =>
      have := ih (B.length - q.2.length) (Nat.sub_le _ _)
      dsimp only
      cases hl : lcLoop (liftDecode d) fuel ⟨B, B.length - q.2.length, c, L⟩ with
      | error e => rfl
      | ok q2 => rw [hl] at this; cases this

theorem lcLoop_region (d : Bytes → Except Err (Val × Bytes)) (hd : ItemLaw d) (B rest : Bytes)
    (c L : Nat) : ∀ (fuel fuel' i : Nat) (reg : Bytes), B.drop i = reg ++ rest →
      i + reg.length = c + L → reg.length ≤ fuel → reg.length ≤ fuel' →
      (lcLoop (liftDecode d) fuel ⟨B, i, c, L⟩).toOption =
        (decodeMany d fuel' reg).toOption.map (fun vs => (vs, ⟨B, c + L, c, L⟩)) := by
  intro fuel
  induction fuel with
  | zero =>
    intro fuel' i reg _ hi hf _
    obtain rfl := List.eq_nil_of_length_eq_zero (Nat.le_zero.mp hf)
    obtain rfl : i = c + L := hi
    rw [lcLoop_done _ _ _ _ _ _ rfl, decodeMany_nil]; rfl
  | succ fuel ih =>
    intro fuel' i reg hB hi hf hf'
    cases reg with
    | nil =>
      obtain rfl : i = c + L := hi
      rw [lcLoop_done _ _ _ _ _ _ rfl, decodeMany_nil]; rfl
    | cons y ys =>
      cases fuel' with
      | zero => cases hf'
      | succ fuel' =>
        rw [lcLoop_step _ _ _ _ _ _ (by simp only [List.length_cons] at hi; omega), liftDecode_mk]
        simp only [decodeMany]
        cases hr : d (y :: ys) with
        | ok q =>
          -- the item lies inside the region: the shared buffer yields the same item
          obtain ⟨v, r'⟩ := q
          obtain ⟨cc, hcc, hpos, hall⟩ := hd _ _ _ hr
          have hlen := congrArg List.length hcc
          have hBl := congrArg List.length hB
          rw [hcc, List.append_assoc] at hB
          rw [List.length_append] at hlen
          rw [List.length_drop, List.length_append] at hBl
          rw [hB, hall]
          dsimp only
          have hidx : B.length - (r' ++ rest).length = i + cc.length := by
            rw [List.length_append]; omega
          have hB' : B.drop (i + cc.length) = r' ++ rest := by
            rw [← List.drop_drop, hB, List.drop_left]
          rw [hidx]
          have := ih fuel' (i + cc.length) r' hB' (by omega) (by omega) (by omega)
          -- both sides put the same item in front of what the induction hypothesis relates
          generalize lcLoop (liftDecode d) fuel ⟨B, i + cc.length, c, L⟩ = X at this ⊢
          generalize decodeMany d fuel' r' = Y at this ⊢
          cases X <;> cases Y <;> cases this <;> rfl
        | error e =>
          -- otherwise the shared buffer rejects the item too, or yields one that overruns the region
          cases hx : d (B.drop i) with
          | error e' => rfl
          | ok q =>
            obtain ⟨v, r⟩ := q
            obtain ⟨cc, hcc, _, hall⟩ := hd _ _ _ hx
            dsimp only
            rw [hcc] at hB
            rcases List.append_eq_append_iff.mp hB with ⟨as, has, _⟩ | ⟨bs, hbs, _⟩
            · rw [has, hall] at hr; cases hr
            · cases bs with
              | nil => rw [List.append_nil] at hbs; rw [← hbs, ← List.append_nil cc, hall] at hr; cases hr
              | cons z zs =>
                have hBl := congrArg List.length hcc
                have hcl := congrArg List.length hbs
                rw [List.length_drop, List.length_append] at hBl
                simp only [List.length_append, List.length_cons] at hcl hi
                rw [lcLoop_past _ _ _ _ _ _ (by omega)]
                rfl

theorem startLengthCheck_mk (B : Bytes) (i c L ll : Nat) :
    startLengthCheck ⟨B, i, c, L⟩ ll =
      if B.length < i + ll then .error .readPast
      else .ok ⟨B, i + ll, i + ll, beDecode ((B.drop i).take ll)⟩ := by
  simp only [startLengthCheck, get, getFixBytes, bind, Except.bind]
  by_cases h : B.length < i + ll <;> simp [h]

theorem lcList_eq_decode (f : Fmt) (hw : wf false f = true) (hm : 0 < minLen f) (t ll : Nat)
    (p : Parser) (hinv : p.inv) :
    (lcList (liftDecode (decode f t)) ll p).toOption.map (fun (v, p') => (v, p'.remaining)) =
      (decode (list ll f) t p.remaining).toOption := by
  obtain ⟨B, i, c0, L0⟩ := p
  have hd := itemLaw_decode f hw hm t
  simp only [inv] at hinv
  rw [decode_lenPref_eq]
  simp only [lcList, startLengthCheck_mk, remaining, List.length_drop, List.drop_drop]
  by_cases h1 : B.length < i + ll
  · rw [if_pos h1, if_pos (by omega)]; rfl
  · rw [if_neg h1, if_neg (by omega)]
    dsimp only
    generalize beDecode ((B.drop i).take ll) = L
    by_cases h2 : B.length - (i + ll) < L
    · -- the declared region runs past the buffer
      rw [if_pos h2]
      have := lcLoop_short (decode f t) B (i + ll) L (by omega) B.length (i + ll) (by omega)
      generalize lcLoop (liftDecode (decode f t)) B.length ⟨B, i + ll, i + ll, L⟩ = X at this ⊢
      cases X with
      | error e => rfl
      | ok q => cases this
    · rw [if_neg h2]
      have hlen : ((B.drop (i + ll)).take L).length = L := by
        rw [List.length_take, List.length_drop]; omega
      have := lcLoop_region (decode f t) hd B ((B.drop (i + ll)).drop L) (i + ll) L B.length
        ((B.drop (i + ll)).take L).length (i + ll) ((B.drop (i + ll)).take L)
        (List.take_append_drop _ _).symm (by omega) (by omega) (Nat.le_refl _)
      have hstop : stopLengthCheck ⟨B, i + ll + L, i + ll, L⟩ = .ok () :=
        (stopLengthCheck_ok_iff _).mpr (by dsimp only; omega)
      simp only [decode]
      generalize lcLoop (liftDecode (decode f t)) B.length ⟨B, i + ll, i + ll, L⟩ = X at this ⊢
      generalize decodeMany (decode f t) ((B.drop (i + ll)).take L).length ((B.drop (i + ll)).take L) = Y
        at this ⊢
      cases X <;> cases Y <;> cases this
      · rfl
      · simp only [hstop]; rfl

end Tls.Codec.Parser
