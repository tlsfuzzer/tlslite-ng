import TlsModel.Gen.Transcript
/-
  The tables regenerated from the source (TlsModel/Gen/Transcript.lean) against the model of
  TlsModel/Transcript.lean: the generated sentinel and SCSV conditions are, term for term, the
  conditions of the model, so they agree for all versions and not only for the known ones; and the schedule check
  `schedConforms` looks at the options only through the flow script (`schedConforms_congr`), so that the TLS 1.3
  flows are evaluated on the three options they read.
-/
namespace Tls.Transcript
open GenBase

theorem sentinelWrites_eq_model (smax v : Version) (rnd : Bytes) :
    applyWrites { version := v, maxVersion := smax } Gen.sentinelWrites rnd
      = some (serverRandomTail smax v rnd) := by
  simp only [Gen.sentinelWrites, applyWrites, Cond.eval, CmpOp.eval, VExp.eval, sentinelOf,
    serverRandomTail, Option.bind_eq_bind, Option.bind_some, Option.pure_def]
  generalize (v == (3, 3) && _) = w12
  generalize (vlt v (3, 3) && _) = w11
  cases w12 <;> cases w11 <;> rfl

theorem sentinelChecks_eq_model (cmax v : Version) (tail : Bytes) :
    firstAlert { selfVersion := v, maxVersion := cmax, tail := tail } Gen.sentinelChecks
      = some (verdictAlert (clientChecksSentinel cmax v tail)) := by
  simp only [Gen.sentinelChecks, firstAlert, Cond.eval, CmpOp.eval, VExp.eval, sentinelOf,
    clientChecksSentinel, Option.map_some, Option.bind_eq_bind, Option.bind_some, Option.pure_def,
    Bool.and_assoc]
  generalize (vlt (3, 3) cmax && _) = c1
  generalize (cmax == (3, 3) && _) = c2
  cases c1 <;> cases c2 <;> rfl

theorem scsvChecks_eq_model (smax v : Version) (scsv : Bool) :
    firstAlert { version := v, maxVersion := smax, scsv := scsv } Gen.scsvChecks
      = some (verdictAlert (serverChecksScsv smax v (if scsv then [fallbackScsv] else []))) := by
  simp only [Gen.scsvChecks, firstAlert, Cond.eval, CmpOp.eval, VExp.eval, serverChecksScsv,
    Option.bind_eq_bind, Option.bind_some, Option.pure_def]
  cases vlt v smax <;> cases scsv <;> rfl

theorem schedConforms_congr (evs : List SchedEv) {f : Flow} {o o' : Opts}
    (h : flowScript f o = flowScript f o') : schedConforms evs f o = schedConforms evs f o' := by
  simp only [schedConforms, specPoints13, h]

end Tls.Transcript
