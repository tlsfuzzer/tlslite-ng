import TlsModel.ErrPath
/-
  Lemmas for Props/C08: the error kinds under the two outer handlers (`onError_eq`), progress of `getNextRecord` /
  `getMsgFuel`, totality of each block of the ClientHello checks and of the TLS 1.3 block of the ServerHello checks
  (the other ServerHello blocks are one term each, in Props/C08).
-/
namespace Tls.ErrPath

theorem codeDesc_eq_specDesc (k : ErrKind) : codeDesc k = specDesc k := by
  cases k <;> rfl

/-- only the peer's close_notify is an orderly end: the session stays resumable -/
def ErrKind.orderly : ErrKind → Bool
  | .remoteAlert _ 0 => true
  | _ => false

theorem shutdown_false_idem (c : Conn) : shutdown false (shutdown false c) = shutdown false c := by
  cases c with | mk cl s => cases s <;> rfl

theorem onErrorInner_remoteAlert (l d : Nat) (c : Conn) :
    onErrorInner (.remoteAlert l d) c =
      ⟨if l == 1 || d == 0 then [(1, 0)] else [], shutdown (d == 0) c, .remoteAlert l d⟩ := by
  cases d <;> by_cases h1 : l = 1 <;> simp [onErrorInner, codeDesc, dCloseNotify, h1]

/-- `readAsync` shuts down once more than the handshake's handler, which changes nothing (`shutdown_false_idem`). -/
theorem onError_eq (k : ErrKind) (c : Conn) :
    onError k c = { onErrorInner k c with conn := shutdown k.orderly c } ∧ onErrorRead k c = onError k c := by
  cases k
  case remoteAlert l d =>
    simp only [onError, onErrorRead, onErrorInner_remoteAlert, wrapHandshake, wrapRead]
    cases d <;> simp [ErrKind.orderly, shutdown_false_idem]
  case abruptClose | socketError | escaped | internalNoAlert => exact ⟨rfl, rfl⟩
  all_goals exact ⟨rfl, congrArg (Effects.mk _ · _) (shutdown_false_idem c)⟩

theorem length_drop_add_take {α : Type} (l : List α) (n : Nat) :
    (l.drop n).length + (l.take n).length = l.length := by
  simp only [List.length_take, List.length_drop]; omega

theorem getMessage_size {d d' : Defrag} {t : Nat} {m : Bytes}
    (h : d.getMessage = some (t, m, d')) : d'.size + m.length = d.size ∧ 1 ≤ m.length := by
  revert h
  fun_cases Defrag.getMessage d <;> intro h <;> cases h
  · have := length_drop_add_take d.ccs 1
    refine ⟨by simp only [Defrag.size]; omega, by rw [List.length_take]; omega⟩
  · have := length_drop_add_take d.alert 2
    refine ⟨by simp only [Defrag.size]; omega, by rw [List.length_take]; omega⟩
  · rename_i n _
    have := length_drop_add_take d.hs (4 + n)
    refine ⟨by simp only [Defrag.size]; omega, by rw [List.length_take]; omega⟩

theorem add_size {d d' : Defrag} {t : Nat} {b : Bytes} (h : d.add t b = .ok d') :
    d'.size = d.size + b.length := by
  revert h
  fun_cases Defrag.add d t b <;> intro h <;> cases h <;> simp only [Defrag.size, List.length_append] <;> omega

theorem fromSocket_ok_inv {i : Input} {t : Nat} {data : Bytes} {s : Bool}
    (h : fromSocket i = .ok (t, data, s)) :
    i = .record t data s ∧ (t = 20 ∨ t = 21 ∨ t = 22 ∨ t = 23 ∨ t = 24) := by
  revert h
  fun_cases fromSocket i <;> intro h <;> cases h
  rename_i c _
  refine ⟨rfl, ?_⟩
  simp only [Bool.not_eq_true', Bool.not_eq_false, Bool.or_eq_true, beq_iff_eq] at c
  omega

theorem fromSocket_size {i : Input} {t : Nat} {data : Bytes} {s : Bool}
    (h : fromSocket i = .ok (t, data, s)) : i.size = data.length := by
  rw [(fromSocket_ok_inv h).1]; rfl

theorem add_defined {i : Input} {t : Nat} {data : Bytes} {s : Bool} (d : Defrag)
    (h : fromSocket i = .ok (t, data, s)) (hp : (t == 23 || t == 24) = false) :
    ∃ d', d.add t data = .ok d' := by
  have h2 := (fromSocket_ok_inv h).2
  simp only [Bool.or_eq_false_iff, beq_eq_false_iff_ne] at hp
  have : t = 20 ∨ t = 21 ∨ t = 22 := by omega
  rcases this with rfl | rfl | rfl <;> exact ⟨_, rfl⟩

theorem fromSocket_error_inv {i : Input} {k : ErrKind} (h : fromSocket i = .error k) :
    i = .bad k ∨ k = .recEmptyNonAppData ∨ k = .recUnknownContentType := by
  revert h
  fun_cases fromSocket i <;> intro h <;> cases h <;> simp

/-- The ValueError of `Defragmenter.add_data` ("Message type not defined") is unreachable: `fromSocket` lets through
    only types that are passed on or that `add_data` knows (`add_defined`). -/
theorem getNextRecord_fail {v13 : Bool} {d d' : Defrag} {inp rest : List Input} {k : ErrKind}
    (h : getNextRecord v13 d inp = .fail k d' rest) : ∃ i ∈ inp, fromSocket i = .error k := by
  revert h
  fun_induction getNextRecord v13 d inp with
  -- no failure: a buffered message, no input, a record passed on
  | case1 | case2 | case4 => simp
  -- `fromSocket` failed
  | case3 d _ i rest k0 hf => intro h; cases h; exact ⟨i, List.mem_cons_self, hf⟩
  -- `Defrag.add` failed: it cannot
  | case5 d _ i rest t data s hf hc e' ha =>
    have hp : (t == 23 || t == 24) = false := by
      simp only [Bool.or_eq_true, Bool.and_eq_true, beq_iff_eq, not_or] at hc
      simp only [Bool.or_eq_false_iff, beq_eq_false_iff_ne]
      exact ⟨hc.1.1.1, hc.1.2⟩
    obtain ⟨d2, hd2⟩ := add_defined d hf hp
    rw [hd2] at ha
    cases ha
  | case6 _ _ _ _ _ _ _ _ _ _ _ ih =>
    intro h
    obtain ⟨i, hi, hf⟩ := ih h
    exact ⟨i, List.mem_cons_of_mem _ hi, hf⟩

/-- what a call of `getNextRecord` leaves has measure below `m` and at most `n` records; `needMore` claims nothing,
    the loop stops there -/
def Next.decr (m n : Nat) : Next → Prop
  | .item _ _ _ _ d' rest => mu d' rest < m ∧ rest.length ≤ n
  | .fail _ d' rest => mu d' rest < m ∧ rest.length ≤ n
  | .needMore _ => True

theorem Next.decr_mono {m n m' n' : Nat} {r : Next} (h : r.decr m n) (hm : m ≤ m') (hn : n ≤ n') :
    r.decr m' n' := by
  cases r with
  | item _ _ _ _ d' rest => exact ⟨Nat.lt_of_lt_of_le h.1 hm, Nat.le_trans h.2 hn⟩
  | fail _ d' rest => exact ⟨Nat.lt_of_lt_of_le h.1 hm, Nat.le_trans h.2 hn⟩
  | needMore _ => trivial

theorem getNextRecord_decr (v13 : Bool) (d : Defrag) (inp : List Input) :
    (getNextRecord v13 d inp).decr (mu d inp) inp.length := by
  fun_induction getNextRecord v13 d inp with
  | case1 d inp t m d' hg =>
    have := getMessage_size hg
    simp only [Next.decr, mu]
    omega
  | case2 => trivial
  -- one record read and not buffered
  | case3 | case4 | case5 =>
    simp only [Next.decr, mu, inputsMu, List.length_cons]
    omega
  -- one record moved into the buffer: it weighs one less there
  | case6 d _ i rest t data s hf _ d' ha ih =>
    have := fromSocket_size hf
    have := add_size ha
    apply Next.decr_mono ih
    · simp only [mu, inputsMu]; omega
    · simp

/-- A pass of the `_getMsg` loop that `continue`s has consumed a record or a buffered message
    (`getNextRecord_decr`), so `mu` bounds the passes whatever the fuel. -/
theorem getMsgFuel_bounds (cfg : Cfg) (fuel : Nat) (d : Defrag) (inp : List Input) :
    (mu d inp < fuel → (getMsgFuel cfg fuel d inp).outcome ≠ .outOfFuel) ∧
    (getMsgFuel cfg fuel d inp).iters ≤ mu d inp + 1 ∧
    (getMsgFuel cfg fuel d inp).reads ≤ inp.length := by
  fun_induction getMsgFuel cfg fuel d inp with
  -- the `.again` arm, the only one that calls the loop again
  | case6 fuel d inp t data ssl2 fb d' rest hn _ _ sent _ _ ih =>
    have hp := getNextRecord_decr cfg.v13 d inp
    rw [hn] at hp
    have h1 := hp.1
    have h2 := hp.2
    simp +zetaDelta only
    exact ⟨fun h => ih.1 (by omega), by omega, by omega⟩
  | _ => simp +zetaDelta

/-!
  A check is `Total` when it ends in `.ok`: it answered with an alert or let the hello pass.  `Total` is closed under
  what the blocks are built from (`done`, `alertIf`, `withExt` of an extension that is not duplicated), so the proof
  of a block is a term that follows its construction: unification unfolds `chkX h` to its head combinator.
  `Total.alertIf_of` hands the negated test to the arm it guards, for the branches marked unreachable in the model. -/

def Total {α : Type} (k : Except Escape α) : Prop := ∃ r, k = .ok r

theorem Total.ok {α : Type} (r : α) : Total (.ok r : Except Escape α) := ⟨r, rfl⟩

theorem Total.done : Total ErrPath.done := .ok none

theorem Total.alertIf_of {c : Bool} {d : Desc} {m : String} {k : Chk} (h : c = false → Total k) :
    Total (ErrPath.alertIf c d m k) := by
  cases c
  · exact h rfl
  · exact .ok _

theorem Total.alertIf {c : Bool} {d : Desc} {m : String} {k : Chk} (h : Total k) : Total (ErrPath.alertIf c d m k) :=
  .alertIf_of fun _ => h

theorem getExt_ok {α : Type} (e : Ext α) (hd : e.isDup = false) : getExt e = .ok e.toOption := by
  cases e with
  | absent => rfl
  | present v => rfl
  | dup => cases hd

theorem withExt_ok {α : Type} (e : Ext α) (k : Option α → Chk) (hd : e.isDup = false) :
    withExt e k = k e.toOption := by
  rw [withExt, getExt_ok e hd]

theorem Total.withExt {α : Type} {e : Ext α} {k : Option α → Chk} (hd : e.isDup = false)
    (h : ∀ v, Total (k v)) : Total (ErrPath.withExt e k) :=
  withExt_ok e k hd ▸ h _

theorem runBlocks_total (bs : List (Unit → Chk)) (h : ∀ b ∈ bs, Total (b ())) : Total (runBlocks bs) := by
  fun_induction runBlocks bs with
  | case1 => exact .ok _
  | case2 b bs e hb =>
    obtain ⟨r, hr⟩ := h b List.mem_cons_self
    rw [hr] at hb
    cases hb
  | case3 => exact .ok _
  | case4 b bs _ ih => exact ih fun b' hb' => h b' (List.mem_cons_of_mem _ hb')

theorem optEmpty_false {α : Type} {o : Option (List α)} (h : optEmpty o = false) : ∃ l, o = some l := by
  cases o with
  | none => cases h
  | some l => exact ⟨l, rfl⟩

/-- what `_reject_duplicate_extensions` has established when the checks run -/
structure CH.NoDup (h : CH) : Prop where
  supportedVersions : h.supportedVersions.isDup = false
  sigAlgs : h.sigAlgs.isDup = false
  alpn : h.alpn.isDup = false
  sni : h.sni.isDup = false
  ems : h.ems.isDup = false
  ecPointFormats : h.ecPointFormats.isDup = false
  pha : h.pha.isDup = false
  pskModes : h.pskModes.isDup = false
  psk : h.psk.isDup = false
  supGroups : h.supGroups.isDup = false
  keyShare : h.keyShare.isDup = false
  earlyData : h.earlyData.isDup = false
  heartbeat : h.heartbeat.isDup = false
  recordSizeLimit : h.recordSizeLimit.isDup = false
  certType : h.certType.isDup = false

theorem CH.NoDup.of {h : CH} (hn : h.noDup = true) : h.NoDup := by
  simp only [CH.noDup, Bool.and_eq_true, Bool.not_eq_true'] at hn
  obtain ⟨⟨⟨⟨⟨⟨⟨⟨⟨⟨⟨⟨⟨⟨d1, d2⟩, d3⟩, d4⟩, d5⟩, d6⟩, d7⟩, d8⟩, d9⟩, d10⟩, d11⟩, d12⟩, d13⟩, d14⟩, d15⟩ :=
    hn
  exact ⟨d1, d2, d3, d4, d5, d6, d7, d8, d9, d10, d11, d12, d13, d14, d15⟩

theorem chkBasics_total (h : CH) : Total (chkBasics h) :=
  .alertIf <| .alertIf .done

theorem chkSupportedVersions_total (h : CH) (n : h.NoDup) : Total (chkSupportedVersions h) :=
  .withExt n.supportedVersions fun
    | none => .done
    | some _ => .alertIf .done

theorem Ext.eq_of_isPresentNone {β : Type} {e : Ext (Option β)} (h : e.isPresentNone = true) : e = .present none := by
  cases e with
  | present v => cases v with
    | none => rfl
    | some _ => cases h
  | _ => cases h

theorem chkSupportedVersions_presentNone (h : CH) (hn : h.supportedVersions.isPresentNone = true) :
    chkSupportedVersions h = .ok (some (dDecodeError, "Malformed supported_versions extension")) := by
  rw [chkSupportedVersions, Ext.eq_of_isPresentNone hn]
  rfl

theorem chkSigAlgs_total (h : CH) (n : h.NoDup) : Total (chkSigAlgs h) :=
  .withExt n.supportedVersions fun _ => .withExt n.sigAlgs fun _ => .alertIf .done

theorem chkAlpn_total (h : CH) (n : h.NoDup) : Total (chkAlpn h) :=
  .withExt n.alpn fun
    | none => .done
    | some _ => .alertIf <| .alertIf .done

theorem chkSni_total (h : CH) (n : h.NoDup) : Total (chkSni h) :=
  .withExt n.sni fun
    | none => .done
    | some s => .alertIf <| by
      cases s.hostNames with
      | nil => exact .done
      | cons _ _ => exact .alertIf <| .alertIf <| .alertIf <| .alertIf .done

theorem chkEms_total (h : CH) (n : h.NoDup) : Total (chkEms h) :=
  .withExt n.ems fun _ => .alertIf .done

theorem Ext.absent_or_some {β : Type} (e : Ext (Option β)) (hd : e.isDup = false) (hn : e.isPresentNone = false) :
    e = .absent ∨ ∃ v, e = .present (some v) := by
  cases e with
  | dup => cases hd
  | absent => exact .inl rfl
  | present v =>
    cases v with
    | none => cases hn
    | some l => exact .inr ⟨l, rfl⟩

theorem realVersion_total (h : CH) (n : h.NoDup) (hn : h.supportedVersions.isPresentNone = false) :
    Total (realVersion h) := by
  unfold realVersion
  split
  · rcases Ext.absent_or_some _ n.supportedVersions hn with hs | ⟨vs, hs⟩ <;> rw [hs] <;> exact .ok _
  · exact .ok _

theorem offers13_cases (h : CH) (n : h.NoDup) (hn : h.supportedVersions.isPresentNone = false) :
    offers13 h = .ok false ∨ ∃ vs, h.supportedVersions = .present (some vs) ∧ offers13 h = .ok true := by
  unfold offers13
  rcases Ext.absent_or_some _ n.supportedVersions hn with hs | ⟨vs, hs⟩ <;> rw [hs]
  · exact Or.inl rfl
  · simp only [getExt, iterOpt]
    cases vs.contains 0x0304 with
    | false => exact Or.inl rfl
    | true => exact Or.inr ⟨vs, rfl, rfl⟩

theorem chkVersion_total (s : SrvSettings) (h : CH) (n : h.NoDup)
    (hn : h.supportedVersions.isPresentNone = false) : Total (chkVersion s h) := by
  obtain ⟨v, hv⟩ := realVersion_total h n hn
  rw [chkVersion, hv]
  exact .alertIf .done

theorem chkEcPointFormats_total (s : SrvSettings) (h : CH) (n : h.NoDup)
    (hn : h.supportedVersions.isPresentNone = false) : Total (chkEcPointFormats s h) := by
  obtain ⟨v, hv⟩ := realVersion_total h n hn
  obtain ⟨o, ho⟩ : Total (offers13 h) := by
    rcases offers13_cases h n hn with ho | ⟨_, _, ho⟩ <;> exact ⟨_, ho⟩
  rw [chkEcPointFormats, hv, ho]
  dsimp only
  split
  · refine .withExt n.ecPointFormats fun
      | none => .done
      | some f => .alertIf_of fun hf => ?_
    obtain ⟨l, rfl⟩ := optEmpty_false hf
    exact .alertIf .done
  · exact .done

theorem chkCertTypeExt_total (h : CH) (n : h.NoDup) : Total (chkCertTypeExt h) :=
  .withExt n.certType fun
    | none => .done
    | some _ => .alertIf .done

theorem chkVersionNegotiation_total (s : SrvSettings) (h : CH) (n : h.NoDup)
    (hn : h.supportedVersions.isPresentNone = false) : Total (chkVersionNegotiation s h) := by
  rw [chkVersionNegotiation, withExt_ok _ _ n.supportedVersions]
  rcases Ext.absent_or_some _ n.supportedVersions hn with hs | ⟨vs, hs⟩ <;> rw [hs]
  · exact .done
  · exact .alertIf .done

theorem chkGroups_total (h : CH) (n : h.NoDup) : Total (chkGroups h) :=
  .withExt n.supGroups fun
    | none => .done
    | some _ => .alertIf .done

theorem chkHeartbeat_total (h : CH) (n : h.NoDup) : Total (chkHeartbeat h) :=
  .withExt n.heartbeat fun
    | none => .done
    | some _ => .alertIf .done

theorem chkRecordSizeLimit_total (h : CH) (n : h.NoDup) : Total (chkRecordSizeLimit h) :=
  .withExt n.recordSizeLimit fun
    | none => .done
    | some none => .ok _
    | some (some _) => .alertIf .done

theorem chkCertTypes_total (s : SrvSettings) (h : CH) (n : h.NoDup)
    (hn : h.certType.isPresentNone = false) : Total (chkCertTypes s h) := by
  unfold chkCertTypes
  split
  · exact .done
  rw [withExt_ok _ _ n.certType]
  rcases Ext.absent_or_some _ n.certType hn with hs | ⟨l, hs⟩ <;> rw [hs]
  · exact .done
  · exact .alertIf .done

theorem chkEarlyData_total (h : CH) (n : h.NoDup) : Total (chkEarlyData h) :=
  .withExt n.earlyData fun ed => .withExt n.psk fun _ =>
    match ed with
    | none => .done
    | some _ => .alertIf <| .alertIf .done

theorem chkKeyExchange_total (h : CH) (n : h.NoDup) (b : Bool) : Total (chkKeyExchange h b) := by
  unfold chkKeyExchange
  split
  · exact .done
  · exact .withExt n.sigAlgs fun _ => .withExt n.psk fun _ => .withExt n.pskModes fun _ => .alertIf .done

theorem chkKeyShare_total (h : CH) (n : h.NoDup) (vs : List Ver) (b : Bool) : Total (chkKeyShare h vs b) := by
  unfold chkKeyShare
  split
  · exact .done
  refine .withExt n.supGroups fun sg => .withExt n.keyShare fun ks => ?_
  cases sg with
  | none => exact .ok _
  | some groups =>
    cases ks with
    | none => exact .ok _
    | some shares =>
      refine .alertIf_of fun hg => .alertIf_of fun hs => ?_
      obtain ⟨g, rfl⟩ := optEmpty_false hg
      cases shares with
      | none => cases hs
      | some sh => exact .alertIf <| .alertIf <| .alertIf <| .alertIf .done

theorem chkPsk_total (h : CH) (n : h.NoDup) (k : Bool → Chk) (hk : ∀ b, Total (k b)) : Total (chkPsk h k) := by
  refine .withExt n.psk fun psk => .withExt n.pskModes fun modes => .withExt n.keyShare fun _ =>
    .withExt n.supGroups fun _ => .withExt n.pha fun _ => .alertIf <| .alertIf <| .alertIf_of fun hm => ?_
  cases psk with
  | none => exact hk _
  | some p =>
    refine .alertIf_of fun hi => .alertIf_of fun hb => ?_
    obtain ⟨ids, hi⟩ := optEmpty_false hi
    obtain ⟨bs, hb⟩ := optEmpty_false hb
    rw [hi, hb]
    refine .alertIf <| .alertIf <| .alertIf <| .alertIf <| ?_
    cases modes with
    | none => exact .ok _
    | some m =>
      obtain ⟨l, rfl⟩ := optEmpty_false hm
      exact hk _

theorem chkTls13_total (h : CH) (n : h.NoDup) (hn : h.supportedVersions.isPresentNone = false) :
    Total (chkTls13 h) := by
  unfold chkTls13
  rcases offers13_cases h n hn with ho | ⟨vs, hs, ho⟩
  · rw [ho]; exact .done
  · rw [ho, hs]
    refine chkPsk_total h n _ fun b => ?_
    obtain ⟨r1, e1⟩ := chkKeyShare_total h n vs b
    rw [e1]
    cases r1 with
    | some a => exact .ok _
    | none =>
      obtain ⟨r2, e2⟩ := chkKeyExchange_total h n b
      dsimp only
      rw [e2]
      cases r2 with
      | some a => exact .ok _
      | none => exact chkEarlyData_total h n

theorem shRealVersion_total (h : SH) (hd : h.supportedVersions.isDup = false) : Total (shRealVersion h) := by
  unfold shRealVersion
  split
  · rw [getExt_ok _ hd]
    cases h.supportedVersions.toOption <;> exact .ok _
  · exact .ok _

theorem shkTls13_total (c : CliState) (h : SH) (hd : h.supportedVersions.isDup = false)
    (h1 : h.keyShare.isDup = false) (h2 : h.psk.isDup = false) : Total (shkTls13 c h) := by
  obtain ⟨rv, hr⟩ := shRealVersion_total h hd
  rw [shkTls13, hr]
  dsimp -zeta only
  split
  · exact .done
  refine .withExt h1 fun ks => .withExt h2 fun psk => .alertIf ?_
  extract_lets kexPart
  obtain ⟨r, hk⟩ : Total kexPart := by
    simp only [kexPart]
    rcases ks with _ | _ | g
    · exact .done
    · exact .ok _
    · cases c.sharesSent with
      | none => exact .ok _
      | some sent => exact .alertIf .done
  rw [hk]
  cases r with
  | some a => exact .ok _
  | none =>
    cases psk with
    | none => exact .done
    | some sel =>
      cases c.pskIdsSent with
      | none => exact .ok _
      | some n =>
        cases sel with
        | none => exact .ok _
        | some i => exact .alertIf .done

theorem runBlocks_pass_inv (bs : List (Unit → Chk)) (h : runBlocks bs = .ok .pass) :
    ∀ b ∈ bs, b () = .ok none := by
  fun_induction runBlocks bs with
  | case1 => simp
  | case2 | case3 => cases h
  | case4 b bs hb ih => simpa [hb] using ih h

end Tls.ErrPath
