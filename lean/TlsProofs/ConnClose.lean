import TlsProofs.ConnDecide
/-
  What C17 stands on besides `ConnDecide`: an alert of the peer as `readAsync` sees it (`read_alert`), a
  closed connection stays closed and answers as it must (`runLocal_closed`), and the walk over all
  interleavings of two scripts that `close_every_interleaving` evaluates (`explore_sound`, over the
  relation `Shuffle`, which the enumeration `interleave` stays inside: `interleave_shuffle`).
-/
namespace Tls.Conn

theorem readIter_alert {l : Local} {lvl d : Nat} {rest : List Rec}
    (hin : l.inc.recs = ⟨l.me.readGen, .alert lvl d⟩ :: rest) :
    readIter (l.me.ver13 && !l.me.closed) (allowedHs l.me) l = (.err (.remoteAlert d),
      shutdown (d == 0)
        (tryReply (bif lvl == 1 || d == 0 then some (.alert 1 0) else none) (popped l rest))) := by
  apply readIter_of_step_err
  rw [getMsgStep_head hin, act_alert (by split <;> rfl)]
  rfl

/-- close_notify ends the read normally, any other alert is raised; close_notify and warnings are answered with
    close_notify (a send failure is ignored); only close_notify keeps the session -/
theorem read_alert (l : Local) (lvl d : Nat) (rest : List Rec) (mx : Option Nat) (mn : Nat)
    (hopen : l.me.closed = false) (hneed : l.me.readBuf.length < mn ∨ l.me.readBuf = [])
    (hin : l.inc.recs = ⟨l.me.readGen, .alert lvl d⟩ :: rest) :
    (read mx mn l).1 = (if d = 0 then .ok (l.me.readBuf.take (mx.getD l.me.readBuf.length))
                        else .err (.remoteAlert d)) ∧
    (read mx mn l).2.me.closed = true ∧
    (read mx mn l).2.me.resumable = (l.me.resumable && d == 0) ∧
    (read mx mn l).2.out.recs = l.out.recs ++
      (if (lvl == 1 || d == 0) && !l.me.txDead then [⟨l.me.writeGen, .alert 1 0⟩] else []) := by
  have hi := readIter_alert hin
  have hout : (tryReply (bif lvl == 1 || d == 0 then some (.alert 1 0) else none) (popped l rest)).out.recs =
      l.out.recs ++ (if (lvl == 1 || d == 0) && !l.me.txDead then [⟨l.me.writeGen, .alert 1 0⟩] else []) := by
    cases lvl == 1 || d == 0 <;> cases ht : l.me.txDead <;> simp [tryReply, sendRaw, popped, hopen, ht]
  generalize (bif lvl == 1 || d == 0 then some (Msg.alert 1 0) else none) = r at hi hout
  have hme : (tryReply r (popped l rest)).me = l.me := tryReply_me ..
  by_cases hd : d = 0
  · subst hd
    rw [read_of_iter_closenotify hopen hneed hi rfl, read_closed _ _ _ rfl]
    simp [shutdown_me, shutdown_out_recs, hme, hout]
  · rw [read_of_iter_err hopen hneed hi (by simp [hd]) (by simp)]
    simp [shutdown_me, shutdown_out_recs, hme, hout, hd]


/-- what an operation on a closed connection must answer -/
def closedAnswer (l : Local) : Op → Out → Prop
  | .read mx _, o => o = .bytes (l.me.readBuf.take (mx.getD l.me.readBuf.length))
  | .write _, o => o = .err .closedConn
  | .keyUpdate _, o => o = .err .closedConn
  | .heartbeat _ _, o => o = .err .closedConn
  | .requestClientAuth _, o => o = .err .valueError
  | .close, o => o = .done
  | _, _ => True

theorem runLocal_closed (op : Op) (l : Local) (hc : l.me.closed = true) :
    (runLocal op l).2.me.closed = true ∧ (runLocal op l).2.me.resumable = l.me.resumable ∧
    (runLocal op l).2.out.recs = l.out.recs ∧ closedAnswer l op (runLocal op l).1 := by
  cases op with
  | write d => simp [runLocal, write, hc, liftU, closedAnswer]
  | read mx mn => simp [runLocal, read_closed mx mn l hc, hc, closedAnswer]
  | keyUpdate r => simp [runLocal, sendKeyUpdate, hc, liftU, closedAnswer]
  | requestClientAuth sa => simp [runLocal, requestClientAuth, hc, liftU, closedAnswer]
  | heartbeat p n => simp [runLocal, heartbeat, hc, liftU, closedAnswer]
  | close => simp [runLocal, close, hc, liftU, closedAnswer]
  | makefile => simp [runLocal, makefile, hc, closedAnswer]
  | inject m => simp [runLocal, sendRaw, hc, closedAnswer]
  | kill k => simp [runLocal, hc, closedAnswer]
  | abort => simp [runLocal, hc, closedAnswer]

theorem step_other (w : World) (who : Side) (op : Op) :
    (step w who op).2.endOf who.other = w.endOf who.other := by
  cases who <;> simp [step, World.put, World.endOf, Side.other]

theorem step_self (w : World) (who : Side) (op : Op) :
    (step w who op).2.endOf who = (runLocal op (w.view who)).2.me := by
  cases who <;> simp [step, World.put, World.endOf]

theorem view_me (w : World) (who : Side) : (w.view who).me = w.endOf who := by
  cases who <;> rfl

theorem step_closed (w : World) (who who' : Side) (op : Op) (hc : (w.endOf who).closed = true) :
    ((step w who' op).2.endOf who).closed = true ∧
    ((step w who' op).2.endOf who).resumable = (w.endOf who).resumable := by
  cases who <;> cases who'
  -- the other side's step leaves this end as it is
  case client.server | server.client => exact ⟨hc, rfl⟩
  all_goals exact ⟨(runLocal_closed op _ hc).1, (runLocal_closed op _ hc).2.1⟩

/-- `h` is an interleaving of `xs` and `ys` -/
inductive Shuffle {α : Type} : List α → List α → List α → Prop
  | nil : Shuffle [] [] []
  | left {x : α} {xs ys h : List α} : Shuffle xs ys h → Shuffle (x :: xs) ys (x :: h)
  | right {y : α} {xs ys h : List α} : Shuffle xs ys h → Shuffle xs (y :: ys) (y :: h)

theorem Shuffle.of_left {α : Type} (xs : List α) : Shuffle xs [] xs := by
  induction xs with
  | nil => exact .nil
  | cons x xs ih => exact .left ih

theorem Shuffle.of_right {α : Type} (ys : List α) : Shuffle [] ys ys := by
  induction ys with
  | nil => exact .nil
  | cons y ys ih => exact .right ih

theorem Shuffle.mem {α : Type} {xs ys h : List α} (s : Shuffle xs ys h) {a : α} (ha : a ∈ h) :
    a ∈ xs ∨ a ∈ ys := by
  induction s with
  | nil => cases ha
  | left _ ih =>
    rcases List.mem_cons.mp ha with rfl | ha
    · exact .inl (List.mem_cons_self ..)
    · exact (ih ha).imp_left (List.mem_cons_of_mem _)
  | right _ ih =>
    rcases List.mem_cons.mp ha with rfl | ha
    · exact .inr (List.mem_cons_self ..)
    · exact (ih ha).imp_right (List.mem_cons_of_mem _)

def interleave {α : Type} : List α → List α → List (List α)
  | [], ys => [ys]
  | xs, [] => [xs]
  | x :: xs, y :: ys =>
    (interleave xs (y :: ys)).map (x :: ·) ++ (interleave (x :: xs) ys).map (y :: ·)
termination_by xs ys => xs.length + ys.length

theorem interleave_shuffle {α : Type} (xs ys : List α) : ∀ h ∈ interleave xs ys, Shuffle xs ys h := by
  induction xs, ys using interleave.induct with
  | case1 ys => simp [interleave, Shuffle.of_right]
  | case2 xs => simp [interleave, Shuffle.of_left]
  | case3 x xs y ys ih1 ih2 =>
    intro h hh
    rw [interleave] at hh
    simp only [List.mem_append, List.mem_map] at hh
    rcases hh with ⟨h', hm, rfl⟩ | ⟨h', hm, rfl⟩
    · exact .left (ih1 h' hm)
    · exact .right (ih2 h' hm)

def Clean (w : World) (h : List (Side × Op)) : Prop :=
  (∀ o ∈ outs w h, ∀ e, o ≠ .err e) ∧ (run w h).c.closed = true ∧ (run w h).s.closed = true ∧
  (run w h).c.resumable = true ∧ (run w h).s.resumable = true

theorem Clean.cons {w : World} {who : Side} {op : Op} {h : List (Side × Op)}
    (ho : ∀ e, (step w who op).1 ≠ .err e) (hc : Clean (step w who op).2 h) : Clean w ((who, op) :: h) :=
  ⟨fun o hm e => by
    rcases List.mem_cons.mp hm with rfl | hm
    · exact ho e
    · exact hc.1 o hm e, hc.2⟩

/-- operations that return normally on a closed connection -/
def Op.quiet : Op → Bool
  | .read .. | .close => true
  | _ => false

theorem clean_of_closed (w : World) (h : List (Side × Op)) (hq : ∀ o ∈ h, o.2.quiet = true)
    (hc : w.c.closed = true) (hs : w.s.closed = true) (hcr : w.c.resumable = true)
    (hsr : w.s.resumable = true) : Clean w h := by
  induction h generalizing w with
  | nil => exact ⟨by simp [outs], hc, hs, hcr, hsr⟩
  | cons o rest ih =>
    obtain ⟨who, op⟩ := o
    have h1 := step_closed w .client who op hc
    have h2 := step_closed w .server who op hs
    refine Clean.cons ?_ (ih _ (fun o ho => hq o (by simp [ho])) h1.1 h2.1 (h1.2.trans hcr) (h2.2.trans hsr))
    have hv : (w.view who).me.closed = true := by cases who <;> assumption
    have ha := (runLocal_closed op (w.view who) hv).2.2.2
    have hop := hq (who, op) (by simp)
    intro e he
    have he' : (runLocal op (w.view who)).1 = .err e := he
    cases op <;> simp [Op.quiet] at hop <;> simp [closedAnswer, he'] at ha

/-- decides that every interleaving of `xs` and `ys`, followed by `d`, is `Clean`: the tree of
    interleavings is walked once; a branch ends where both ends are closed, since reads and closes
    change nothing from there on (`clean_of_closed`); when both scripts are used up, `d` is run as a
    script of its own.  `n` bounds the depth of the walk. -/
def explore : List (Side × Op) → Nat → World → List (Side × Op) → List (Side × Op) → Bool
  | _, 0, _, _, _ => false
  | d, n + 1, w, xs, ys =>
    if w.c.closed && w.s.closed then
      w.c.resumable && w.s.resumable && (xs ++ ys ++ d).all (·.2.quiet)
    else
      (match xs, ys with
       | [], [] => !d.isEmpty && explore [] n w d []
       | _, _ => true) &&
      (match xs with
       | [] => true
       | (wx, x) :: xs' =>
         match (step w wx x).1 with
         | .err _ => false
         | _ => explore d n (step w wx x).2 xs' ys) &&
      (match ys with
       | [] => true
       | (wy, y) :: ys' =>
         match (step w wy y).1 with
         | .err _ => false
         | _ => explore d n (step w wy y).2 xs ys')

theorem explore_sound (d : List (Side × Op)) (n : Nat) (w : World) {xs ys h : List (Side × Op)}
    (s : Shuffle xs ys h) (he : explore d n w xs ys = true) : Clean w (h ++ d) := by
  induction n generalizing d w xs ys h with
  | zero => cases he
  | succ n ih =>
    unfold explore at he
    split at he
    · rename_i hcl
      simp only [Bool.and_eq_true, List.all_eq_true] at hcl he
      refine clean_of_closed w _ ?_ hcl.1 hcl.2 he.1.1 he.1.2
      intro o ho
      rcases List.mem_append.mp ho with ho | ho
      · exact he.2 o (by simpa [or_assoc] using Or.imp_right Or.inl (s.mem ho))
      · exact he.2 o (by simp [ho])
    · simp only [Bool.and_eq_true] at he
      cases s with
      | nil =>
        simp only [Bool.and_eq_true] at he
        simpa using ih [] w (.of_left d) he.1.1.2
      | @left x _ _ _ s' =>
        obtain ⟨wx, x⟩ := x
        have h1 := he.1.2
        dsimp only at h1
        split at h1
        · cases h1
        · rename_i hne; exact Clean.cons (fun e he => hne e he) (ih d _ s' h1)
      | @right y _ _ _ s' =>
        obtain ⟨wy, y⟩ := y
        have h1 := he.2
        dsimp only at h1
        split at h1
        · cases h1
        · rename_i hne; exact Clean.cons (fun e he => hne e he) (ih d _ s' h1)

end Tls.Conn
