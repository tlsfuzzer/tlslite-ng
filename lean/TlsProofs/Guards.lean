/-
  The decision functions of the model are chains `if g₁ then r₁ else if g₂ then r₂ else …`, or `do` blocks in `Except`
  whose steps are checks that may throw.  That such a function took a given value is analysed one guard, one step at a
  time with the lemmas below (`split at h` and `simp at h` re-simplify the whole remaining term at every step).
  A check `if c then throw e` in the middle of a `do` block elaborates to an `if` whose first branch is
  `throw e >>= …`: `ite_eq_right h nofun` disposes of it.  A straight-line `do` block is read off as a whole: with
  the step lemmas as equivalences (`bind_eq_ok_iff`, `guard_eq_ok`, `pure_or_throw_eq_ok`, `pure_eq_ok`) one
  `simp only […] at h` turns `block = .ok r` into the conjunction of its guards in a single traversal; where the block
  has case distinctions, walk to the distinction first, or every branch pays for the whole term.
  The module imports nothing, so it also holds the facts about lists and numbers that two trees need.
-/
namespace Tls

theorem ite_eq_cases {α : Sort _} {c : Prop} [Decidable c] {a b r : α}
    (h : (if c then a else b) = r) : c ∧ a = r ∨ ¬c ∧ b = r := by
  by_cases hc : c
  · rw [if_pos hc] at h; exact .inl ⟨hc, h⟩
  · rw [if_neg hc] at h; exact .inr ⟨hc, h⟩

theorem ite_elim {α : Sort _} {c : Prop} [Decidable c] {a b : α} (p : α → Prop)
    (ha : c → p a) (hb : ¬c → p b) : p (if c then a else b) := by
  by_cases hc : c
  · rw [if_pos hc]; exact ha hc
  · rw [if_neg hc]; exact hb hc

theorem ite_eq_right {α : Sort _} {c : Prop} [Decidable c] {a b r : α}
    (h : (if c then a else b) = r) (hne : a ≠ r) : ¬c ∧ b = r :=
  (ite_eq_cases h).resolve_left fun ha => hne ha.2

theorem ite_eq_left {α : Sort _} {c : Prop} [Decidable c] {a b r : α}
    (h : (if c then a else b) = r) (hne : b ≠ r) : c ∧ a = r :=
  (ite_eq_cases h).resolve_right fun hb => hne hb.2

theorem ok_bind {ε α β : Type _} (a : α) (f : α → Except ε β) : (Except.ok a >>= f) = f a := rfl

theorem bind_eq_ok {ε α β : Type _} {x : Except ε α} {f : α → Except ε β} {b : β}
    (h : (x >>= f) = .ok b) : ∃ a, x = .ok a ∧ f a = .ok b := by
  cases x with
  | error e => cases h
  | ok a => exact ⟨a, rfl, h⟩

theorem bind_eq_ok_iff {ε α β : Type _} {x : Except ε α} {f : α → Except ε β} {b : β} :
    (x >>= f) = .ok b ↔ ∃ a, x = .ok a ∧ f a = .ok b :=
  ⟨bind_eq_ok, fun ⟨_, hx, hf⟩ => hx ▸ hf⟩

theorem guard_eq_ok {ε α β : Type _} {c : Prop} [Decidable c] {e : ε} {f : α → Except ε β} {k : Except ε β} {b : β} :
    (if c then throw e >>= f else k) = .ok b ↔ ¬c ∧ k = .ok b :=
  ⟨fun h => ite_eq_right h nofun, fun ⟨hc, hk⟩ => (if_neg hc).trans hk⟩

theorem pure_or_throw_eq_ok {ε α : Type _} {ok : Bool} {e : ε} {a b : α} :
    (if ok = true then pure a else throw e : Except ε α) = .ok b ↔ ok = true ∧ a = b := by
  cases ok with
  | false => exact ⟨nofun, nofun⟩
  | true => exact ⟨fun h => ⟨rfl, Except.ok.inj h⟩, fun h => congrArg _ h.2⟩

theorem pure_eq_ok {ε α : Type _} {a b : α} : (pure a : Except ε α) = .ok b ↔ a = b :=
  ⟨Except.ok.inj, congrArg _⟩

-- the four iffs that follow give the value as `r = a`; `pure_or_throw_eq_ok` and `pure_eq_ok` above, which say the same of the
-- `pure` / `throw` spelling, as `a = b`: the side a `rfl` pattern eliminates differs
theorem throw_or_ok_eq_ok {ε α : Type _} {c : Prop} [Decidable c] {e : ε} {a r : α} :
    (if c then .error e else .ok a : Except ε α) = .ok r ↔ ¬c ∧ r = a := by
  by_cases hc : c <;> simp [hc, eq_comm]

theorem throw_or_ok_eq_error {ε α : Type _} {c : Prop} [Decidable c] {e e' : ε} {a : α} :
    (if c then .error e else .ok a : Except ε α) = .error e' ↔ c ∧ e' = e := by
  by_cases hc : c <;> simp [hc, eq_comm]

theorem ok_or_throw_eq_ok {ε α : Type _} {c : Prop} [Decidable c] {e : ε} {a r : α} :
    (if c then .ok a else .error e : Except ε α) = .ok r ↔ c ∧ r = a := by
  by_cases hc : c <;> simp [hc, eq_comm]

theorem ok_or_throw_eq_error {ε α : Type _} {c : Prop} [Decidable c] {e e' : ε} {a : α} :
    (if c then .ok a else .error e : Except ε α) = .error e' ↔ ¬c ∧ e' = e := by
  by_cases hc : c <;> simp [hc, eq_comm]

theorem error_of_ne_ok {ε α : Type _} {x : Except ε α} (h : ∀ a, x ≠ .ok a) : ∃ e, x = .error e := by
  cases x with
  | error e => exact ⟨e, rfl⟩
  | ok a => exact absurd rfl (h a)

theorem drop_eq_cons {α : Type} {l : List α} {i : Nat} {a : α} {r : List α} (h : l.drop i = a :: r) :
    l[i]? = some a ∧ l.drop (i + 1) = r := by
  constructor
  · have := List.getElem?_drop (xs := l) (i := i) (j := 0)
    rw [h] at this
    exact this.symm
  · rw [← List.drop_drop, h]
    rfl

theorem foldl_or_eq_zero {α : Type} (l : List α) (f : α → Nat) (a : Nat) :
    l.foldl (fun r i => r ||| f i) a = 0 ↔ a = 0 ∧ ∀ i ∈ l, f i = 0 := by
  induction l generalizing a with
  | nil => simp
  | cons x xs ih =>
    simp only [List.foldl_cons, ih, Nat.or_eq_zero_iff, List.mem_cons, forall_eq_or_imp, and_assoc]

/-- the model's two `divceil` (cryptomath.py's in `Tls.Rsa`, the ciphers' in `Tls.Crypto`) have this body -/
theorem le_mul_div_ceil (n d : Nat) (hd : 0 < d) : n ≤ d * (n / d + if n % d = 0 then 0 else 1) := by
  have h1 := Nat.div_add_mod n d
  have h2 := Nat.mod_lt n hd
  split
  · rw [Nat.add_zero]; omega
  · rw [Nat.mul_add, Nat.mul_one]; omega

theorem flatMap_range_congr {α : Type} (f g : Nat → List α) (n : Nat) (h : ∀ i, i < n → f i = g i) :
    (List.range n).flatMap f = (List.range n).flatMap g := by
  rw [List.flatMap_def, List.flatMap_def, List.map_congr_left fun i hi => h i (List.mem_range.mp hi)]

/-- the three `xorBytes` of the model (record layer, RSA-PSS, ciphers) are this `zipWith` -/
theorem zipWith_xor_cancel : ∀ (a k : List UInt8), a.length ≤ k.length →
    List.zipWith (· ^^^ ·) (List.zipWith (· ^^^ ·) a k) k = a
  | [], _, _ => rfl
  | _ :: _, [], h => absurd h (Nat.not_succ_le_zero _)
  | x :: xs, y :: ys, h => by
    rw [List.zipWith_cons_cons, List.zipWith_cons_cons, zipWith_xor_cancel xs ys (Nat.le_of_succ_le_succ h),
      UInt8.xor_assoc, UInt8.xor_self, UInt8.xor_zero]

end Tls
