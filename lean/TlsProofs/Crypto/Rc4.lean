import TlsModel.Crypto.Modes
import TlsProofs.Crypto.Chunks
/-
  C09 — RC4 (Python_RC4): the Python-int model with `% 256` is the byte-oriented key stream
  generator; (S, i, j) carried between calls; decrypt ∘ encrypt. The model state that represents a generator state `s` is
  a function of it, `repr s`, and each step is shown from `repr s` to `repr` of the generator's step; the statements with
  `Rel` are projections of these.
-/
namespace Tls.Crypto.Modes
open Tls Tls.Crypto

def Rel (m : Model.Rc4) (s : Spec.Rc4) : Prop :=
  m.S = s.S.map UInt8.toNat ∧ m.i = s.i.toNat ∧ m.j = s.j.toNat

theorem sAt_map (S : Vector UInt8 256) (u : UInt8) :
    Model.sAt (S.map UInt8.toNat) u.toNat = (S[u.toNat]'u.toNat_lt).toNat := by
  have h : u.toNat % 256 = u.toNat := Nat.mod_eq_of_lt u.toNat_lt
  simp [Model.sAt, h]

theorem swap_map (S : Vector UInt8 256) (u v : UInt8) :
    Model.swap (S.map UInt8.toNat) u.toNat v.toNat = (Spec.sw S u v).map UInt8.toNat := by
  have hu : u.toNat % 256 = u.toNat := Nat.mod_eq_of_lt u.toNat_lt
  have hv : v.toNat % 256 = v.toNat := Nat.mod_eq_of_lt v.toNat_lt
  simp [Model.swap, Spec.sw, hu, hv]

theorem add_toNat8 (u v : UInt8) : (u.toNat + v.toNat) % 256 = (u + v).toNat := by
  rw [UInt8.toNat_add]

def repr (s : Spec.Rc4) : Model.Rc4 := { S := s.S.map UInt8.toNat, i := s.i.toNat, j := s.j.toNat }

theorem Rel.eq_repr {m : Model.Rc4} {s : Spec.Rc4} (h : Rel m s) : m = repr s := by
  cases m; obtain ⟨h1, h2, h3⟩ := h; simp only at h1 h2 h3; subst h1 h2 h3; rfl

theorem succ_toNat8 (u : UInt8) : (u.toNat + 1) % 256 = (u + 1).toNat := add_toNat8 u 1

theorem rc4Loop_repr : ∀ (pt : Bytes) (S : Vector UInt8 256) (i j : UInt8),
    Model.rc4Loop { S := S.map UInt8.toNat, i := i.toNat, j := j.toNat } pt =
      (repr (Spec.prga ⟨S, i, j⟩ pt.length).1, xorBytes pt (Spec.prga ⟨S, i, j⟩ pt.length).2) := by
  intro pt
  induction pt with
  | nil => intro S i j; rfl
  | cons x xs ih =>
    intro S i j
    simp only [Model.rc4Loop, succ_toNat8, sAt_map, add_toNat8, swap_map, UInt8.ofNat_toNat, ih]
    rfl

theorem rc4Loop_spec (pt : Bytes) (m : Model.Rc4) (s : Spec.Rc4) (h : Rel m s) :
    Rel (Model.rc4Loop m pt).1 (Spec.prga s pt.length).1 ∧
    (Model.rc4Loop m pt).2 = xorBytes pt (Spec.prga s pt.length).2 := by
  rw [h.eq_repr, repr, rc4Loop_repr]
  exact ⟨⟨rfl, rfl, rfl⟩, rfl⟩

theorem prga_add : ∀ (a b : Nat) (s : Spec.Rc4),
    Spec.prga s (a + b) = ((Spec.prga (Spec.prga s a).1 b).1, (Spec.prga s a).2 ++ (Spec.prga (Spec.prga s a).1 b).2) := by
  intro a
  induction a with
  | zero => intro b s; simp [Spec.prga]
  | succ a ih =>
    intro b s
    rw [show a + 1 + b = (a + b) + 1 from by omega]
    simp only [Spec.prga, ih]
    rfl

theorem prga_length : ∀ (n : Nat) (s : Spec.Rc4), (Spec.prga s n).2.length = n := by
  intro n; induction n with
  | zero => intro _; rfl
  | succ n ih => intro s; simp [Spec.prga, ih]

theorem spec_rc4_stream (s : Spec.Rc4) (a b : Bytes) :
    Spec.rc4Encrypt s (a ++ b) =
      ((Spec.rc4Encrypt (Spec.rc4Encrypt s a).1 b).1,
       (Spec.rc4Encrypt s a).2 ++ (Spec.rc4Encrypt (Spec.rc4Encrypt s a).1 b).2) := by
  simp only [Spec.rc4Encrypt, List.length_append, prga_add]
  congr 1
  simp only [xorBytes]
  exact List.zipWith_append (by rw [prga_length])

theorem spec_rc4_involution (s : Spec.Rc4) (pt : Bytes) :
    (Spec.rc4Encrypt s (Spec.rc4Encrypt s pt).2).2 = pt := by
  have hl : (Spec.rc4Encrypt s pt).2.length = pt.length := by
    simp [Spec.rc4Encrypt, xorBytes_length, prga_length]
  simp only [Spec.rc4Encrypt] at hl ⊢
  rw [hl, xorBytes_cancel]
  rw [prga_length]; exact Nat.le_refl _

theorem add3_toNat8 (u v w : UInt8) : (u.toNat + v.toNat + w.toNat) % 256 = (u + v + w).toNat := by
  rw [← add_toNat8, ← add_toNat8, Nat.mod_add_mod]

theorem ksaStep_repr (key : Bytes) (hk : 0 < key.length) (S : Vector UInt8 256) (j u : UInt8) :
    Model.ksaStep key hk (S.map UInt8.toNat, j.toNat) u.toNat =
      ((Spec.ksaStep key hk (S, j) u.toNat).1.map UInt8.toNat, (Spec.ksaStep key hk (S, j) u.toNat).2.toNat) := by
  simp only [Model.ksaStep, Spec.ksaStep, UInt8.ofNat_toNat, sAt_map, add3_toNat8, swap_map]

theorem ksa_fold (key : Bytes) (hk : 0 < key.length) :
    ∀ (l : List Nat), (∀ n ∈ l, n < 256) → ∀ (S : Vector UInt8 256) (j : UInt8),
      l.foldl (Model.ksaStep key hk) (S.map UInt8.toNat, j.toNat) =
        ((l.foldl (Spec.ksaStep key hk) (S, j)).1.map UInt8.toNat, (l.foldl (Spec.ksaStep key hk) (S, j)).2.toNat) := by
  intro l
  induction l with
  | nil => intro _ S j; rfl
  | cons n ns ih =>
    intro hl S j
    obtain ⟨u, rfl⟩ : ∃ u : UInt8, n = u.toNat :=
      ⟨UInt8.ofNat n, by rw [UInt8.toNat_ofNat']; exact (Nat.mod_eq_of_lt (hl n List.mem_cons_self)).symm⟩
    rw [List.foldl_cons, List.foldl_cons, ksaStep_repr]
    exact ih (fun m hm => hl m (List.mem_cons_of_mem _ hm)) _ _

theorem identityS_map : Model.identityS = Spec.identityS.map UInt8.toNat := by
  ext i hi
  simp only [Model.identityS, Spec.identityS, Vector.getElem_ofFn, Vector.getElem_map, UInt8.toNat_ofNat']
  exact (Nat.mod_eq_of_lt hi).symm

/-- the rest of `__init__` applied to both sides of `ksa_fold` -/
theorem rc4Init_repr (key : Bytes) (h : ¬ (key.length < 16 ∨ key.length > 256)) (hk : 0 < key.length) :
    Model.rc4Init key = .ok (repr (Spec.ksa key hk)) := by
  have := ksa_fold key hk (List.range 256) (fun n hn => List.mem_range.mp hn) Spec.identityS 0
  rw [Model.rc4Init, dif_neg h, identityS_map]
  exact congrArg (fun r : Vector Nat 256 × Nat => (Except.ok { S := r.1, i := 0, j := 0 } : Except Err Model.Rc4)) this

theorem rc4_decrypt_encrypt (m : Model.Rc4) (s : Spec.Rc4) (h : Rel m s) (pt : Bytes) :
    (Model.rc4Loop m (Model.rc4Loop m pt).2).2 = pt := by
  rw [(rc4Loop_spec (Model.rc4Loop m pt).2 m s h).2, (rc4Loop_spec pt m s h).2]
  exact spec_rc4_involution s pt

end Tls.Crypto.Modes
