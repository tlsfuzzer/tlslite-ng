import TlsModel.Crypto.Modes
import TlsProofs.Crypto.Stream
import TlsProofs.Crypto.BE
/-
  C09 — CTR (Python_AES_CTR incl. `_counter_update`) over an abstract block cipher.
  A counter block is read as a number: the block `i` steps after `T` is `ctrAt T i`.  The code's
  `_counter_update`, the standard incrementing function of SP 800-38A on any field width, GCM's inc32
  and CCM's A_i all produce `ctrAt T i` as long as their counter field does not wrap; every
  agreement between two of them is an equation between numbers, not an induction along the stream.
-/
namespace Tls.Crypto.Modes
open Tls Tls.Crypto

def lowBits (m : Nat) (X : Bytes) : Nat := beDecode X % 2 ^ m

/-- the relation between the object's `_counter_bytes` and the width `m` of the counter field:
    tlslite's own objects for GCM/CCM have `_counter_bytes = 0` and increment all 128 bits -/
def widthOf (cb : Nat) : Nat := if cb = 0 then 128 else 8 * cb

def ctrAt (T : Bytes) (i : Nat) : Bytes := beEncode 16 (beDecode T + i)

theorem ctrAt_length (T : Bytes) (i : Nat) : (ctrAt T i).length = 16 := length_beEncode _ _

theorem ctrAt_zero (T : Bytes) (hT : T.length = 16) : ctrAt T 0 = T := beEncode_beDecode16 T hT

theorem ctrAt_ctrAt (T : Bytes) (i j : Nat) : ctrAt (ctrAt T i) j = ctrAt T (i + j) := by
  rw [ctrAt, ctrAt, beDecode_beEncode, ← beEncode_mod, Nat.mod_add_mod, beEncode_mod, Nat.add_assoc]
  rfl

theorem lowBits_ctrAt (m : Nat) (hm : m ≤ 128) (T : Bytes) (i : Nat) (h : lowBits m T + i < 2 ^ m) :
    lowBits m (ctrAt T i) = lowBits m T + i := by
  unfold lowBits at *
  rw [ctrAt, beDecode_beEncode, show (256:Nat) ^ 16 = 2 ^ 128 from by decide,
    Nat.mod_mod_of_dvd _ (Nat.pow_dvd_pow 2 hm), ← Nat.mod_add_mod, Nat.mod_eq_of_lt h]

/-- a counter block laid out as a fixed part and a `k`-byte big-endian field (GCM: nonce ‖ [i]₃₂, CCM: flags ‖ N ‖ [i]_L):
    the steps happen in the field, while it has room -/
theorem ctrAt_field (pre : Bytes) (k v i : Nat) (hl : pre.length + k = 16) (h : v + i < 256 ^ k) :
    ctrAt (pre ++ beEncode k v) i = pre ++ beEncode k (v + i) := by
  have e : ∀ w, w < 256 ^ k → beDecode (pre ++ beEncode k w) = beDecode pre * 256 ^ k + w := fun w hw => by
    rw [beDecode_append, length_beEncode, beDecode_beEncode_of_lt k w hw]
  rw [ctrAt, e v (by omega), Nat.add_assoc, ← e (v + i) h,
    beEncode_beDecode16 _ (by rw [List.length_append, length_beEncode, hl])]

theorem lowBits_field (pre : Bytes) (k v : Nat) (h : v < 256 ^ k) : lowBits (8 * k) (pre ++ beEncode k v) = v := by
  rw [lowBits, beDecode_append, length_beEncode, beDecode_beEncode_of_lt k v h, ← pow256, Nat.mul_add_mod_self_right,
    Nat.mod_eq_of_lt h]

/-- no condition for `m = 128`: a 128-bit field wraps where `ctrAt` does -/
theorem incM_eq_ctrAt (m : Nat) (T : Bytes) (hT : T.length = 16) (h : m = 128 ∨ lowBits m T + 1 < 2 ^ m) :
    Spec.incM m T = ctrAt T 1 := by
  unfold Spec.incM ctrAt
  simp only
  rcases h with rfl | h
  · have hlt := beDecode_lt16 T hT
    rw [Nat.div_eq_of_lt hlt, Nat.zero_mul, Nat.zero_add, Nat.mod_eq_of_lt hlt,
      show (2:Nat) ^ 128 = 256 ^ 16 from by decide, beEncode_mod]
  · unfold lowBits at h
    rw [Nat.mod_eq_of_lt h]
    congr 1
    have := Nat.div_add_mod (beDecode T) (2 ^ m)
    rw [Nat.mul_comm] at this
    omega

theorem iterate_incM (m : Nat) (hm : m ≤ 128) : ∀ (r : Nat) (T : Bytes), T.length = 16 →
    (m = 128 ∨ lowBits m T + r < 2 ^ m) → Spec.iterate (Spec.incM m) r T = ctrAt T r
  | 0, T, hT, _ => (ctrAt_zero T hT).symm
  | r + 1, T, hT, h => by
    rw [Spec.iterate, incM_eq_ctrAt m T hT (h.imp id (by omega)),
      iterate_incM m hm r _ (ctrAt_length T 1)
        (h.imp id fun h => by rw [lowBits_ctrAt m hm T 1 (by omega)]; omega),
      ctrAt_ctrAt, Nat.add_comm]

theorem ctrStream_eq_flatMap (E : Bytes → Bytes) (inc : Bytes → Bytes) : ∀ (n : Nat) (T : Bytes),
    Spec.ctrStream E inc n T = (List.range n).flatMap fun i => E (Spec.iterate inc i T)
  | 0, _ => rfl
  | n + 1, T => by rw [Spec.ctrStream, ctrStream_eq_flatMap E inc n, flatMap_range_succ]; rfl

theorem ctrStream_closed (E : Bytes → Bytes) (m : Nat) (hm : m ≤ 128) (n : Nat) (T : Bytes) (hT : T.length = 16)
    (h : m = 128 ∨ lowBits m T + n ≤ 2 ^ m) :
    Spec.ctrStream E (Spec.incM m) n T = (List.range n).flatMap fun i => E (ctrAt T i) := by
  rw [ctrStream_eq_flatMap]
  exact flatMap_range_congr _ _ n fun i hi => by rw [iterate_incM m hm i T hT (h.imp id (by omega))]

/-- `r` more counter updates stay clear of the all-ones counter field, where the code raises
    (no condition for tlslite's own objects with `_counter_bytes = 0`) -/
def NoWrap (c : Model.Ctr) (r : Nat) : Prop :=
  c.counterBytes = 0 ∨ lowBits (8 * c.counterBytes) c.counter + r < 2 ^ (8 * c.counterBytes) - 1

theorem NoWrap.mono {c : Model.Ctr} {r r' : Nat} (h : NoWrap c r) (hr : r' ≤ r) : NoWrap c r' :=
  h.imp id fun h => by omega

theorem NoWrap.ctrAt {c : Model.Ctr} {a b : Nat} (hcb : c.counterBytes ≤ 16) (h : NoWrap c (a + b)) :
    NoWrap { c with counter := ctrAt c.counter a } b :=
  h.imp id fun h => by
    dsimp only
    rw [lowBits_ctrAt _ (by omega) _ _ (by omega)]
    omega

theorem NoWrap.width {c : Model.Ctr} {r : Nat} (h : NoWrap c r) :
    widthOf c.counterBytes = 128 ∨ lowBits (widthOf c.counterBytes) c.counter + r < 2 ^ widthOf c.counterBytes := by
  unfold widthOf
  by_cases h0 : c.counterBytes = 0
  · exact .inl (if_pos h0)
  · rw [if_neg h0]; exact .inr (by have := h.resolve_left h0; omega)

theorem widthOf_le (cb : Nat) (hcb : cb ≤ 16) : widthOf cb ≤ 128 := by
  unfold widthOf; split <;> omega

/-- the overflow test of `_counter_update`: the low `cb` bytes of the new counter are all 0xff -/
theorem lowField_all_ones (cb : Nat) (hcb : cb ≤ 16) (x : Nat) :
    (beEncode 16 x).drop ((beEncode 16 x).length - cb) = List.replicate cb 0xff ↔
      x % 2 ^ (8 * cb) = 2 ^ (8 * cb) - 1 := by
  have hd : (beEncode 16 x).drop ((beEncode 16 x).length - cb) = beEncode cb x := by
    rw [length_beEncode]
    conv => lhs; rw [show 16 = (16 - cb) + cb by omega, Nat.add_sub_cancel]
    exact beEncode_drop _ _ _
  rw [hd, ← pow256, ← beDecode_replicate_ff]
  constructor
  · intro h
    rw [← beDecode_beEncode, h]
  · intro h
    have := beEncode_beDecode (List.replicate cb (0xff : UInt8))
    rw [List.length_replicate, ← h, beEncode_mod] at this
    exact this

theorem succ_mod_of_lt (v p : Nat) (h : v % p + 1 < p) : (v + 1) % p = v % p + 1 := by
  conv => lhs; rw [← Nat.div_add_mod v p, Nat.add_assoc, Nat.mul_add_mod, Nat.mod_eq_of_lt h]

/-- `_counter_update` is one step, when the field is not about to reach all-ones (there the code
    raises OverflowError, one step before the standard's counter would wrap) -/
theorem counterUpdate_ok (c : Model.Ctr) (hcb : c.counterBytes ≤ 16) (h : NoWrap c 1) :
    Model.counterUpdate c = .ok { c with counter := ctrAt c.counter 1 } := by
  unfold Model.counterUpdate
  rw [if_neg]
  · rfl
  · rintro ⟨hpos, heq⟩
    have hh := h.resolve_left (by omega)
    unfold lowBits at hh
    rw [lowField_all_ones _ hcb, succ_mod_of_lt _ _ (by omega)] at heq
    omega

theorem ctrMaskLoop_closed (E : Bytes → Bytes) (hE : ∀ b, (E b).length = 16) (n : Nat) :
    ∀ (fuel : Nat) (c : Model.Ctr) (mask : Bytes),
      divceil (n - mask.length) 16 ≤ fuel → c.counter.length = 16 → c.counterBytes ≤ 16 →
      NoWrap c (divceil (n - mask.length) 16) →
      Model.ctrMaskLoop E n fuel c mask =
        .ok ({ c with counter := ctrAt c.counter (divceil (n - mask.length) 16) },
             mask ++ (List.range (divceil (n - mask.length) 16)).flatMap fun i => E (ctrAt c.counter i)) := by
  have done : ∀ (c : Model.Ctr) (mask : Bytes), c.counter.length = 16 → ¬ mask.length < n →
      (Except.ok (c, mask) : Except Err _) =
        .ok ({ c with counter := ctrAt c.counter (divceil (n - mask.length) 16) },
             mask ++ (List.range (divceil (n - mask.length) 16)).flatMap fun i => E (ctrAt c.counter i)) := by
    intro c mask hlen h
    rw [Nat.sub_eq_zero_of_le (Nat.le_of_not_lt h), show divceil 0 16 = 0 from rfl, ctrAt_zero _ hlen]
    exact congrArg _ (congrArg _ (List.append_nil _).symm)
  intro fuel
  induction fuel with
  | zero =>
    intro c mask hr hlen _ _
    have hge : ¬ mask.length < n := by
      have := le_mul_divceil (n - mask.length) 16 (by decide); omega
    rw [Model.ctrMaskLoop, if_neg hge]
    exact done c mask hlen hge
  | succ fuel ih =>
    intro c mask hr hlen hcb hov
    rw [Model.ctrMaskLoop]
    by_cases hlt : mask.length < n
    · have hstep := divceil_step (n - mask.length) 16 (by decide) (by omega)
      have hm : n - (mask ++ E c.counter).length = n - mask.length - 16 := by
        rw [List.length_append, hE]; omega
      rw [hstep] at hr hov ⊢
      rw [if_pos hlt, counterUpdate_ok c hcb (hov.mono (Nat.le_add_left 1 _)), ok_bind,
        ih { c with counter := ctrAt c.counter 1 } (mask ++ E c.counter) (by rw [hm]; omega) (ctrAt_length _ _) hcb
          (by rw [hm]; exact NoWrap.ctrAt hcb (by rwa [Nat.add_comm] at hov)),
        hm, flatMap_range_succ, ctrAt_zero _ hlen, List.append_assoc]
      simp only [ctrAt_ctrAt, Nat.add_comm 1]
    · rw [if_neg hlt]
      exact done c mask hlen hlt

/-- `Python_AES_CTR.encrypt`. Excluded region: the counter field would reach all-ones (OverflowError in the code).
    `hov` stands before `hcb`: a caller who leaves `c` to unification gets it from `hov`, which mentions the counter; `hcb`
    holds of `c` and of `{ c with counter := … }` alike and would fix the wrong one. -/
theorem ctrEncrypt_closed (E : Bytes → Bytes) (hE : ∀ b, (E b).length = 16) (c : Model.Ctr) (pt : Bytes)
    (hlen : c.counter.length = 16) (hov : NoWrap c (divceil pt.length 16)) (hcb : c.counterBytes ≤ 16) :
    Model.ctrEncrypt E c pt =
      .ok ({ c with counter := ctrAt c.counter (divceil pt.length 16) },
           xorBytes pt ((List.range (divceil pt.length 16)).flatMap fun i => E (ctrAt c.counter i))) := by
  rw [Model.ctrEncrypt, ctrMaskLoop_closed E hE pt.length pt.length c [] (divceil_le_self _ 16 (by decide)) hlen hcb hov]
  rfl

theorem spec_ctr_length (E : Bytes → Bytes) (inc : Bytes → Bytes) (hE : ∀ b, (E b).length = 16)
    (T pt : Bytes) : (Spec.ctrEncrypt E inc T pt).length = pt.length := by
  rw [Spec.ctrEncrypt, ctrStream_eq_flatMap]; exact xorStream_length _ 16 (by decide) (fun _ => hE _) pt

theorem spec_ctr_involution (E : Bytes → Bytes) (inc : Bytes → Bytes) (hE : ∀ b, (E b).length = 16)
    (T pt : Bytes) : Spec.ctrEncrypt E inc T (Spec.ctrEncrypt E inc T pt) = pt := by
  simp only [Spec.ctrEncrypt, ctrStream_eq_flatMap]; exact xorStream_involution _ 16 (by decide) (fun _ => hE _) pt

-- `Spec.iterate f n x` applies `f` to `x` first, so the `a` steps are the inner ones
theorem iterate_add {α : Type} (f : α → α) : ∀ (a b : Nat) (x : α),
    Spec.iterate f (a + b) x = Spec.iterate f b (Spec.iterate f a x)
  | 0, b, x => by rw [Nat.zero_add]; rfl
  | a + 1, b, x => by rw [Nat.add_right_comm, Spec.iterate, iterate_add f a b, Spec.iterate]

theorem spec_ctr_stream (E : Bytes → Bytes) (inc : Bytes → Bytes) (hE : ∀ b, (E b).length = 16)
    (T a b : Bytes) (ha : a.length % 16 = 0) :
    Spec.ctrEncrypt E inc T (a ++ b) =
      Spec.ctrEncrypt E inc T a ++
        Spec.ctrEncrypt E inc (Spec.iterate inc (divceil a.length 16) T) b := by
  simp only [Spec.ctrEncrypt, ctrStream_eq_flatMap, ← iterate_add]
  exact xorStream_append _ 16 (by decide) (fun _ => hE _) a b ha

end Tls.Crypto.Modes
