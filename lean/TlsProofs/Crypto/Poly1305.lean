import TlsModel.Crypto.Poly1305
import TlsProofs.Crypto.Stream
import TlsProofs.Crypto.LE
/-
  C09 — Poly1305: the accumulator loop computes the polynomial of RFC 8439 §2.5 (`horner_eq`); the numeric clamp mask
  is the byte-wise clamp because `&&&` on little-endian numbers goes byte by byte (`leNum_and`).
-/
namespace Tls.Crypto.Poly1305
open Tls Tls.Crypto

theorem leBytesToNum_eq (data : Bytes) : Model.leBytesToNum data = leNum data := by
  rw [leNum_eq, Model.leBytesToNum]
  simp only [Nat.shiftLeft_eq]
  rfl

theorem numToLe_eq (n num : Nat) : Model.numToLe n num = leBytes n num := by
  induction n generalizing num with
  | zero => rfl
  | succ n ih =>
    have h : num &&& 0xff = num % 256 := Nat.and_two_pow_sub_one_eq_mod num 8
    simp only [Model.numToLe, leBytes, ih, h, Nat.shiftRight_eq_div_pow]

theorem coeff_eq (block : Bytes) : leNum (block ++ [1]) = Spec.coeff block := by
  rw [leNum_append, Spec.coeff]
  simp [leNum, pow256]

theorem horner_eq (r P : Nat) (cs : List Nat) (a : Nat) :
    cs.foldl (fun acc c => (r * (acc + c)) % P) a % P = (a * r ^ cs.length + Spec.polyEval r cs) % P := by
  induction cs generalizing a with
  | nil => simp [Spec.polyEval]
  | cons c cs ih =>
    rw [List.foldl_cons, ih, Spec.polyEval, List.length_cons]
    have e : a * r ^ (cs.length + 1) + (c * r ^ (cs.length + 1) + Spec.polyEval r cs)
        = r * (a + c) * r ^ cs.length + Spec.polyEval r cs := by
      rw [Nat.pow_succ]; grind
    rw [e, Nat.add_mod, Nat.mul_mod, Nat.mod_mod, ← Nat.mul_mod, ← Nat.add_mod]

theorem byte_and_split (x y : UInt8) (A M : Nat) :
    (x.toNat + 256 * A) &&& (y.toNat + 256 * M) = (x &&& y).toNat + 256 * (A &&& M) := by
  have split : ∀ (b : UInt8) (B : Nat),
      (b.toNat + 256 * B) % 2 ^ 8 = b.toNat ∧ (b.toNat + 256 * B) / 2 ^ 8 = B := fun b B =>
    ⟨by rw [show (2:Nat) ^ 8 = 256 from rfl, Nat.add_mul_mod_self_left, Nat.mod_eq_of_lt b.toNat_lt],
     by rw [show (2:Nat) ^ 8 = 256 from rfl, Nat.add_mul_div_left _ _ (by decide), Nat.div_eq_of_lt b.toNat_lt,
       Nat.zero_add]⟩
  rw [← Nat.mod_add_div ((x.toNat + 256 * A) &&& (y.toNat + 256 * M)) (2 ^ 8), Nat.and_mod_two_pow,
    Nat.and_div_two_pow, (split x A).1, (split x A).2, (split y M).1, (split y M).2, UInt8.toNat_and]

theorem leNum_and (a m : Bytes) : leNum (List.zipWith (· &&& ·) a m) = leNum a &&& leNum m := by
  induction a generalizing m with
  | nil => simp [leNum]
  | cons x xs ih =>
    cases m with
    | nil => simp [leNum]
    | cons y ys => simp only [List.zipWith_cons_cons, leNum, ih, byte_and_split]

def clampMask : Bytes := [255, 255, 255, 15, 252, 255, 255, 15, 252, 255, 255, 15, 252, 255, 255, 15]

theorem and255 (b : UInt8) : b &&& 255 = b := by
  apply UInt8.toNat_inj.mp; rw [UInt8.toNat_and]
  exact Nat.and_two_pow_sub_one_of_lt_two_pow (n := 8) b.toNat_lt

theorem clampBytes_eq (kb : Bytes) (h : kb.length = 16) :
    Spec.clampBytes kb = List.zipWith (· &&& ·) kb clampMask := by
  apply List.ext_getElem
  · rw [Spec.clampBytes, List.length_mapIdx, List.length_zipWith, h]; rfl
  · intro i h1 h2
    have hi : i < 16 := by rw [Spec.clampBytes, List.length_mapIdx, h] at h1; exact h1
    simp only [Spec.clampBytes, List.getElem_mapIdx, List.getElem_zipWith]
    generalize kb[i]'(by omega) = b
    match i, hi with
    | 3, _ | 7, _ | 11, _ | 15, _ | 4, _ | 8, _ | 12, _ => rfl
    | 0, _ | 1, _ | 2, _ | 5, _ | 6, _ | 9, _ | 10, _ | 13, _ | 14, _ => exact (and255 b).symm
    | n + 16, hn => exact absurd hn (by omega)

theorem clamp_eq (kb : Bytes) (h : kb.length = 16) :
    leNum (Spec.clampBytes kb) = leNum kb &&& 0x0ffffffc0ffffffc0ffffffc0fffffff := by
  rw [clampBytes_eq kb h, leNum_and]
  rfl

theorem foldl_lt (r P : Nat) (hP : 0 < P) (cs : List Nat) (a : Nat) (ha : a < P) :
    cs.foldl (fun acc c => (r * (acc + c)) % P) a < P := by
  induction cs generalizing a with
  | nil => exact ha
  | cons c cs ih => exact ih _ (Nat.mod_lt _ hP)

theorem P_eq : Model.P = Spec.p := by decide

theorem loop_eq (r P : Nat) (msg : Bytes) :
    (List.range (divceil msg.length 16)).foldl (fun acc i =>
        (r * (acc + Model.leBytesToNum ((msg.drop (i*16)).take 16 ++ [1]))) % P) 0 =
      ((chunks 16 msg).map Spec.coeff).foldl (fun acc c => (r * (acc + c)) % P) 0 := by
  rw [← slices_eq_chunks 16 (by decide), List.map_map, List.foldl_map]
  simp only [Function.comp, leBytesToNum_eq, coeff_eq]

/-- `create_tag` on a fresh object computes the RFC 8439 §2.5 MAC -/
theorem createTag_spec (key msg : Bytes) (hk : key.length = 32) :
    ∃ st, Model.init key = .ok st ∧ (Model.createTag st msg).2 = Spec.mac key msg := by
  refine ⟨_, by rw [Model.init, if_neg (by simp [hk])], ?_⟩
  simp only [Model.createTag, Spec.mac]
  rw [loop_eq, Model.numTo16LeBytes, numToLe_eq, leBytesToNum_eq, leBytesToNum_eq,
    ← clamp_eq _ (by simp [hk]), ← P_eq]
  have hP : 0 < Model.P := by decide
  have hlt := foldl_lt (leNum (Spec.clampBytes (key.take 16))) Model.P hP
    ((chunks 16 msg).map Spec.coeff) 0 hP
  have hh := horner_eq (leNum (Spec.clampBytes (key.take 16))) Model.P ((chunks 16 msg).map Spec.coeff) 0
  rw [Nat.mod_eq_of_lt hlt, Nat.zero_mul, Nat.zero_add] at hh
  rw [hh, show (2:Nat)^128 = 256^16 from by decide, leBytes_mod]

end Tls.Crypto.Poly1305
