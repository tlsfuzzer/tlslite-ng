import TlsModel.Crypto.Common
import TlsProofs.Guards
/-
  C09 — lemmas on `chunks` and `xorBytes` shared by the mode proofs (index slices as `chunks`: `Stream`), and the two facts
  about the model's `idx` and about `mapM` in `Except Err` that several ciphers use.
-/
namespace Tls.Crypto
open Tls

theorem idx_of_getElem? {α : Type} (l : List α) (i : Nat) (v : α) (h : l[i]? = some v) : idx l i = .ok v := by
  simp [idx, h]

theorem mapM_ok {α β : Type} (f : α → Except Err β) (g : α → β) : ∀ (l : List α), (∀ x ∈ l, f x = .ok (g x)) →
    l.mapM f = .ok (l.map g) := by
  intro l
  induction l with
  | nil => intro _; rfl
  | cons x xs ih =>
    intro h
    rw [List.mapM_cons, h x List.mem_cons_self, ih (fun y hy => h y (List.mem_cons_of_mem _ hy))]
    rfl

theorem chunks_nil' (n : Nat) : chunks n [] = [] := by
  rw [chunks]; simp

theorem chunks_cons' (n : Nat) (b : Bytes) (hn : n ≠ 0) (hb : b ≠ []) :
    chunks n b = b.take n :: chunks n (b.drop n) := by
  rw [chunks]; simp [hn, hb]

theorem chunks_induction {P : Bytes → Prop} (n : Nat) (hn : n ≠ 0) (h0 : P [])
    (hs : ∀ b, b ≠ [] → P (b.drop n) → P b) : ∀ b, P b := by
  intro b
  generalize hl : b.length = len
  induction len using Nat.strongRecOn generalizing b with
  | _ len ih =>
    by_cases hb : b = []
    · subst hb; exact h0
    · have hpos : 0 < b.length := List.length_pos_iff.mpr hb
      exact hs b hb (ih (b.drop n).length (by simp only [List.length_drop]; omega) _ rfl)

theorem flatten_chunks (n : Nat) (hn : n ≠ 0) (b : Bytes) : (chunks n b).flatten = b := by
  induction b using chunks_induction n hn with
  | h0 => simp [chunks_nil']
  | hs b hb ih => rw [chunks_cons' n b hn hb, List.flatten_cons, ih, List.take_append_drop]

theorem drop_length_mod (n : Nat) (b : Bytes) (hb : b ≠ []) (h : b.length % n = 0) :
    n ≤ b.length ∧ (b.drop n).length % n = 0 := by
  have hpos : 0 < b.length := List.length_pos_iff.mpr hb
  have hge : n ≤ b.length := by
    rcases Nat.lt_or_ge b.length n with hlt | hge
    · rw [Nat.mod_eq_of_lt hlt] at h; omega
    · exact hge
  exact ⟨hge, by rw [List.length_drop, ← Nat.mod_eq_sub_mod hge]; exact h⟩

theorem length_of_mem_chunks (n : Nat) (hn : n ≠ 0) (b : Bytes) (h : b.length % n = 0) :
    ∀ x ∈ chunks n b, x.length = n := by
  induction b using chunks_induction n hn with
  | h0 => simp [chunks_nil']
  | hs b hb ih =>
    obtain ⟨hge, hmod⟩ := drop_length_mod n b hb h
    rw [chunks_cons' n b hn hb]
    intro x hx
    rcases List.mem_cons.mp hx with rfl | hx
    · simp [List.length_take]; omega
    · exact ih hmod x hx

theorem chunks_flatten_append (n : Nat) (hn : n ≠ 0) (bl : List Bytes) (b : Bytes) (h : ∀ x ∈ bl, x.length = n) :
    chunks n (bl.flatten ++ b) = bl ++ chunks n b := by
  induction bl with
  | nil => rfl
  | cons x xs ih =>
    have hx : x.length = n := h x (List.mem_cons_self)
    have hne : (x :: xs).flatten ++ b ≠ [] := fun e => by
      have := congrArg List.length e
      simp only [List.flatten_cons, List.length_append, List.length_nil] at this; omega
    rw [chunks_cons' n _ hn hne, List.flatten_cons, List.append_assoc, List.take_left' hx, List.drop_left' hx,
      ih (fun y hy => h y (List.mem_cons_of_mem _ hy))]
    rfl

theorem chunks_flatten (n : Nat) (hn : n ≠ 0) (bl : List Bytes) (h : ∀ x ∈ bl, x.length = n) :
    chunks n bl.flatten = bl := by
  have := chunks_flatten_append n hn bl [] h
  rwa [List.append_nil, chunks_nil', List.append_nil] at this

theorem chunks_append (n : Nat) (hn : n ≠ 0) (a b : Bytes) (h : a.length % n = 0) :
    chunks n (a ++ b) = chunks n a ++ chunks n b := by
  have := chunks_flatten_append n hn (chunks n a) b (length_of_mem_chunks n hn a h)
  rwa [flatten_chunks n hn a] at this

theorem length_flatMap_const {α : Type} (f : α → Bytes) (d : Nat) (hf : ∀ a, (f a).length = d) (l : List α) :
    (l.flatMap f).length = d * l.length := by
  induction l with
  | nil => rfl
  | cons x xs ih => rw [List.flatMap_cons, List.length_append, hf, ih, List.length_cons, Nat.mul_succ, Nat.add_comm]

theorem xorBytes_length (a b : Bytes) : (xorBytes a b).length = min a.length b.length := by
  simp [xorBytes]

theorem xorBytes_cancel (a k : Bytes) (h : a.length ≤ k.length) : xorBytes (xorBytes a k) k = a :=
  zipWith_xor_cancel a k h

theorem xorBytes_comm (a b : Bytes) : xorBytes a b = xorBytes b a := List.zipWith_comm_of_comm UInt8.xor_comm

end Tls.Crypto
