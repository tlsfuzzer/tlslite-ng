import TlsModel.Crypto.Aes
import TlsProofs.Crypto.BE
import TlsProofs.Crypto.Chunks
/-
  C09 — the 32-bit words of rijndael.py (Python ints built with shifts and ors) against the bytes of FIPS-197: a word
  is the big-endian number of its four bytes (`Crypto/BE`), xor goes byte by byte. Also here: what the AES
  modules need of lists of known length (`exists16`, `drop4`).
-/
namespace Tls.Crypto.Aes
open Tls Tls.Crypto

def word (a b c d : Nat) : Nat := (a <<< 24) ||| (b <<< 16) ||| (c <<< 8) ||| d

def wordB (a b c d : UInt8) : Nat := word a.toNat b.toNat c.toNat d.toNat

theorem word_arith (a b c d : Nat) (hb : b < 256) (hc : c < 256) (hd : d < 256) :
    word a b c d = ((a * 256 + b) * 256 + c) * 256 + d := by
  unfold word
  have h1 : (c <<< 8) ||| d = c <<< 8 + d := (Nat.shiftLeft_add_eq_or_of_lt (by omega) c).symm
  have h2 : (b <<< 16) ||| (c <<< 8 + d) = b <<< 16 + (c <<< 8 + d) := by
    have : c <<< 8 + d < 2 ^ 16 := by rw [Nat.shiftLeft_eq]; omega
    exact (Nat.shiftLeft_add_eq_or_of_lt this b).symm
  have h3 : (a <<< 24) ||| (b <<< 16 + (c <<< 8 + d)) = a <<< 24 + (b <<< 16 + (c <<< 8 + d)) := by
    have : b <<< 16 + (c <<< 8 + d) < 2 ^ 24 := by rw [Nat.shiftLeft_eq, Nat.shiftLeft_eq]; omega
    exact (Nat.shiftLeft_add_eq_or_of_lt this a).symm
  rw [Nat.or_assoc, Nat.or_assoc, h1, h2, h3]
  simp only [Nat.shiftLeft_eq]
  omega

theorem byteOf_eq (w sh : Nat) : Model.byteOf w sh = w / 2 ^ sh % 256 := by
  unfold Model.byteOf
  rw [Nat.shiftRight_eq_div_pow]
  exact Nat.and_two_pow_sub_one_eq_mod _ 8

theorem xor_split (p q x y : Nat) (hx : x < 256) (hy : y < 256) :
    (p * 256 + x) ^^^ (q * 256 + y) = (p ^^^ q) * 256 + (x ^^^ y) := by
  have e3 : (p * 256 + x) / 256 = p := by
    rw [Nat.add_comm, Nat.add_mul_div_right _ _ (by decide : 0 < 256), Nat.div_eq_of_lt hx, Nat.zero_add]
  have e4 : (q * 256 + y) / 256 = q := by
    rw [Nat.add_comm, Nat.add_mul_div_right _ _ (by decide : 0 < 256), Nat.div_eq_of_lt hy, Nat.zero_add]
  have hm := @Nat.xor_mod_two_pow (p * 256 + x) (q * 256 + y) 8
  have hd := @Nat.xor_div_two_pow (p * 256 + x) (q * 256 + y) 8
  have p8 : (2:Nat) ^ 8 = 256 := rfl
  rw [p8, Nat.mul_add_mod_of_lt hx, Nat.mul_add_mod_of_lt hy] at hm
  rw [p8, e3, e4] at hd
  have := Nat.div_add_mod ((p * 256 + x) ^^^ (q * 256 + y)) 256
  rw [hm, hd] at this
  rw [← this, Nat.mul_comm]

theorem word_xor (a b c d e f g h : Nat) (hb : b < 256) (hc : c < 256) (hd : d < 256)
    (hf : f < 256) (hg : g < 256) (hh : h < 256) :
    word a b c d ^^^ word e f g h = word (a ^^^ e) (b ^^^ f) (c ^^^ g) (d ^^^ h) := by
  rw [word_arith a b c d hb hc hd, word_arith e f g h hf hg hh,
    word_arith _ _ _ _ (Nat.xor_lt_two_pow (n := 8) hb hf) (Nat.xor_lt_two_pow (n := 8) hc hg) (Nat.xor_lt_two_pow (n := 8) hd hh),
    xor_split _ _ d h hd hh, xor_split _ _ c g hc hg, xor_split _ _ b f hb hf]


theorem wordB_xor (a b c d e f g h : UInt8) :
    wordB a b c d ^^^ wordB e f g h = wordB (a ^^^ e) (b ^^^ f) (c ^^^ g) (d ^^^ h) := by
  simp only [wordB, UInt8.toNat_xor]
  exact word_xor _ _ _ _ _ _ _ _ b.toNat_lt c.toNat_lt d.toNat_lt f.toNat_lt g.toNat_lt h.toNat_lt

/-- `beEncode 4` (`be4_beEncode`) as a literal list, so that `rkBytes K r` shows its 16 entries (`rkBytes_length` by `rfl`);
    the first entry needs no `% 256`, `UInt8.ofNat` reduces -/
def be4 (w : Nat) : List UInt8 :=
  [UInt8.ofNat (w / 2 ^ 24), UInt8.ofNat (w / 2 ^ 16 % 256), UInt8.ofNat (w / 2 ^ 8 % 256), UInt8.ofNat (w % 256)]

/-- round key `r` as 16 bytes, from the list of key-schedule words (`Ke[r][c] = K[4r + c]`) -/
def rkBytes (K : List Nat) (r : Nat) : Spec.State :=
  be4 (K.getD (4*r) 0) ++ be4 (K.getD (4*r + 1) 0) ++ be4 (K.getD (4*r + 2) 0) ++ be4 (K.getD (4*r + 3) 0)

theorem rkBytes_length (K : List Nat) (r : Nat) : (rkBytes K r).length = 16 := rfl

theorem wordB_beDecode (a b c d : UInt8) : wordB a b c d = beDecode [a, b, c, d] := by
  rw [wordB, word_arith _ _ _ _ b.toNat_lt c.toNat_lt d.toNat_lt]
  simp [beDecode]

theorem be4_beEncode (w : Nat) : be4 w = beEncode 4 w := by
  have e : UInt8.ofNat (w / 2 ^ 24) = UInt8.ofNat (w / 256 ^ 3 % 256) := by
    apply UInt8.toNat_inj.mp; simp [UInt8.toNat_ofNat']
  simp only [be4, beEncode, e, Nat.pow_zero, Nat.div_one, Nat.pow_one]

theorem wordB_be4 (w : Nat) (hw : w < 2 ^ 32) :
    w = wordB (UInt8.ofNat (w / 2 ^ 24)) (UInt8.ofNat (w / 2 ^ 16 % 256)) (UInt8.ofNat (w / 2 ^ 8 % 256))
      (UInt8.ofNat (w % 256)) := by
  rw [wordB_beDecode]
  exact (beDecode_beEncode_of_lt 4 w hw).symm.trans (congrArg beDecode (be4_beEncode w).symm)

theorem be4_wordB (a b c d : UInt8) : be4 (wordB a b c d) = [a, b, c, d] := by
  rw [wordB_beDecode, be4_beEncode]
  exact beEncode_beDecode [a, b, c, d]

theorem wordB_lt (a b c d : UInt8) : wordB a b c d < 2 ^ 32 := by
  rw [wordB_beDecode]; exact Nat.lt_of_lt_of_eq (beDecode_lt [a, b, c, d]) (show 256 ^ 4 = 2 ^ 32 by decide)

theorem byteOf_wordB (a b c d : UInt8) :
    Model.byteOf (wordB a b c d) 24 = a.toNat ∧ Model.byteOf (wordB a b c d) 16 = b.toNat ∧
    Model.byteOf (wordB a b c d) 8 = c.toNat ∧ Model.byteOf (wordB a b c d) 0 = d.toNat := by
  have h := be4_wordB a b c d
  simp only [be4, List.cons.injEq, and_true] at h
  obtain ⟨ha, hb, hc, hd⟩ := h
  have ha' := congrArg UInt8.toNat ha
  have hb' := congrArg UInt8.toNat hb
  have hc' := congrArg UInt8.toNat hc
  have hd' := congrArg UInt8.toNat hd
  simp only [UInt8.toNat_ofNat', Nat.mod_mod] at ha' hb' hc' hd'
  simp only [byteOf_eq, Nat.pow_zero, Nat.div_one]
  exact ⟨ha', hb', hc', hd'⟩

theorem idx_getD {α : Type} (K : List α) (i : Nat) (d : α) (h : i < K.length) : idx K i = .ok (K.getD i d) := by
  simp [idx, List.getElem?_eq_getElem h, List.getD_eq_getElem?_getD]

theorem idx_key (K : List Nat) (hK : ∀ w ∈ K, w < 2 ^ 32) (i : Nat) (h : i < K.length) :
    idx K i = .ok (wordB (UInt8.ofNat (K.getD i 0 / 2 ^ 24)) (UInt8.ofNat (K.getD i 0 / 2 ^ 16 % 256))
      (UInt8.ofNat (K.getD i 0 / 2 ^ 8 % 256)) (UInt8.ofNat (K.getD i 0 % 256))) := by
  rw [idx_getD K i 0 h]
  congr 1
  apply wordB_be4
  apply hK
  rw [List.getD_eq_getElem?_getD, List.getElem?_eq_getElem h]
  exact List.getElem_mem h

theorem exists16 (s : List UInt8) (h : s.length = 16) :
    ∃ s0 s1 s2 s3 s4 s5 s6 s7 s8 s9 s10 s11 s12 s13 s14 s15,
      s = [s0, s1, s2, s3, s4, s5, s6, s7, s8, s9, s10, s11, s12, s13, s14, s15] := by
  rcases s with _ | ⟨b0, _ | ⟨b1, _ | ⟨b2, _ | ⟨b3, _ | ⟨b4, _ | ⟨b5, _ | ⟨b6, _ | ⟨b7, _ | ⟨b8, _ | ⟨b9,
    _ | ⟨b10, _ | ⟨b11, _ | ⟨b12, _ | ⟨b13, _ | ⟨b14, _ | ⟨b15, _ | ⟨b16, r⟩⟩⟩⟩⟩⟩⟩⟩⟩⟩⟩⟩⟩⟩⟩⟩⟩ <;>
    simp at h
  exact ⟨_, _, _, _, _, _, _, _, _, _, _, _, _, _, _, _, rfl⟩

theorem exists4 (x : List UInt8) (h : x.length = 4) : ∃ a b c d, x = [a, b, c, d] := by
  rcases x with _ | ⟨a, _ | ⟨b, _ | ⟨c, _ | ⟨d, _ | ⟨e, r⟩⟩⟩⟩⟩ <;> simp at h
  exact ⟨a, b, c, d, rfl⟩

theorem drop4 {α : Type} (l : List α) (n : Nat) (d : α) (h : n + 4 ≤ l.length) :
    (l.drop n).take 4 = [l.getD n d, l.getD (n + 1) d, l.getD (n + 2) d, l.getD (n + 3) d] := by
  have e : ∀ k (hk : k < 4), l[n + k]? = some (l[n + k]'(by omega)) := fun k hk => List.getElem?_eq_getElem _
  simp [List.take_add_one, List.getElem?_drop, List.getD_eq_getElem?_getD, e 1, e 2, e 3,
    List.getElem?_eq_getElem (show n < l.length by omega)]

theorem take_take_append {α : Type} (n : Nat) (l m : List α) : ((l.take n) ++ m).take n = (l ++ m).take n := by
  by_cases h : n ≤ l.length
  · rw [List.take_append_of_le_length (by simp [List.length_take]; omega), List.take_take, Nat.min_self,
      List.take_append_of_le_length h]
  · have hl : l.take n = l := List.take_of_length_le (by omega)
    rw [hl]

theorem at_map_range (f : Nat → UInt8) (n i : Nat) (h : i < n) : Spec.at_ ((List.range n).map f) i = f i := by
  simp only [Spec.at_, List.getD_eq_getElem?_getD, List.getElem?_map, List.getElem?_range h, Option.map_some, Option.getD_some]

theorem at_map (g : UInt8 → UInt8) (s : Spec.State) (i : Nat) (h : i < s.length) : Spec.at_ (s.map g) i = g (Spec.at_ s i) := by
  simp only [Spec.at_, List.getD_eq_getElem?_getD, List.getElem?_map, List.getElem?_eq_getElem h, Option.map_some, Option.getD_some]

end Tls.Crypto.Aes
