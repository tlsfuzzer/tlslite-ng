import TlsProofs.Crypto.Kdf
/-
  C09 — calc_key dispatch: which PRF, label and seed for every version × label × PRF hash;
  Derive-Secret.
-/
namespace Tls.Crypto.Kdf
open Tls Tls.Crypto

/-- result of the specification as the code's outcome: undefined combination = AssertionError -/
def specOutcome : Option Bytes → Except Err Bytes
  | some r => .ok r
  | none => .error .assertion

structure HashesWF (hs : Model.Hashes) : Prop where
  md5 : hs.md5.WF
  sha1 : hs.sha1.WF
  sha256 : hs.sha256.WF
  sha384 : hs.sha384.WF
  md5len : hs.md5.digestSize = 16

theorem digestSSL_spec (hs : Model.Hashes) (buffer ms sender : Bytes) :
    Model.digestSSL hs buffer ms sender = Spec.sslFinished hs buffer ms sender := by
  simp only [Model.digestSSL, Spec.sslFinished, List.append_assoc]

section
attribute [local simp] Model.calcKey Spec.calcKey Spec.Version.pair Spec.Label.bytes specOutcome digestSSL_spec
  bind Except.bind pure Except.pure Except.map
  lblMasterSecret lblKeyExpansion lblClientFinished lblServerFinished lblExtendedMasterSecret

/-- the transcript object is only looked at for the Finished and extended-master-secret labels, so for the other two
    it may be `None` -/
theorem calcKey_spec_of (hs : Model.Hashes) (wf : HashesWF hs) (v : Spec.Version) (sha384Prf : Bool)
    (l : Spec.Label) (secret transcript cr sr : Bytes) (length : Nat)
    (hlen : v = .ssl3 → length ≤ 416) (hh : Option Bytes)
    (hneed : l = .masterSecret ∨ l = .keyExpansion ∨ hh = some transcript) :
    Model.calcKey hs v.pair secret sha384Prf l.bytes hh (some cr) (some sr) (some length) =
      specOutcome (Spec.calcKey hs v sha384Prf l secret transcript cr sr length) := by
  have hm : ∀ x, (hs.md5.H x).length = 16 := fun x => by rw [wf.md5.len, wf.md5len]
  have p10 := prf_spec hs.md5 hs.sha1 wf.md5 wf.sha1 secret
  have p256 := prf12_spec hs.sha256 wf.sha256 secret
  have p384 := prf12_spec hs.sha384 wf.sha384 secret
  cases l <;> simp at hneed <;> (try subst hneed) <;> cases v
  -- only TLS 1.2 looks at the suite's PRF hash
  case' masterSecret.tls12 | keyExpansion.tls12 | clientFinished.tls12 | serverFinished.tls12 |
      extendedMasterSecret.tls12 => cases sha384Prf
  all_goals simp (config := { decide := true }) [p10, p256, p384]
  all_goals first | rfl | rw [prfSsl_spec hs.md5 hs.sha1 hm _ _ _ (hlen rfl)]

end

theorem spec_prf12_length (h : Hash) (wf : h.WF) (secret label seed : Bytes) (length : Nat) :
    (Spec.prf12 h secret label seed length).length = length :=
  spec_pHash_length (Spec.hmac h) h.digestSize wf.pos (hmac_length h wf) _ _ _

theorem spec_prf10_length (md5 sha1 : Hash) (w5 : md5.WF) (w1 : sha1.WF) (secret label seed : Bytes) (length : Nat) :
    (Spec.prf10 md5 sha1 secret label seed length).length = length := by
  simp only [Spec.prf10, xorBytes_length,
    spec_pHash_length (Spec.hmac md5) md5.digestSize w5.pos (hmac_length md5 w5),
    spec_pHash_length (Spec.hmac sha1) sha1.digestSize w1.pos (hmac_length sha1 w1), Nat.min_self]

theorem spec_prfSsl_length (md5 sha1 : Hash) (hm : ∀ x, (md5.H x).length = 16) (secret seed : Bytes)
    (length : Nat) (hlen : length ≤ 416) : (Spec.prfSsl md5 sha1 secret seed length).length = length := by
  rw [Spec.prfSsl, List.length_take, length_flatMap_range _ 16 (fun _ => hm _)]
  omega

theorem spec_calcKey_length (hs : Model.Hashes) (wf : HashesWF hs) (v : Spec.Version) (sha384Prf : Bool)
    (l : Spec.Label) (secret transcript cr sr : Bytes) (length : Nat) (hlen : v = .ssl3 → length ≤ 416)
    (hl : l = .masterSecret ∨ l = .keyExpansion ∨ v ≠ .ssl3) (r : Bytes)
    (h : Spec.calcKey hs v sha384Prf l secret transcript cr sr length = some r) : r.length = length := by
  have hm : ∀ x, (hs.md5.H x).length = 16 := fun x => by rw [wf.md5.len, wf.md5len]
  cases v
  case ssl3 =>
    cases l <;> simp [Spec.calcKey] at h hl <;> subst h <;> exact spec_prfSsl_length _ _ hm _ _ _ (hlen rfl)
  case tls12 =>
    simp only [Spec.calcKey, Option.some.injEq] at h
    subst h
    cases sha384Prf
    · exact spec_prf12_length _ wf.sha256 _ _ _ _
    · exact spec_prf12_length _ wf.sha384 _ _ _ _
  all_goals
    simp only [Spec.calcKey, Option.some.injEq] at h
    subst h
    exact spec_prf10_length _ _ wf.md5 wf.sha1 _ _ _ _

theorem deriveSecret_spec (mac : Bytes → Bytes → Bytes) (h : Hash) (wf : h.WF) (secret label : Bytes)
    (hh : Option Bytes) (h2 : 6 + label.length < 256) (hd : h.digestSize < 256) :
    Model.deriveSecret mac h secret label hh =
      .ok (Spec.deriveSecret mac h secret label (hh.getD [])) := by
  have hdc : divceil h.digestSize h.digestSize ≤ 255 := by
    unfold divceil
    have := wf.pos
    rw [Nat.div_self this, Nat.mod_self]; simp
  cases hh <;> simp only [Model.deriveSecret, Spec.deriveSecret, Option.getD] <;>
    exact hkdfExpandLabel_spec mac h.digestSize secret label _ h.digestSize (by omega) h2 (by rw [wf.len]; exact hd) hdc

end Tls.Crypto.Kdf
