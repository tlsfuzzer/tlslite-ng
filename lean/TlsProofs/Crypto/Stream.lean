import TlsProofs.Crypto.Chunks
/-
  C09 — what the stream-like constructions share: `divceil` as the number of blocks, `xorBytes` along `++` and `take`,
  index slices as `chunks`, and from these the laws of xoring with a stream of blocks (`xorStream_*`). `splitVerify` is the one shape all three AEADs (GCM, CCM,
  ChaCha20-Poly1305) give to `open`: split off the last `n` bytes, check them against the rest, and only then
  release the decryption of the rest; specific to a cipher are the check `ok body tag` and the decryption `dec`.
-/
namespace Tls.Crypto
open Tls

theorem le_mul_divceil (n d : Nat) (hd : 0 < d) : n ≤ d * divceil n d := le_mul_div_ceil n d hd

theorem divceil_step (n d : Nat) (hd : 0 < d) (h : 0 < n) : divceil n d = divceil (n - d) d + 1 := by
  unfold divceil
  by_cases hlt : n < d
  · rw [Nat.sub_eq_zero_of_le (Nat.le_of_lt hlt), Nat.div_eq_of_lt hlt, Nat.mod_eq_of_lt hlt,
      Nat.zero_div, Nat.zero_mod, if_neg (by omega), if_pos rfl]
  · rw [Nat.div_eq_sub_div hd (by omega), Nat.mod_eq_sub_mod (by omega)]; omega

theorem lt_divceil (n k d : Nat) (hd : 0 < d) : d * k < n ↔ k < divceil n d := by
  constructor
  · intro h
    exact Nat.lt_of_mul_lt_mul_left (Nat.lt_of_lt_of_le h (le_mul_divceil n d hd))
  · intro h
    have h1 := Nat.div_add_mod n d
    unfold divceil at h
    split at h
    · have := Nat.mul_le_mul_left d (show k + 1 ≤ n / d by omega)
      rw [Nat.mul_add, Nat.mul_one] at this
      omega
    · have := Nat.mul_le_mul_left d (show k ≤ n / d by omega)
      omega

theorem divceil_mono (a b d : Nat) (hd : 0 < d) (h : a ≤ b) : divceil a d ≤ divceil b d :=
  Nat.le_of_not_lt fun hlt => by
    have := (lt_divceil a _ d hd).mpr hlt
    have := le_mul_divceil b d hd
    omega

theorem divceil_le_self (n d : Nat) (hd : 0 < d) : divceil n d ≤ n :=
  Nat.le_of_not_lt fun hlt => by
    have := (lt_divceil n _ d hd).mpr hlt
    have := Nat.le_mul_of_pos_left n hd
    omega

theorem divceil_of_dvd (a d : Nat) (h : a % d = 0) : divceil a d = a / d := by
  rw [divceil, if_pos h, Nat.add_zero]

theorem divceil_add_of_dvd (a b d : Nat) (hd : 0 < d) (h : a % d = 0) :
    divceil (a + b) d = a / d + divceil b d := by
  obtain ⟨q, rfl⟩ := Nat.dvd_of_mod_eq_zero h
  unfold divceil
  rw [Nat.mul_add_mod, Nat.mul_add_div hd, Nat.mul_div_cancel_left _ hd, Nat.add_assoc]

theorem xorBytes_append (a b s t : Bytes) (h : a.length = s.length) :
    xorBytes (a ++ b) (s ++ t) = xorBytes a s ++ xorBytes b t :=
  List.zipWith_append h

theorem xorBytes_append_right (l a b : Bytes) :
    xorBytes l (a ++ b) = xorBytes (l.take a.length) a ++ xorBytes (l.drop a.length) b := by
  induction a generalizing l with
  | nil => simp [xorBytes]
  | cons x xs ih =>
    cases l with
    | nil => simp [xorBytes]
    | cons y ys =>
      simp only [xorBytes] at ih
      simp [xorBytes, ih]

theorem xorBytes_take (a s : Bytes) (n : Nat) : (xorBytes a s).take n = xorBytes (a.take n) (s.take n) :=
  List.take_zipWith

theorem xorBytes_take_right (a s : Bytes) (k : Nat) (h : a.length ≤ k) :
    xorBytes a (s.take k) = xorBytes a s := by
  have := xorBytes_take a s k
  rw [List.take_of_length_le h] at this
  rw [← this, List.take_of_length_le (by rw [xorBytes_length]; omega)]

theorem xorBytes_take_left (a s : Bytes) (n : Nat) : (xorBytes a s).take n = xorBytes (a.take n) s := by
  rw [xorBytes_take, xorBytes_take_right _ _ _ (List.length_take_le n a)]

theorem xorBytes_pad (a s : Bytes) (n : Nat) : (xorBytes (a ++ zeros n) s).take a.length = xorBytes a (s.take a.length) := by
  rw [xorBytes_take_left, List.take_left' rfl, xorBytes_take_right _ _ _ (Nat.le_refl _)]

/-- `for i in range(n): a[i] ^= b[i]` on two `n`-byte strings (the body of `Modes.xorN` and `Kdf.Model.xorInto`) -/
theorem xorBytes_take_self (n : Nat) (a b : Bytes) (ha : a.length = n) (hb : b.length = n) :
    xorBytes (a.take n) (b.take n) ++ a.drop n = xorBytes a b := by
  rw [List.take_of_length_le (Nat.le_of_eq ha), List.take_of_length_le (Nat.le_of_eq hb),
    List.drop_of_length_le (Nat.le_of_eq ha), List.append_nil]

/-- the padding of `Gcm.Spec.pad16`, `Ccm.Spec.pad16` -/
theorem length_pad16 (x : Bytes) : (x ++ zeros ((16 - x.length % 16) % 16)).length % 16 = 0 := by
  rw [List.length_append]; simp [zeros]; omega

theorem xorBytes_zeros (n : Nat) (l : Bytes) : xorBytes (zeros n) l = l.take n := by
  induction n generalizing l with
  | zero => simp [zeros, xorBytes]
  | succ n ih =>
    cases l with
    | nil => simp [zeros, xorBytes]
    | cons x xs =>
      simp only [zeros, xorBytes] at ih
      simp [zeros, xorBytes, List.replicate_succ, ih]

theorem length_flatMap_range (f : Nat → Bytes) (d : Nat) (hf : ∀ i, (f i).length = d) (n : Nat) :
    ((List.range n).flatMap f).length = d * n := by
  rw [length_flatMap_const f d hf, List.length_range]

theorem flatMap_range_succ (f : Nat → Bytes) (n : Nat) :
    (List.range (n + 1)).flatMap f = f 0 ++ (List.range n).flatMap fun i => f (i + 1) := by
  rw [List.range_succ_eq_map, List.flatMap_cons, List.flatMap_map]

theorem flatMap_range_add (f : Nat → Bytes) (a b : Nat) :
    (List.range (a + b)).flatMap f = (List.range a).flatMap f ++ (List.range b).flatMap fun i => f (a + i) := by
  rw [List.range_add, List.flatMap_append, List.flatMap_map]

/-! A stream cipher that xors with blocks `f 0 ‖ f 1 ‖ …` of `d` bytes, as many as the input needs (CTR, GCTR, CCM's and
    ChaCha20's encryption; `f i` = the cipher or block function at counter `i`). -/

theorem xorStream_length (f : Nat → Bytes) (d : Nat) (hd : 0 < d) (hf : ∀ i, (f i).length = d) (x : Bytes) :
    (xorBytes x ((List.range (divceil x.length d)).flatMap f)).length = x.length := by
  have := le_mul_divceil x.length d hd
  rw [xorBytes_length, length_flatMap_range f d hf]; omega

theorem xorStream_involution (f : Nat → Bytes) (d : Nat) (hd : 0 < d) (hf : ∀ i, (f i).length = d) (x : Bytes) :
    xorBytes (xorBytes x ((List.range (divceil x.length d)).flatMap f))
      ((List.range (divceil (xorBytes x ((List.range (divceil x.length d)).flatMap f)).length d)).flatMap f) = x := by
  rw [xorStream_length f d hd hf, xorBytes_cancel]
  rw [length_flatMap_range f d hf]; exact le_mul_divceil x.length d hd

theorem xorStream_take (f : Nat → Bytes) (d : Nat) (hd : 0 < d) (hf : ∀ i, (f i).length = d) (x : Bytes) (k : Nat) :
    (xorBytes x ((List.range (divceil x.length d)).flatMap f)).take k =
      xorBytes (x.take k) ((List.range (divceil (x.take k).length d)).flatMap f) := by
  obtain ⟨j, hj⟩ : ∃ j, divceil x.length d = divceil (x.take k).length d + j :=
    ⟨_, (Nat.add_sub_cancel' (divceil_mono _ _ d hd (List.length_take_le' k x))).symm⟩
  rw [xorBytes_take_left, hj, flatMap_range_add, xorBytes_append_right, length_flatMap_range f d hf,
    List.drop_of_length_le (le_mul_divceil _ d hd), List.take_of_length_le (le_mul_divceil _ d hd)]
  exact List.append_nil _

theorem xorStream_append (f : Nat → Bytes) (d : Nat) (hd : 0 < d) (hf : ∀ i, (f i).length = d) (a b : Bytes)
    (ha : a.length % d = 0) :
    xorBytes (a ++ b) ((List.range (divceil (a ++ b).length d)).flatMap f) =
      xorBytes a ((List.range (divceil a.length d)).flatMap f) ++
        xorBytes b ((List.range (divceil b.length d)).flatMap fun i => f (divceil a.length d + i)) := by
  rw [List.length_append, divceil_add_of_dvd _ _ d hd ha, ← divceil_of_dvd _ _ ha, flatMap_range_add, xorBytes_append]
  rw [length_flatMap_range f d hf, divceil_of_dvd _ _ ha]
  exact (Nat.mul_div_cancel' (Nat.dvd_of_mod_eq_zero ha)).symm

theorem slices_eq_chunks (d : Nat) (hd : d ≠ 0) (data : Bytes) :
    (List.range (divceil data.length d)).map (fun i => (data.drop (i*d)).take d) = chunks d data := by
  induction data using chunks_induction d hd with
  | h0 => simp [chunks_nil', divceil]
  | hs b hb ih =>
    rw [chunks_cons' d b hd hb, divceil_step _ d (Nat.pos_of_ne_zero hd) (List.length_pos_iff.mpr hb),
      List.range_succ_eq_map, List.map_cons, List.map_map, ← List.length_drop, ← ih]
    simp only [Nat.zero_mul, List.drop_zero, List.cons.injEq, true_and]
    apply List.map_congr_left
    intro i _
    simp only [Function.comp, List.drop_drop, Nat.succ_mul]
    rw [Nat.add_comm]

theorem slices_eq_chunks_dvd (n : Nat) (hn : n ≠ 0) (data : Bytes) (h : data.length % n = 0) :
    (List.range (data.length / n)).map (fun i => (data.drop (i*n)).take n) = chunks n data := by
  rw [← divceil_of_dvd _ _ h]; exact slices_eq_chunks n hn data

def splitVerify (n : Nat) (ok : Bytes → Bytes → Prop) [∀ b t, Decidable (ok b t)] (dec : Bytes → Bytes)
    (c : Bytes) : Option Bytes :=
  if c.length < n then none
  else if ok (c.take (c.length - n)) (c.drop (c.length - n)) then some (dec (c.take (c.length - n)))
  else none

variable (n : Nat) (ok : Bytes → Bytes → Prop) [∀ b t, Decidable (ok b t)] (dec : Bytes → Bytes)

theorem splitVerify_eq_some_iff (c p : Bytes) :
    splitVerify n ok dec c = some p ↔
      n ≤ c.length ∧ ok (c.take (c.length - n)) (c.drop (c.length - n)) ∧ p = dec (c.take (c.length - n)) := by
  unfold splitVerify
  by_cases hs : c.length < n
  · rw [if_pos hs]
    exact ⟨fun h => (nomatch h), fun h => absurd h.1 (Nat.not_le_of_lt hs)⟩
  · rw [if_neg hs]
    by_cases hk : ok (c.take (c.length - n)) (c.drop (c.length - n))
    · rw [if_pos hk]
      exact ⟨fun h => ⟨Nat.le_of_not_lt hs, hk, (Option.some.inj h).symm⟩, fun h => congrArg some h.2.2.symm⟩
    · rw [if_neg hk]
      exact ⟨fun h => (nomatch h), fun h => absurd h.2.1 hk⟩

theorem splitVerify_eq_none (c : Bytes)
    (h : c.length < n ∨ ¬ ok (c.take (c.length - n)) (c.drop (c.length - n))) :
    splitVerify n ok dec c = none := by
  unfold splitVerify
  by_cases hs : c.length < n
  · rw [if_pos hs]
  · rw [if_neg hs, if_neg (h.resolve_left hs)]

theorem splitVerify_append (body t : Bytes) (ht : t.length = n) (hok : ok body t) :
    splitVerify n ok dec (body ++ t) = some (dec body) := by
  unfold splitVerify
  rw [List.length_append, ht, if_neg (Nat.not_lt.mpr (Nat.le_add_left _ _)), Nat.add_sub_cancel,
    List.take_left' rfl, List.drop_left' rfl, if_pos hok]

end Tls.Crypto
