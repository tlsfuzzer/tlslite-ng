import TlsProofs.Crypto.AesTables
/-
  C09 — `Model.subRotWord` / `subWord` are SubWord ∘ RotWord / SubWord on words of bytes; the words of one pass of the
  key-schedule loop of `Rijndael.__init__` (`nextWin`), and the Nk iterations of the FIPS-197 §5.2
  KeyExpansion loop that produce them (for any Nk, by induction along the window).
-/
namespace Tls.Crypto.Aes
open Tls Tls.Crypto


def wd : List UInt8 → Nat
  | [a, b, c, d] => wordB a b c d
  | _ => 0

theorem wd_lt (x : List UInt8) : wd x < 2 ^ 32 := by
  unfold wd
  split
  · exact wordB_lt _ _ _ _
  · decide

theorem be4_wd (x : List UInt8) (h : x.length = 4) : be4 (wd x) = x := by
  obtain ⟨a, b, c, d, rfl⟩ := exists4 x h
  exact be4_wordB a b c d

theorem wd_map_lt (l : List (List UInt8)) : ∀ w ∈ l.map wd, w < 2 ^ 32 := by
  intro w hw
  obtain ⟨x, _, rfl⟩ := List.mem_map.mp hw
  exact wd_lt x

theorem shl24 (a : Nat) : a <<< 24 = word a 0 0 0 := by simp [word]
theorem shl16 (a : Nat) : a <<< 16 = word 0 a 0 0 := by simp [word]
theorem shl8 (a : Nat) : a <<< 8 = word 0 0 a 0 := by simp [word]
theorem shl0 (a : Nat) : a = word 0 0 0 a := by simp [word]

theorem and_ff (x : Nat) (h : x < 256) : x &&& 0xFF = x :=
  Nat.and_two_pow_sub_one_of_lt_two_pow (n := 8) h

/-- the key schedule assembles its words with xor where `word` has or -/
theorem xorWord (a b c d : Nat) (hb : b < 256) (hc : c < 256) (hd : d < 256) :
    (a <<< 24) ^^^ (b <<< 16) ^^^ (c <<< 8) ^^^ d = word a b c d := by
  have z : (0:Nat) < 256 := by decide
  conv => lhs; rw [shl24, shl16, shl8, shl0 d]
  rw [word_xor _ _ _ _ _ _ _ _ z z z hb z z]
  simp only [Nat.xor_zero, Nat.zero_xor]
  rw [word_xor _ _ _ _ _ _ _ _ hb z z z hc z]
  simp only [Nat.xor_zero, Nat.zero_xor]
  rw [word_xor _ _ _ _ _ _ _ _ hb hc z z z hd]
  simp only [Nat.xor_zero, Nat.zero_xor]

theorem subRotWord_spec (a b c d : UInt8) :
    Model.subRotWord (wordB a b c d) = .ok (wordB (Spec.sbox b) (Spec.sbox c) (Spec.sbox d) (Spec.sbox a)) := by
  obtain ⟨h1, h2, h3, h4⟩ := byteOf_wordB a b c d
  simp only [Model.subRotWord, h1, h2, h3, h4, S_lookup, bind, Except.bind, pure, Except.pure, and_ff _ (UInt8.toNat_lt _)]
  rw [xorWord _ _ _ _ (UInt8.toNat_lt _) (UInt8.toNat_lt _) (UInt8.toNat_lt _)]
  rfl

theorem xor4_rev (p q r s : Nat) : p ^^^ q ^^^ r ^^^ s = s ^^^ r ^^^ q ^^^ p := by ac_rfl

theorem subWord_spec (p : List UInt8) (hp : p.length = 4) : Model.subWord (wd p) = .ok (wd (p.map Spec.sbox)) := by
  obtain ⟨a, b, c, d, rfl⟩ := exists4 p hp
  obtain ⟨h1, h2, h3, h4⟩ := byteOf_wordB a b c d
  simp only [wd, Model.subWord, h1, h2, h3, h4, S_lookup, bind, Except.bind, pure, Except.pure, and_ff _ (UInt8.toNat_lt _)]
  rw [xor4_rev, xorWord _ _ _ _ (UInt8.toNat_lt _) (UInt8.toNat_lt _) (UInt8.toNat_lt _)]
  rfl

theorem rconWord (rc : UInt8) : (rc.toNat &&& 0xFF) <<< 24 = wordB rc 0 0 0 := by
  rw [and_ff _ rc.toNat_lt, shl24]; rfl


/-- the three shapes of `w[i-Nk] xor temp` in `Spec.kstep`: `temp` through RotWord, SubWord and Rcon (`kg0`), through
    SubWord alone (`kgs`), plain (`kgx`) -/
def kg0 (old prev : List UInt8) (rc : UInt8) : List UInt8 :=
  xorBytes old (xorBytes ((prev.drop 1 ++ prev.take 1).map Spec.sbox) [rc, 0, 0, 0])
def kgs (old prev : List UInt8) : List UInt8 := xorBytes old (prev.map Spec.sbox)
def kgx (old prev : List UInt8) : List UInt8 := xorBytes old prev

/-- the words of a pass after the first: each old word xor the new word before it, which goes through
    SubWord at position 4 when Nk > 6 -/
def chain (nk : Nat) : Nat → List (List UInt8) → List UInt8 → List (List UInt8)
  | _, [], _ => []
  | i, x :: xs, prev =>
    let y := if nk > 6 ∧ i = 4 then kgs x prev else kgx x prev
    y :: chain nk (i + 1) xs y

def nextWin (nk : Nat) (win : List (List UInt8)) (rc : UInt8) : List (List UInt8) :=
  match win with
  | [] => []
  | x :: xs => let a := kg0 x (win.getD (nk - 1) []) rc; a :: chain nk 1 xs a

theorem getD_len (w : List (List UInt8)) (hw : ∀ x ∈ w, x.length = 4) (i : Nat) (h : i < w.length) :
    (w.getD i []).length = 4 := by
  rw [List.getD_eq_getElem?_getD, List.getElem?_eq_getElem h]
  exact hw _ (List.getElem_mem h)

theorem idx_lit {α : Type} (l : List α) (i : Nat) (v : α) (h : l[i]? = some v) : idx l i = .ok v :=
  idx_of_getElem? l i v h

theorem getD_suffix {α : Type} (pre L : List α) (k : Nat) (d : α) :
    (pre ++ L).getD (pre.length + k) d = L.getD k d := by
  simp [List.getD_eq_getElem?_getD, List.getElem?_append_right]

theorem getD_suffix0 {α : Type} (pre L : List α) (d : α) :
    (pre ++ L).getD pre.length d = L.getD 0 d := by
  simpa using getD_suffix pre L 0 d

/-- `k`, `p` and the four equations are there for the callers: the look-ups `w[i-Nk]`, `w[i-1]` of `kstep` have to appear
    as `pre.length + k`, `pre.length + p` for `getD_suffix` to apply, and `old`, `prev` are then given by `rfl`. -/
theorem kstep_suffix (nk : Nat) (pre L : List (List UInt8)) (rc : UInt8) (m k p : Nat) (old prev : List UInt8)
    (h0 : pre.length % nk = 0) (hk : m = nk + k) (hp : m = p + 1) (ho : L.getD k [] = old) (hv : L.getD p [] = prev) :
    Spec.kstep nk (pre ++ L, rc) (pre.length + m) =
      if m % nk = 0 then (pre ++ (L ++ [kg0 old prev rc]), Spec.xtime rc)
      else (pre ++ (L ++ [if nk > 6 ∧ m % nk = 4 then kgs old prev else kgx old prev]), rc) := by
  subst ho hv
  have e1 : pre.length + m - nk = pre.length + k := by omega
  have e2 : pre.length + m - 1 = pre.length + p := by omega
  have e3 : (pre.length + m) % nk = m % nk := by rw [Nat.add_mod, h0, Nat.zero_add, Nat.mod_mod]
  simp only [Spec.kstep, e1, e2, e3, getD_suffix, List.append_assoc]
  split
  · rfl
  · split <;> rfl

/-- after `pre` stand the previous window `ws ++ xs` (`ws`, `j` words, already have their successors; `xs` are still
    to do) and the `j` words `D ++ [prev]` this pass has made so far -/
theorem spec_chain (nk : Nat) (pre : List (List UInt8)) (h0 : pre.length % nk = 0) (rc : UInt8) :
    ∀ (xs ws D : List (List UInt8)) (prev : List UInt8) (j : Nat), ws.length = j → 0 < j →
      j + xs.length = nk → xs.length + D.length + 1 = nk →
      (List.range' (pre.length + (nk + j)) xs.length).foldl (Spec.kstep nk) (pre ++ (ws ++ (xs ++ (D ++ [prev]))), rc) =
        (pre ++ (ws ++ (xs ++ (D ++ [prev]))) ++ chain nk j xs prev, rc) := by
  intro xs
  induction xs with
  | nil => intro ws D prev j _ _ _ _; simp [chain]
  | cons x xs ih =>
    intro ws D prev j hj hpos hjn hlen
    simp only [List.length_cons] at hjn hlen
    have hm : (nk + j) % nk = j := by rw [Nat.add_mod_left, Nat.mod_eq_of_lt (by omega)]
    rw [List.length_cons, List.range'_succ, List.foldl_cons,
      kstep_suffix nk pre _ rc (nk + j) j (nk + j - 1) x prev h0 rfl (by omega)
        (by rw [← hj, getD_suffix0]; rfl)
        (by rw [show nk + j - 1 = ws.length + ((x :: xs) ++ D).length by simp only [List.length_append, List.length_cons]; omega,
              getD_suffix, ← List.append_assoc, getD_suffix0]; rfl),
      hm, if_neg (by omega)]
    have e : ∀ y, pre ++ (ws ++ (x :: xs ++ (D ++ [prev])) ++ [y]) = pre ++ ((ws ++ [x]) ++ (xs ++ ((D ++ [prev]) ++ [y]))) := by
      intro y; simp only [List.append_assoc, List.cons_append, List.nil_append]
    have ih' := fun y => ih (ws ++ [x]) (D ++ [prev]) y (j + 1) (by simp [hj]) (by omega) (by omega)
      (by simp only [List.length_append, List.length_cons, List.length_nil]; omega)
    rw [chain, e, Nat.add_assoc, Nat.add_assoc, ih']
    simp only [List.append_assoc, List.cons_append, List.nil_append]

theorem spec_group (nk : Nat) (pre win : List (List UInt8)) (hl : win.length = nk) (hnk : nk ≠ 0) (rc : UInt8)
    (hp : pre.length % nk = 0) :
    (List.range' (pre.length + nk) nk).foldl (Spec.kstep nk) (pre ++ win, rc) =
      (pre ++ win ++ nextWin nk win rc, Spec.xtime rc) := by
  obtain ⟨x, xs, rfl⟩ := List.exists_cons_of_ne_nil (List.ne_nil_of_length_pos (by omega : 0 < win.length))
  simp only [List.length_cons] at hl
  subst hl
  rw [List.range'_succ, List.foldl_cons,
    kstep_suffix _ pre (x :: xs) rc (xs.length + 1) 0 xs.length x _ hp rfl rfl rfl rfl, if_pos (Nat.mod_self _)]
  have := spec_chain (xs.length + 1) pre hp (Spec.xtime rc) xs [x] [] (kg0 x ((x :: xs).getD xs.length []) rc) 1 rfl
    (by decide) (Nat.add_comm _ _) rfl
  simp only [List.nil_append, List.cons_append, List.append_assoc] at this ⊢
  rw [Nat.add_assoc, this]
  rfl

end Tls.Crypto.Aes
