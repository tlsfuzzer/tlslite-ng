import TlsProofs.Crypto.Ccm
/-
  C09 — AES-CCM / CCM-8: the counter blocks A_i and the code's CTR object, masking the tag with S_0,
  open ∘ seal on the specification.
-/
namespace Tls.Crypto.Ccm
open Tls Tls.Crypto Tls.Crypto.Modes

theorem ctrBlock_length (N : Bytes) (k : Nat) (hn : N.length = 12) : (Spec.ctrBlock N k).length = 16 := by
  simp [Spec.ctrBlock, hn, length_beEncode]

/-- the counter of A_i is the last L = 3 bytes of the 128-bit number -/
theorem ctrAt_ctrBlock (N : Bytes) (k i : Nat) (hn : N.length = 12) (h : k + i < 2 ^ 24) :
    ctrAt (Spec.ctrBlock N k) i = Spec.ctrBlock N (k + i) := by
  simp only [Spec.ctrBlock, hn]
  exact ctrAt_field _ 3 k i (by simp [hn]) h

theorem s0_spec (N : Bytes) (hn : N.length = 12) : Model.s0 N = .ok (Spec.ctrBlock N 0) := by
  simp [Model.s0, Model.oneByte, hn, Spec.ctrBlock, bind, Except.bind, pure, Except.pure]

theorem tagT_length (E : Bytes → Bytes) (hE : ∀ b, (E b).length = 16) (M : Nat) (hM : M ≤ 16) (N a m : Bytes)
    (hn : N.length = 12) : (Spec.tagT E M N a m).length = M := by
  rw [Spec.tagT, List.length_take, cbcMac_length E hE _ (authBlocks_ne M N a m hn)]; omega

theorem ccm_ctr_msg (E : Bytes → Bytes) (hE : ∀ b, (E b).length = 16) (N x : Bytes) (hn : N.length = 12)
    (hx : 1 + divceil x.length 16 ≤ 2 ^ 24) :
    Modes.Model.ctrEncrypt E { counter := Spec.ctrBlock N 1, counterBytes := 0 } x =
      .ok ({ counter := ctrAt (Spec.ctrBlock N 1) (divceil x.length 16), counterBytes := 0 },
           xorBytes x (Spec.keyStream E N (divceil x.length 16))) := by
  rw [ctrEncrypt_closed E hE _ x (ctrBlock_length N 1 hn) (Or.inl rfl) (Nat.zero_le _), Spec.keyStream,
    flatMap_range_congr _ _ _ fun i hi => by rw [ctrAt_ctrBlock N 1 i hn (by omega), Nat.add_comm]]

theorem ccm_ctr_tag (E : Bytes → Bytes) (hE : ∀ b, (E b).length = 16) (N t : Bytes) (hn : N.length = 12)
    (ht : t.length = 16) :
    Modes.Model.ctrEncrypt E { counter := Spec.ctrBlock N 0, counterBytes := 0 } t =
      .ok ({ counter := Spec.ctrBlock N 1, counterBytes := 0 }, xorBytes t (E (Spec.ctrBlock N 0))) := by
  have hd : divceil t.length 16 = 1 := by rw [ht]; decide
  rw [ctrEncrypt_closed E hE _ t (ctrBlock_length N 0 hn) (Or.inl rfl) (Nat.zero_le _), hd,
    ctrAt_ctrBlock N 0 1 hn (by decide)]
  simp [ctrAt_zero _ (ctrBlock_length N 0 hn)]

/-- masking a tag of either length with S_0 (CCM-8 pads the 8 bytes to a block, encrypts and cuts again),
    in the shape the `do` blocks of `seal` and `open` have: the rest of the block is the continuation `k` -/
theorem ccm_mask {β : Type} (k : Modes.Model.Ctr × Bytes → Except Err β) (E : Bytes → Bytes)
    (hE : ∀ b, (E b).length = 16) (tl : Nat) (htl : tl = 8 ∨ tl = 16) (N t : Bytes) (hn : N.length = 12)
    (ht : t.length = tl) :
    (if tl = 16 then do
        let x ← Modes.Model.ctrEncrypt E { counter := Spec.ctrBlock N 0, counterBytes := 0 } t
        k x
     else if tl ≠ 8 then do
        let x ← (Except.error Err.assertion : Except Err (Modes.Model.Ctr × Bytes))
        k x
     else do
        let r ← Modes.Model.ctrEncrypt E { counter := Spec.ctrBlock N 0, counterBytes := 0 } (Model.padWithZeroes t 16)
        let x ← pure (r.1, r.2.take 8)
        k x) =
      k ({ counter := Spec.ctrBlock N 1, counterBytes := 0 }, xorBytes t ((E (Spec.ctrBlock N 0)).take tl)) := by
  rcases htl with rfl | rfl
  · have hpl : (t ++ zeros 8).length = 16 := by simp [ht, zeros]
    have hpad : Model.padWithZeroes t 16 = t ++ zeros 8 := by simp [Model.padWithZeroes, ht]
    have hx := xorBytes_pad t (E (Spec.ctrBlock N 0)) 8
    rw [ht] at hx
    rw [if_neg (by decide), if_neg (by decide), hpad, ccm_ctr_tag E hE N _ hn hpl, ok_bind, ← hx]
    rfl
  · rw [if_pos rfl, ccm_ctr_tag E hE N _ hn ht, ok_bind, List.take_of_length_le (Nat.le_of_eq (hE _))]

theorem encryptMsg_length (E : Bytes → Bytes) (hE : ∀ b, (E b).length = 16) (N x : Bytes) :
    (Spec.encryptMsg E N x).length = x.length :=
  xorStream_length _ 16 (by decide) (fun _ => hE _) x

theorem encryptMsg_involution (E : Bytes → Bytes) (hE : ∀ b, (E b).length = 16) (N x : Bytes) :
    Spec.encryptMsg E N (Spec.encryptMsg E N x) = x :=
  xorStream_involution _ 16 (by decide) (fun _ => hE _) x

theorem aopen_eq (E : Bytes → Bytes) (M : Nat) (N c a : Bytes) :
    Spec.aopen E M N c a =
      splitVerify M (fun body t => xorBytes t ((E (Spec.ctrBlock N 0)).take M) =
          Spec.tagT E M N a (Spec.encryptMsg E N body))
        (Spec.encryptMsg E N) c := rfl

theorem spec_aopen_aseal (E : Bytes → Bytes) (hE : ∀ b, (E b).length = 16) (tl : Nat) (hM : tl ≤ 16)
    (N m a : Bytes) (hn : N.length = 12) :
    Spec.aopen E tl N (Spec.aseal E tl N m a) a = some m := by
  have htag := tagT_length E hE tl hM N a m hn
  have hs0 : (Spec.tagT E tl N a m).length ≤ ((E (Spec.ctrBlock N 0)).take tl).length := by
    rw [htag, List.length_take, hE]; omega
  rw [aopen_eq, Spec.aseal, splitVerify_append _ _ _ _ _ (by rw [xorBytes_length, htag]; omega)
    (by rw [encryptMsg_involution E hE, xorBytes_cancel _ _ hs0]), encryptMsg_involution E hE]

end Tls.Crypto.Ccm
