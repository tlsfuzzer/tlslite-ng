import TlsProofs.Crypto.AesKey
import TlsProofs.Crypto.AesInvEq
/-
  C09 — the decryption key schedule `Kd` of `Rijndael.__init__` is the modified schedule of
  FIPS-197 §5.3.5 (round keys reversed, InvMixColumns on rounds 1 .. Nr-1 through U1..U4): `mkKd_spec`, `kd_roundKey`.
-/
namespace Tls.Crypto.Aes
open Tls Tls.Crypto


theorem uWord_wd (x : List UInt8) (h : x.length = 4) : Model.uWord (wd x) = .ok (wd (invCol x)) := by
  obtain ⟨a, b, c, d, rfl⟩ := exists4 x h
  obtain ⟨h1, h2, h3, h4⟩ := byteOf_wordB a b c d
  simp only [Model.uWord, h1, h2, h3, h4, (U_lookup _).1, (U_lookup _).2.1, (U_lookup _).2.2.1, (U_lookup _).2.2.2,
    bind, Except.bind, pure, Except.pure, wordB_xor, wd, invCol]

/-- `kdRow`, `kdWords`: `Model.mkKd` on words of bytes (`mkKd_spec`) -/
def kdRow (w : List (List UInt8)) (R r : Nat) : List (List UInt8) :=
  let row := (w.drop (4 * (R - r))).take 4
  if 1 ≤ r ∧ r < R then row.map invCol else row

def kdWords (w : List (List UInt8)) (R : Nat) : List (List UInt8) := (List.range (R + 1)).flatMap (kdRow w R)

theorem mkKd_spec (w : List (List UInt8)) (hw : ∀ x ∈ w, x.length = 4) (R : Nat) :
    Model.mkKd (w.map wd) R = .ok ((kdWords w R).map wd) := by
  unfold Model.mkKd
  rw [mapM_ok _ (fun r => (kdRow w R r).map wd)]
  · simp [kdWords, List.flatMap_def, List.map_flatten, bind, Except.bind, pure, Except.pure]
    rfl
  · intro r _
    rw [← List.map_drop, ← List.map_take, kdRow]
    dsimp only
    split
    · rw [List.mapM_map, List.map_map]
      exact mapM_ok _ _ _ fun x hx => uWord_wd x (hw x (List.mem_of_mem_drop (List.mem_of_mem_take hx)))
    · rfl

theorem flatMap_chunk {α : Type} (g : Nat → List α) : ∀ (n r : Nat), (∀ i, i < n → (g i).length = 4) → r < n →
    ((((List.range n).flatMap g).drop (4 * r)).take 4 = g r ∧ ((List.range n).flatMap g).length = 4 * n) := by
  intro n
  induction n with
  | zero => intro r _ hr; omega
  | succ n ih =>
    intro r hg hr
    have hlen : ((List.range n).flatMap g).length = 4 * n := by
      cases n with
      | zero => simp
      | succ m => exact (ih 0 (fun i hi => hg i (by omega)) (by omega)).2
    rw [List.range_succ, List.flatMap_append]
    simp only [List.flatMap_cons, List.flatMap_nil, List.append_nil]
    refine ⟨?_, by rw [List.length_append, hlen, hg n (by omega)]; omega⟩
    by_cases hrn : r < n
    · have := (ih r (fun i hi => hg i (by omega)) hrn).1
      rw [List.drop_append_of_le_length (by rw [hlen]; omega),
        List.take_append_of_le_length (by rw [List.length_drop, hlen]; omega), this]
    · have hr' : r = n := by omega
      subst hr'
      rw [List.drop_left' hlen, List.take_of_length_le (Nat.le_of_eq (hg r (by omega)))]

theorem kdRow_length (w : List (List UInt8)) (R r : Nat) (hr : r ≤ R) (hlen : w.length = 4 * (R + 1)) :
    (kdRow w R r).length = 4 := by
  unfold kdRow
  have : ((w.drop (4 * (R - r))).take 4).length = 4 := by
    rw [List.length_take, List.length_drop, hlen]; omega
  split
  · rw [List.length_map]; exact this
  · exact this

theorem kdWords_words (w : List (List UInt8)) (hw : ∀ x ∈ w, x.length = 4) (R : Nat) :
    ∀ x ∈ kdWords w R, x.length = 4 := by
  intro x hx
  simp only [kdWords, List.mem_flatMap] at hx
  obtain ⟨r, _, hx⟩ := hx
  unfold kdRow at hx
  split at hx
  · obtain ⟨y, hy, rfl⟩ := List.mem_map.mp hx
    exact invCol_length y (hw y (List.mem_of_mem_drop (List.mem_of_mem_take hy)))
  · exact hw x (List.mem_of_mem_drop (List.mem_of_mem_take hx))

theorem kd_roundKey (w : List (List UInt8)) (hw : ∀ x ∈ w, x.length = 4) (R r : Nat) (hr : r ≤ R)
    (hlen : w.length = 4 * (R + 1)) :
    Spec.roundKey (kdWords w R) r = Spec.dkOf (Spec.roundKey w) R r := by
  have hc := (flatMap_chunk (kdRow w R) (R + 1) r (fun i hi => kdRow_length w R i (by omega) hlen) (by omega)).1
  rw [Spec.roundKey, kdWords, hc, kdRow, Spec.dkOf, Spec.roundKey]
  have hd := drop4 w (4 * (R - r)) [] (by rw [hlen]; omega)
  by_cases h : 1 ≤ r ∧ r < R
  · simp only [h, and_self, if_true, hd]
    have hm : ∀ k, k < 4 → (w.getD (4 * (R - r) + k) []).length = 4 :=
      fun k hk => getD_len w hw _ (by rw [hlen]; omega)
    exact invCol_flatten _ _ _ _ (hm 0 (by decide)) (hm 1 (by decide)) (hm 2 (by decide)) (hm 3 (by decide))
  · simp only [h, if_false]

theorem kdWords_length (w : List (List UInt8)) (R : Nat) (hlen : w.length = 4 * (R + 1)) :
    (kdWords w R).length = 4 * (R + 1) :=
  (flatMap_chunk (kdRow w R) (R + 1) 0 (fun i hi => kdRow_length w R i (by omega) hlen) (by omega)).2

end Tls.Crypto.Aes
