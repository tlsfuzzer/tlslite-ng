import TlsProofs.Crypto.Poly1305
import TlsProofs.Crypto.ChaCha
/-
  C09 — ChaCha20-Poly1305 AEAD: the one-time key and the tag of the model are those of RFC 8439 §2.6 / §2.8;
  open ∘ seal on the specification.
-/
namespace Tls.Crypto.ChaChaPoly
open Tls Tls.Crypto

theorem encrypt_lt (key nonce x : Bytes) (hc : 1 + divceil x.length 64 ≤ 2^32) :
    (ChaCha.Spec.encrypt key 1 nonce x).length < 2^64 := by
  have := le_mul_divceil x.length 64 (by decide)
  rw [ChaCha.encrypt_length]; omega

theorem polyKeyGen_spec (key nonce : Bytes) (hk : key.length = 32) (hn : nonce.length = 12) :
    Model.poly1305KeyGen key nonce = .ok (Spec.polyKeyGen key nonce) := by
  have hd : divceil (zeros 32).length 64 = 1 := by decide
  rw [Model.poly1305KeyGen, ChaCha.init_ok key nonce 0 hk hn, ok_bind,
    ChaCha.encrypt_spec key nonce _ 0 hk hn (by rw [hd]; decide), ChaCha.Spec.encrypt, Spec.polyKeyGen, hd,
    ChaCha.keyStream_succ, xorBytes_zeros]
  simp [ChaCha.Spec.keyStream]

theorem polyKeyGen_length (key nonce : Bytes) : (Spec.polyKeyGen key nonce).length = 32 := by
  simp [Spec.polyKeyGen, ChaCha.block_length]

-- here, as in chacha20_poly1305.py, `pad16 x` is the padding alone; `Gcm.Spec.pad16 x`, `Ccm.Spec.pad16 x` are `x` padded
theorem pad16_spec (x : Bytes) : Model.pad16 x = Spec.pad16 x := by
  unfold Model.pad16 Spec.pad16
  split
  · rename_i h; simp [h, zeros]
  · rename_i h
    have : (16 - x.length % 16) % 16 = 16 - x.length % 16 :=
      Nat.mod_eq_of_lt (Nat.sub_lt (by decide) (Nat.pos_of_ne_zero h))
    rw [this]

theorem tagOf_spec (key nonce aad ct : Bytes) (ha : aad.length < 2^64) (hc : ct.length < 2^64) :
    Model.tagOf (Spec.polyKeyGen key nonce) aad ct = .ok (Spec.tag key nonce aad ct) := by
  obtain ⟨st, hst, htag⟩ := Poly1305.createTag_spec (Spec.polyKeyGen key nonce)
    (Spec.macData aad ct) (polyKeyGen_length key nonce)
  rw [Model.tagOf, Model.packQ, if_pos ha, ok_bind, Model.packQ, if_pos hc, ok_bind, hst, ok_bind, Spec.tag,
    ← htag, Spec.macData, pad16_spec, pad16_spec]
  simp only [List.append_assoc, pure, Except.pure]

theorem tag_length (key nonce aad ct : Bytes) : (Spec.tag key nonce aad ct).length = 16 :=
  length_leBytes 16 _

theorem aopen_eq (key nonce c aad : Bytes) :
    Spec.aopen key nonce c aad =
      splitVerify 16 (fun body t => t = Spec.tag key nonce aad body) (ChaCha.Spec.encrypt key 1 nonce) c := rfl

theorem spec_aopen_aseal (key nonce pt aad : Bytes) :
    Spec.aopen key nonce (Spec.aseal key nonce pt aad) aad = some pt := by
  rw [aopen_eq, Spec.aseal, splitVerify_append 16 (fun body t => t = Spec.tag key nonce aad body) _ _ _
    (tag_length key nonce aad _) rfl, ChaCha.encrypt_encrypt]

end Tls.Crypto.ChaChaPoly
