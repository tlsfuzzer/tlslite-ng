import TlsProofs.Crypto.AesKey
/-
  C09 — the whole key-schedule loop of `Rijndael.__init__` = KeyExpansion: one pass of the model is `nextWin`
  (`expandStep_win`), the loop invariant from any state (`expandLoop_sim`), and Nk = 4, 6, 8 as its instances
  (`expandLoop_spec`).
-/
namespace Tls.Crypto.Aes
open Tls Tls.Crypto

/-- `nk` words of four bytes: the window `tk` of the loop (and, in `keyExpansion_isWin`, the whole schedule) -/
def IsWin (nk : Nat) (win : List (List UInt8)) : Prop := win.length = nk ∧ ∀ x ∈ win, x.length = 4

theorem kgx_len (a b : List UInt8) (ha : a.length = 4) (hb : b.length = 4) : (kgx a b).length = 4 := by
  simp [kgx, xorBytes, ha, hb]

theorem kgs_len (a b : List UInt8) (ha : a.length = 4) (hb : b.length = 4) : (kgs a b).length = 4 := by
  simp [kgs, xorBytes, ha, hb]

theorem kg0_len (a b : List UInt8) (rc : UInt8) (ha : a.length = 4) (hb : b.length = 4) : (kg0 a b rc).length = 4 := by
  obtain ⟨b0, b1, b2, b3, rfl⟩ := exists4 b hb
  simp [kg0, xorBytes, ha]

theorem isWin_cons {n : Nat} {x : List UInt8} {xs : List (List UInt8)} (hx : x.length = 4) (h : IsWin n xs) :
    IsWin (n + 1) (x :: xs) :=
  ⟨congrArg (· + 1) h.1, List.forall_mem_cons.mpr ⟨hx, h.2⟩⟩

theorem chain_isWin (nk : Nat) : ∀ (xs : List (List UInt8)) (i : Nat) (prev : List UInt8),
    (∀ x ∈ xs, x.length = 4) → prev.length = 4 → IsWin xs.length (chain nk i xs prev) := by
  intro xs
  induction xs with
  | nil => intro _ _ _ _; exact ⟨rfl, nofun⟩
  | cons x xs ih =>
    intro i prev hx hp
    obtain ⟨hx, hxs⟩ := List.forall_mem_cons.mp hx
    have hy : (if nk > 6 ∧ i = 4 then kgs x prev else kgx x prev).length = 4 := by
      split
      · exact kgs_len _ _ hx hp
      · exact kgx_len _ _ hx hp
    exact isWin_cons hy (ih (i + 1) _ hxs hy)

theorem nextWin_isWin (nk : Nat) (hnk : nk ≠ 0) (win : List (List UInt8)) (rc : UInt8)
    (h : IsWin nk win) : IsWin nk (nextWin nk win rc) := by
  obtain ⟨hl, hw⟩ := h
  obtain ⟨x, xs, rfl⟩ := List.exists_cons_of_ne_nil (List.ne_nil_of_length_pos (by omega : 0 < win.length))
  obtain ⟨hx, hxs⟩ := List.forall_mem_cons.mp hw
  have ha := kg0_len x _ rc hx (getD_len _ hw (nk - 1) (by omega))
  subst hl
  exact isWin_cons ha (chain_isWin _ xs 1 _ hxs ha)

theorem wd_xor (x y : List UInt8) (hx : x.length = 4) (hy : y.length = 4) : wd x ^^^ wd y = wd (kgx x y) := by
  obtain ⟨a, b, c, d, rfl⟩ := exists4 x hx
  obtain ⟨e, f, g, h, rfl⟩ := exists4 y hy
  exact wordB_xor a b c d e f g h

/-- `xorChain` over the words `xs` that follow `prev` is `chain`, on a run that does not contain position 4 when Nk > 6
    (third hypothesis): there the code does the extra SubWord in a statement of its own, so `expandStep_win` calls this
    once on either side of it -/
theorem xorChain_chain (nk : Nat) (rest : List (List UInt8)) : ∀ (xs ds : List (List UInt8)) (prev : List UInt8) (i : Nat),
    (∀ x ∈ xs, x.length = 4) → prev.length = 4 → (nk > 6 → 4 < i ∨ i + xs.length ≤ 4) →
    Model.xorChain ((ds ++ prev :: (xs ++ rest)).map wd) (ds.length + 1) (ds.length + 1 + xs.length) =
      .ok ((ds ++ prev :: (chain nk i xs prev ++ rest)).map wd) := by
  intro xs
  induction xs with
  | nil => intro ds prev i _ _ _; simp [Model.xorChain, chain, pure, Except.pure]
  | cons x xs ih =>
    intro ds prev i hx hp hi
    obtain ⟨hx, hxs⟩ := List.forall_mem_cons.mp hx
    have ih' := ih (ds ++ [prev]) (kgx x prev) (i + 1) hxs (kgx_len _ _ hx hp)
      (fun h => by have := hi h; rw [List.length_cons] at this; omega)
    rw [Model.xorChain, Nat.add_sub_cancel_left] at ih' ⊢
    rw [List.length_cons, List.range'_succ, List.foldlM_cons]
    have hy : (if nk > 6 ∧ i = 4 then kgs x prev else kgx x prev) = kgx x prev :=
      if_neg fun h => by have := hi h.1; rw [List.length_cons] at this; omega
    rw [chain, hy]
    simp [idx, setIdx, wd_xor x prev hx hp, bind, Except.bind] at ih' ⊢
    exact ih'

theorem expandStep_win (nk : Nat) (hnk : nk ≠ 0 ∧ (nk ≤ 6 ∨ nk = 8)) (win : List (List UInt8)) (h : IsWin nk win)
    (rc : UInt8) (W : List Nat) (rp RKC : Nat) (hrc : aidx Gen.rcon rp = .ok rc.toNat) :
    Model.expandStep nk RKC (win.map wd, W, rp) =
      .ok ((nextWin nk win rc).map wd, (W ++ (nextWin nk win rc).map wd).take RKC, rp + 1) := by
  obtain ⟨hl, hw⟩ := h
  obtain ⟨x, xs, rfl⟩ := List.exists_cons_of_ne_nil (List.ne_nil_of_length_pos (by omega : 0 < win.length))
  obtain ⟨hx, hxs⟩ := List.forall_mem_cons.mp hw
  rw [List.length_cons] at hl
  subst hl
  have hg := List.getElem?_eq_getElem (show xs.length + 1 - 1 < (x :: xs).length from Nat.lt_succ_self _)
  obtain ⟨a, b, c, d, hp⟩ := exists4 _ (getD_len _ hw (xs.length + 1 - 1) (Nat.lt_succ_self _))
  obtain ⟨x0, x1, x2, x3, rfl⟩ := exists4 x hx
  have hidx : idx (([x0, x1, x2, x3] :: xs).map wd) (xs.length + 1 - 1) = .ok (wordB a b c d) :=
    idx_lit _ _ _ (by rw [List.getD_eq_getElem?_getD, hg] at hp; rw [List.getElem?_map, hg]; exact congrArg (some ∘ wd) hp)
  have h0 : wd [x0, x1, x2, x3] ^^^ (wordB (Spec.sbox b) (Spec.sbox c) (Spec.sbox d) (Spec.sbox a) ^^^ wordB rc 0 0 0) =
      wd (kg0 [x0, x1, x2, x3] [a, b, c, d] rc) := by simp [kg0, xorBytes, wd, wordB_xor]
  have ha : (kg0 [x0, x1, x2, x3] [a, b, c, d] rc).length = 4 := rfl
  simp only [Model.expandStep, nextWin, hp, hidx, subRotWord_spec, hrc, rconWord, bind, Except.bind, pure, Except.pure]
  simp only [List.map_cons, idx, setIdx, List.getElem?_cons_zero, List.length_cons, Nat.zero_lt_succ, if_true, List.set_cons_zero, h0]
  generalize kg0 [x0, x1, x2, x3] [a, b, c, d] rc = A at ha ⊢
  by_cases h8 : xs.length + 1 = 8
  · rcases xs with _ | ⟨B, _ | ⟨C, _ | ⟨D, _ | ⟨E, _ | ⟨F, _ | ⟨G, _ | ⟨H, _ | ⟨I, r⟩⟩⟩⟩⟩⟩⟩⟩ <;> simp at h8
    simp only [List.forall_mem_cons] at hxs
    obtain ⟨hB, hC, hD, hE, hF, hG, hH, -⟩ := hxs
    have hB' := kgx_len _ _ hB ha
    have hC' := kgx_len _ _ hC hB'
    have hD' := kgx_len _ _ hD hC'
    have h1 := xorChain_chain 8 [E, F, G, H] [B, C, D] [] A 1 (by simp [hB, hC, hD]) ha (fun _ => Or.inr (Nat.le_refl 4))
    have h2 := xorChain_chain 8 [] [F, G, H] [A, kgx B A, kgx C (kgx B A), kgx D (kgx C (kgx B A))] (kgs E (kgx D (kgx C (kgx B A)))) 5
      (by simp [hF, hG, hH]) (kgs_len _ _ hE hD') (fun _ => Or.inl (by decide))
    have hs : wd E ^^^ wd ((kgx D (kgx C (kgx B A))).map Spec.sbox) = wd (kgs E (kgx D (kgx C (kgx B A)))) :=
      wd_xor E _ hE (by rw [List.length_map, hD'])
    simp [chain] at h1 h2
    simp [chain, h1, subWord_spec _ hD', hs, h2]
  · have := xorChain_chain (xs.length + 1) [] xs [] A 1 hxs ha (by omega)
    rw [List.length_nil, Nat.zero_add, Nat.add_comm] at this
    simp only [List.nil_append, List.append_nil, List.map_cons] at this
    rw [if_pos h8, this]

def rcN (t : Nat) : Nat := (List.range t).foldl (fun r _ => Spec.xtimeN r) 1

theorem rcN_succ (t : Nat) : rcN (t + 1) = Spec.xtimeN (rcN t) := by
  simp [rcN, List.range_succ, List.foldl_append]

theorem rcN_lt (t : Nat) : rcN t < 256 := by
  induction t with
  | zero => decide
  | succ t ih => rw [rcN_succ]; exact xtimeN_lt _ ih

def rcB : Nat → UInt8
  | 0 => 1
  | j+1 => Spec.xtime (rcB j)

theorem rcB_toNat (j : Nat) : (rcB j).toNat = rcN j := by
  induction j with
  | zero => rfl
  | succ j ih =>
    rw [rcB, rcN_succ, ← ih]
    simp only [Spec.xtime, UInt8.toNat_ofNat']
    exact Nat.mod_eq_of_lt (xtimeN_lt _ (UInt8.toNat_lt _))

theorem rcon_lookup (t : Nat) (ht : t < 14) : aidx Gen.rcon t = .ok (rcN t) := by
  apply aidx_of_toList
  have h := rcon_table
  have : (Gen.rcon.toList.take 14)[t]? = some (rcN t) := by
    rw [h, List.getElem?_map, List.getElem?_range ht]; rfl
  rw [List.getElem?_take] at this
  simpa [ht] using this

theorem kfold_pass (nk : Nat) (hnk : nk ≠ 0) (n j : Nat) (pre win : List (List UInt8)) (hw : win.length = nk)
    (hp : pre.length = nk * j) (rc : UInt8) :
    (List.range' (nk * (j + 1)) (nk * (n + 1))).foldl (Spec.kstep nk) (pre ++ win, rc) =
      (List.range' (nk * (j + 1 + 1)) (nk * n)).foldl (Spec.kstep nk) (pre ++ win ++ nextWin nk win rc, Spec.xtime rc) := by
  have hr : List.range' (nk * (j + 1)) (nk * (n + 1)) =
      List.range' (pre.length + nk) nk ++ List.range' (nk * (j + 1 + 1)) (nk * n) := by
    rw [hp, Nat.mul_succ nk n, Nat.add_comm (nk * n) nk, ← List.range'_append_1, Nat.mul_succ nk (j + 1), Nat.mul_succ nk j]
  rw [hr, List.foldl_append, spec_group nk pre win hw hnk _ (by rw [hp]; exact Nat.mul_mod_right nk j)]

theorem kfold_words (nk : Nat) (hnk : nk ≠ 0) : ∀ (n j : Nat) (pre win : List (List UInt8)) (rc : UInt8), IsWin nk win →
    pre.length = nk * j → (∀ x ∈ pre, x.length = 4) →
    ∀ x ∈ ((List.range' (nk * (j + 1)) (nk * n)).foldl (Spec.kstep nk) (pre ++ win, rc)).1, x.length = 4 := by
  intro n
  induction n with
  | zero => intro j pre win rc hw _ hpre x hx; exact (List.mem_append.mp hx).elim (hpre x) (hw.2 x)
  | succ n ih =>
    intro j pre win rc hw hp hpre
    rw [kfold_pass nk hnk n j pre win hw.1 hp]
    exact ih (j + 1) _ _ _ (nextWin_isWin nk hnk _ _ hw) (by rw [List.length_append, hp, hw.1, Nat.mul_succ])
      fun x hx => (List.mem_append.mp hx).elim (hpre x) (hw.2 x)

theorem expandLoop_lt (KC RKC f : Nat) (st : List Nat × List Nat × Nat) (h : st.2.1.length < RKC) :
    Model.expandLoop KC RKC (f + 1) st = (Model.expandStep KC RKC st >>= Model.expandLoop KC RKC f) := by
  rw [Model.expandLoop, if_pos h]

theorem expandLoop_ge (KC RKC f : Nat) (st : List Nat × List Nat × Nat) (h : ¬ st.2.1.length < RKC) :
    Model.expandLoop KC RKC f st = .ok st.2.1 := by
  cases f with
  | zero => rfl
  | succ f => rw [Model.expandLoop, if_neg h]; rfl

/-- The loop of `__init__` against the loop of KeyExpansion: when the model holds the last window `win`, all words
    `pre ++ win` made so far (cut to `RKC`) and has made `j` passes, the `n` passes it still makes are `nk * n`
    iterations of `kstep`; it stops exactly when the schedule is full. -/
theorem expandLoop_sim (nk : Nat) (hnk : nk ≠ 0 ∧ (nk ≤ 6 ∨ nk = 8)) (RKC : Nat) :
    ∀ (n fuel j : Nat) (pre win : List (List UInt8)), IsWin nk win → pre.length = nk * j → j + n ≤ 14 → n ≤ fuel →
      (∀ t, t < n → nk * (j + t + 1) < RKC) → RKC ≤ nk * (j + n + 1) →
      Model.expandLoop nk RKC fuel (win.map wd, ((pre ++ win).map wd).take RKC, j) =
        .ok ((((List.range' (nk * (j + 1)) (nk * n)).foldl (Spec.kstep nk) (pre ++ win, rcB j)).1.map wd).take RKC) := by
  intro n
  induction n with
  | zero =>
    intro fuel j pre win hw hp _ _ _ hge
    rw [expandLoop_ge _ _ _ _ (by
      simp only [List.length_take, List.length_map, List.length_append, hp, hw.1]
      rw [Nat.mul_succ] at hge; omega)]
    rfl
  | succ n ih =>
    intro fuel j pre win hw hp hj hf hlt hge
    obtain ⟨f, rfl⟩ : ∃ f, fuel = f + 1 := ⟨fuel - 1, by omega⟩
    have h0 := hlt 0 (by omega)
    have hrc : aidx Gen.rcon j = .ok (rcB j).toNat := by rw [rcB_toNat]; exact rcon_lookup j (by omega)
    rw [expandLoop_lt _ _ _ _ (by
        simp only [List.length_take, List.length_map, List.length_append, hp, hw.1]
        rw [Nat.mul_succ] at h0; omega),
      expandStep_win nk hnk _ hw _ _ _ _ hrc]
    simp only [bind, Except.bind, take_take_append, ← List.map_append]
    rw [kfold_pass nk (by omega) n j pre win hw.1 hp]
    exact ih f (j + 1) (pre ++ win) _ (nextWin_isWin nk (by omega) _ _ hw)
      (by rw [List.length_append, hp, hw.1, Nat.mul_succ]) (by omega) (by omega)
      (fun t ht => by have := hlt (t + 1) (by omega); rwa [show j + (t + 1) + 1 = j + 1 + t + 1 by omega] at this)
      (by rwa [show j + 1 + n + 1 = j + (n + 1) + 1 by omega])

theorem kfold_append (nk : Nat) : ∀ (l : List Nat) (acc : List (List UInt8) × UInt8),
    ∃ ext, (l.foldl (Spec.kstep nk) acc).1 = acc.1 ++ ext ∧ ext.length = l.length := by
  intro l
  induction l with
  | nil => intro acc; exact ⟨[], by simp, rfl⟩
  | cons i is ih =>
    intro acc
    obtain ⟨ext, h1, h2⟩ := ih (Spec.kstep nk acc i)
    have hk : ∃ x, (Spec.kstep nk acc i).1 = acc.1 ++ [x] := ⟨_, rfl⟩
    obtain ⟨x, hx⟩ := hk
    refine ⟨x :: ext, ?_, by simp [h2]⟩
    rw [List.foldl_cons, h1, hx]
    simp

/-- iterations beyond the `RKC`-th word only append -/
theorem kfold_take (nk RKC m : Nat) (acc : List (List UInt8) × UInt8) (hl : acc.1.length = nk) (hle : nk ≤ RKC)
    (hge : RKC ≤ nk + m) :
    ((List.range' nk m).foldl (Spec.kstep nk) acc).1.take RKC = ((List.range' nk (RKC - nk)).foldl (Spec.kstep nk) acc).1 := by
  have hsplit : List.range' nk m = List.range' nk (RKC - nk) ++ List.range' RKC (m - (RKC - nk)) := by
    conv => lhs; rw [show m = (RKC - nk) + (m - (RKC - nk)) by omega]
    rw [← List.range'_append_1]
    congr 2; omega
  obtain ⟨e1, h1, l1⟩ := kfold_append nk (List.range' nk (RKC - nk)) acc
  obtain ⟨e2, h2, _⟩ := kfold_append nk (List.range' RKC (m - (RKC - nk))) ((List.range' nk (RKC - nk)).foldl (Spec.kstep nk) acc)
  rw [hsplit, List.foldl_append, h2]
  exact List.take_left' (by rw [h1, List.length_append, l1, List.length_range', hl]; omega)

theorem wordAt_spec (key : Bytes) (i : Nat) (h : 4 * i + 4 ≤ key.length) :
    Model.wordAt key i = .ok (wd ((key.drop (4 * i)).take 4)) := by
  have hd := drop4 key (4 * i) 0 h
  have hi : ∀ k, k < 4 → idx key (i * 4 + k) = .ok (key.getD (4 * i + k) 0) := by
    intro k hk
    rw [Nat.mul_comm i 4]
    exact idx_getD key _ 0 (by omega)
  have h0 := hi 0 (by decide)
  rw [Nat.add_zero, Nat.add_zero] at h0
  simp only [Model.wordAt, h0, hi 1 (by decide), hi 2 (by decide), hi 3 (by decide), Except.map, bind, Except.bind,
    pure, Except.pure, hd, wd]
  rfl

def w0Of (key : Bytes) : List (List UInt8) := (List.range (key.length / 4)).map fun i => (key.drop (4*i)).take 4

theorem tk_spec (key : Bytes) :
    (List.range (key.length / 4)).mapM (Model.wordAt key) = .ok ((w0Of key).map wd) := by
  rw [w0Of, List.map_map]
  apply mapM_ok
  intro i hi
  have := List.mem_range.mp hi
  exact wordAt_spec key i (by omega)

theorem w0_isWin (key : Bytes) : IsWin (key.length / 4) (w0Of key) := by
  refine ⟨by simp [w0Of], ?_⟩
  intro x hx
  obtain ⟨i, hi, rfl⟩ := List.mem_map.mp hx
  have := List.mem_range.mp hi
  rw [List.length_take, List.length_drop]; omega

/-- the number `J` of passes the loop makes: 10, 8, 7; the last one overshoots for 24- and 32-byte keys -/
theorem passes (n : Nat) (hk : n = 16 ∨ n = 24 ∨ n = 32) :
    ∃ J, J ≤ 14 ∧ (∀ t, t < J → n / 4 * (t + 1) < (n / 4 + 6 + 1) * 4) ∧ (n / 4 + 6 + 1) * 4 ≤ n / 4 * (J + 1) := by
  rcases hk with h | h | h <;> rw [h]
  · exact ⟨10, by decide, fun t ht => by omega, by decide⟩
  · exact ⟨8, by decide, fun t ht => by omega, by decide⟩
  · exact ⟨7, by decide, fun t ht => by omega, by decide⟩

theorem keyExpansion_eq_passes (key : Bytes) (J : Nat)
    (hge : (key.length / 4 + 6 + 1) * 4 ≤ key.length / 4 * (J + 1)) :
    Spec.keyExpansion key = ((List.range' (key.length / 4) (key.length / 4 * J)).foldl (Spec.kstep (key.length / 4))
      (w0Of key, 1)).1.take ((key.length / 4 + 6 + 1) * 4) := by
  rw [kfold_take _ _ _ _ (w0_isWin key).1 (by omega) (by rw [Nat.mul_succ (key.length / 4) J] at hge; omega),
    Spec.keyExpansion, Nat.mul_comm 4]
  rfl

theorem keyExpansion_isWin (key : Bytes) (hk : key.length = 16 ∨ key.length = 24 ∨ key.length = 32) :
    IsWin (4 * (key.length / 4 + 6 + 1)) (Spec.keyExpansion key) := by
  obtain ⟨J, _, _, hge⟩ := passes _ hk
  have hw := w0_isWin key
  refine ⟨?_, ?_⟩
  · obtain ⟨e, h1, l1⟩ := kfold_append (key.length / 4) (List.range' (key.length / 4) (4 * (key.length / 4 + 6 + 1) - key.length / 4))
      (w0Of key, 1)
    rw [show Spec.keyExpansion key = ((List.range' (key.length / 4) (4 * (key.length / 4 + 6 + 1) - key.length / 4)).foldl
      (Spec.kstep (key.length / 4)) (w0Of key, 1)).1 from rfl, h1, List.length_append, l1, List.length_range', hw.1]
    omega
  · have h := kfold_words _ (by omega) J 0 [] _ 1 hw rfl nofun
    rw [Nat.zero_add, Nat.mul_one] at h
    rw [keyExpansion_eq_passes key J hge]
    exact fun x hx => h x (List.mem_of_mem_take hx)

theorem expandLoop_spec (key : Bytes) (hk : key.length = 16 ∨ key.length = 24 ∨ key.length = 32) :
    Model.expandLoop (key.length / 4) ((key.length / 4 + 6 + 1) * 4) ((key.length / 4 + 6 + 1) * 4)
        ((w0Of key).map wd, ((w0Of key).map wd).take ((key.length / 4 + 6 + 1) * 4), 0) =
      .ok ((Spec.keyExpansion key).map wd) := by
  obtain ⟨J, hJ, hlt, hge⟩ := passes _ hk
  refine (expandLoop_sim _ (by omega) _ J _ 0 [] _ (w0_isWin key) rfl (by omega) (by omega)
    (fun t ht => by rw [Nat.zero_add]; exact hlt t ht) (by rwa [Nat.zero_add])).trans ?_
  rw [Nat.zero_add, Nat.mul_one, List.nil_append, rcB, keyExpansion_eq_passes key J hge, List.map_take]

end Tls.Crypto.Aes
