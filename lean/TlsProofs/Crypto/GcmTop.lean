import TlsProofs.Crypto.Gcm
import TlsProofs.Crypto.Ctr
/-
  C09 — AES-GCM: the code's CTR object against GCTR with inc32, open ∘ seal on the specification,
  histories of calls on one object.
-/
namespace Tls.Crypto.Gcm
open Tls Tls.Crypto Tls.Crypto.Modes

theorem counterBlock_length (nonce : Bytes) (v : UInt8) (h : nonce.length = 12) :
    (Model.counterBlock nonce v).length = 16 := by simp [Model.counterBlock, h]

/-- `counter[:12] = nonce; counter[-1] = v` is nonce ‖ [v]₃₂, so inc32 steps J0 to the code's first counter -/
theorem inc32_J0 (nonce : Bytes) (h : nonce.length = 12) :
    Spec.inc32 (nonce ++ [0, 0, 0, 1]) = Model.counterBlock nonce 2 := by
  show Modes.Spec.incM 32 (nonce ++ beEncode 4 1) = nonce ++ beEncode 4 (1 + 1)
  rw [incM_eq_ctrAt 32 (nonce ++ beEncode 4 1) (counterBlock_length nonce 1 h) (.inr (by rw [lowBits_field nonce 4 1 (by decide)]; decide)),
    ctrAt_field nonce 4 1 1 (by omega) (by decide)]

/-- the CTR part of `seal`/`open` is GCTR from inc32(J0): the code's object counts in all 128 bits, inc32 in the low
    word, and both are `ctrAt` while that word does not wrap -/
theorem gcm_ctr_spec (E : Bytes → Bytes) (hE : ∀ b, (E b).length = 16) (nonce p : Bytes) (hn : nonce.length = 12)
    (hp : divceil p.length 16 + 2 ≤ 2 ^ 32) :
    Modes.Model.ctrEncrypt E { counter := Model.counterBlock nonce 2, counterBytes := 0 } p =
      .ok ({ counter := ctrAt (Model.counterBlock nonce 2) (divceil p.length 16), counterBytes := 0 },
           Spec.gctr E (Spec.inc32 (nonce ++ [0, 0, 0, 1])) p) := by
  have hl := counterBlock_length nonce 2 hn
  have hlow : lowBits 32 (Model.counterBlock nonce 2) = 2 := lowBits_field nonce 4 2 (by decide)
  rw [ctrEncrypt_closed E hE _ p hl (Or.inl rfl) (Nat.zero_le _), Spec.gctr, inc32_J0 nonce hn, Modes.Spec.ctrEncrypt,
    show Spec.inc32 = Modes.Spec.incM 32 from rfl,
    ctrStream_closed E 32 (by decide) _ _ hl (.inr (by rw [hlow, Nat.add_comm]; exact hp))]

theorem new_spec (E : Bytes → Bytes) :
    Model.new E = .ok { productTable := mulTable (beDecode (E (zeros 16))) } := by
  simp only [Model.new, productTable_spec, bind, Except.bind, pure, Except.pure]

theorem gctr_length (E : Bytes → Bytes) (hE : ∀ b, (E b).length = 16) (icb x : Bytes) :
    (Spec.gctr E icb x).length = x.length := spec_ctr_length E _ hE icb x

theorem len_bound (n : Nat) (h : divceil n 16 + 2 ≤ 2 ^ 32) : 8 * n < 2 ^ 64 := by
  have := le_mul_divceil n 16 (by decide)
  omega

theorem tag_length (E : Bytes → Bytes) (hE : ∀ b, (E b).length = 16) (nonce aad c : Bytes) :
    (Spec.tag E nonce aad c).length = 16 := by
  simp [Spec.tag, xorBytes_length, hE, length_beEncode]

theorem gctr_involution (E : Bytes → Bytes) (hE : ∀ b, (E b).length = 16) (icb x : Bytes) :
    Spec.gctr E icb (Spec.gctr E icb x) = x := spec_ctr_involution E _ hE icb x

theorem aopen_eq (E : Bytes → Bytes) (nonce ct aad : Bytes) :
    Spec.aopen E nonce ct aad =
      splitVerify 16 (fun body t => t = Spec.tag E nonce aad body)
        (Spec.gctr E (Spec.inc32 (nonce ++ [0, 0, 0, 1]))) ct := rfl

theorem spec_aopen_aseal (E : Bytes → Bytes) (hE : ∀ b, (E b).length = 16) (nonce p aad : Bytes) :
    Spec.aopen E nonce (Spec.aseal E nonce p aad) aad = some p := by
  rw [aopen_eq, Spec.aseal, splitVerify_append 16 (fun body t => t = Spec.tag E nonce aad body) _ _ _
    (tag_length E hE _ _ _) rfl, gctr_involution E hE]

/-- what every call keeps of the object: the table of H = E(0¹²⁸) and `_counter_bytes = 0`; the counter itself is free, each
    call assigns it -/
def InvS (E : Bytes → Bytes) (o : Model.ObjS) : Prop :=
  o.productTable = (List.range 16).map (fun n => Gcm.E n 4 (beDecode (E (zeros 16)))) ∧ o.ctr.counterBytes = 0

theorem newS_inv (E : Bytes → Bytes) : ∃ o, Model.newS E = .ok o ∧ InvS E o := by
  rw [Model.newS, new_spec, ok_bind, Modes.Model.ctrInit, if_neg (by decide), ok_bind]
  exact ⟨_, rfl, rfl, rfl⟩

theorem ctr_with (c : Modes.Model.Ctr) (x : Bytes) (h : c.counterBytes = 0) :
    { c with counter := x } = ({ counter := x, counterBytes := 0 } : Modes.Model.Ctr) := by
  cases c; simp_all

/-- `seal` on an object with ANY earlier history gives the SP 800-38D value: the position an earlier
    call left in the shared CTR sub-object does not enter the result -/
theorem asealS_spec (E : Bytes → Bytes) (hE : ∀ b, (E b).length = 16) (o : Model.ObjS) (ho : InvS E o)
    (nonce p aad : Bytes) (hn : nonce.length = 12) (ha : 8 * aad.length < 2 ^ 64)
    (hp : divceil p.length 16 + 2 ≤ 2 ^ 32) :
    ∃ o', Model.asealS E o nonce p aad = .ok (o', Spec.aseal E nonce p aad) ∧ InvS E o' := by
  have hc := gcm_ctr_spec E hE nonce p hn hp
  have hcl : 8 * (Spec.gctr E (Spec.inc32 (nonce ++ [0, 0, 0, 1])) p).length < 2 ^ 64 := by
    rw [gctr_length E hE]; exact len_bound _ hp
  rw [Model.asealS, if_neg (by simp [hn]), ctr_with _ _ ho.2]
  simp only [bind, Except.bind, hc, ho.1, auth_spec E hE nonce _ aad ha hcl, pure, Except.pure]
  exact ⟨_, rfl, rfl, rfl⟩

theorem aopenS_spec (E : Bytes → Bytes) (hE : ∀ b, (E b).length = 16) (o : Model.ObjS) (ho : InvS E o)
    (nonce ct aad : Bytes) (hn : nonce.length = 12) (ha : 8 * aad.length < 2 ^ 64)
    (hp : divceil (ct.length - 16) 16 + 2 ≤ 2 ^ 32) :
    ∃ o', Model.aopenS E o nonce ct aad = .ok (o', Spec.aopen E nonce ct aad) ∧ InvS E o' := by
  rw [Model.aopenS, if_neg (by simp [hn]), Spec.aopen]
  by_cases hs : ct.length < 16
  · exact ⟨o, by simp [hs], ho⟩
  · have hl : (ct.take (ct.length - 16)).length = ct.length - 16 := by simp
    have hcl : 8 * (ct.take (ct.length - 16)).length < 2 ^ 64 := by rw [hl]; exact len_bound _ hp
    have hc := gcm_ctr_spec E hE nonce (ct.take (ct.length - 16)) hn (by rw [hl]; exact hp)
    simp only [hs, if_false, bind, Except.bind, ho.1, auth_spec E hE nonce _ aad ha hcl, ctr_with _ _ ho.2]
    by_cases ht : ct.drop (ct.length - 16) = Spec.tag E nonce aad (ct.take (ct.length - 16))
    · simp only [ht, ne_eq, not_true_eq_false, if_false, hc, pure, Except.pure]
      exact ⟨_, rfl, rfl, rfl⟩
    · exact ⟨o, by simp [ht, pure, Except.pure], ho⟩

/-- a call the standard covers -/
def ValidCall (c : Model.Call) : Prop :=
  c.nonce.length = 12 ∧ 8 * c.aad.length < 2 ^ 64 ∧
  (if c.isSeal then divceil c.data.length 16 + 2 ≤ 2 ^ 32 else divceil (c.data.length - 16) 16 + 2 ≤ 2 ^ 32)

def specCall (E : Bytes → Bytes) (c : Model.Call) : Option Bytes :=
  if c.isSeal then some (Spec.aseal E c.nonce c.data c.aad) else Spec.aopen E c.nonce c.data c.aad

theorem callS_spec (E : Bytes → Bytes) (hE : ∀ b, (E b).length = 16) (o : Model.ObjS) (ho : InvS E o)
    (c : Model.Call) (hc : ValidCall c) :
    ∃ o', Model.callS E o c = .ok (o', specCall E c) ∧ InvS E o' := by
  obtain ⟨hn, ha, hp⟩ := hc
  unfold Model.callS specCall
  by_cases hs : c.isSeal
  · simp only [hs, if_true] at hp ⊢
    obtain ⟨o', h1, h2⟩ := asealS_spec E hE o ho c.nonce c.data c.aad hn ha hp
    exact ⟨o', by rw [h1]; rfl, h2⟩
  · simp only [hs, if_false, Bool.false_eq_true] at hp ⊢
    exact aopenS_spec E hE o ho c.nonce c.data c.aad hn ha hp

/-- ANY history of seal/open calls on one object returns, call by call, the standard's value of that
    call alone: results never depend on earlier calls -/
theorem runCalls_spec (E : Bytes → Bytes) (hE : ∀ b, (E b).length = 16) : ∀ (cs : List Model.Call) (o : Model.ObjS),
    InvS E o → (∀ c ∈ cs, ValidCall c) →
    ∃ o', Model.runCalls E o cs = .ok (o', cs.map (specCall E)) ∧ InvS E o' := by
  intro cs
  induction cs with
  | nil => intro o ho _; exact ⟨o, rfl, ho⟩
  | cons c cs ih =>
    intro o ho hv
    obtain ⟨o1, h1, hi1⟩ := callS_spec E hE o ho c (hv c List.mem_cons_self)
    obtain ⟨o2, h2, hi2⟩ := ih o1 hi1 (fun x hx => hv x (List.mem_cons_of_mem _ hx))
    exact ⟨o2, by simp only [Model.runCalls, h1, h2, bind, Except.bind, pure, Except.pure, List.map_cons], hi2⟩

end Tls.Crypto.Gcm
