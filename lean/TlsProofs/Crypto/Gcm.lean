import TlsProofs.Crypto.GcmMul
import TlsProofs.Crypto.Stream
import TlsProofs.Crypto.BE
/-
  C09 — AES-GCM: `_update` and `_auth` compute GHASH and the tag of SP 800-38D §6.4, §7.1 steps 4–6.
  Trap: in this namespace `E` is the polynomial of GcmMul.lean, while `auth_spec` here and every statement of
  GcmTop.lean bind the block cipher as `E`; under such a binder the polynomial is `Gcm.E` (so in `InvS`; elsewhere the
  table is named, `mulTable`).
-/
namespace Tls.Crypto.Gcm
open Tls Tls.Crypto

def ghashFrom (H : Nat) (y : Nat) (blocks : List Bytes) : Nat :=
  blocks.foldl (fun Y X => Spec.gfmul (Y ^^^ beDecode X) H) y

theorem ghashFrom_lt (H : Nat) (hH : H < 2 ^ 128) : ∀ (blocks : List Bytes) (y : Nat), y < 2 ^ 128 →
    ghashFrom H y blocks < 2 ^ 128 := by
  intro blocks
  induction blocks with
  | nil => intro y hy; exact hy
  | cons b bs ih => intro y _; exact ih _ (gfmul_lt _ H hH)

theorem ghashFrom_append (H y : Nat) (a b : List Bytes) :
    ghashFrom H y (a ++ b) = ghashFrom H (ghashFrom H y a) b := by
  simp [ghashFrom, List.foldl_append]

theorem update_blocks (h : Nat) (hH : h < 2 ^ 128) : ∀ (bl : List Bytes) (y : Nat), y < 2 ^ 128 →
    (∀ b ∈ bl, b.length = 16) →
    bl.foldlM (fun y b => Model.mul (mulTable h) (y ^^^ beDecode b)) y =
      .ok (ghashFrom h y bl) := by
  intro bl
  induction bl with
  | nil => intro y _ _; rfl
  | cons b bs ih =>
    intro y hy hb
    have hb16 := beDecode_lt16 b (hb b List.mem_cons_self)
    rw [List.foldlM_cons, mul_table h _ (Nat.xor_lt_two_pow hy hb16)]
    simp only [bind, Except.bind]
    rw [ih _ (gfmul_lt _ h hH) (fun c hc => hb c (List.mem_cons_of_mem _ hc))]
    rfl

/-- the blocks `_update` goes through: the whole slices, then the rest zero-filled by hand -/
theorem chunks_pad16 (data : Bytes) :
    chunks 16 (Spec.pad16 data) =
      (List.range (data.length / 16)).map (fun i => (data.drop (16*i)).take 16) ++
        (if data.length % 16 ≠ 0 then [data.drop (data.length - data.length % 16) ++ zeros (16 - data.length % 16)]
         else []) := by
  have hdm := Nat.div_add_mod data.length 16
  have hr := Nat.mod_lt data.length (by decide : 0 < 16)
  have hfull : ∀ (z : Bytes) (i : Nat), i < data.length / 16 →
      ((data ++ z).drop (i*16)).take 16 = (data.drop (16*i)).take 16 := fun z i hi => by
    rw [List.drop_append_of_le_length (by omega), List.take_append_of_le_length (by rw [List.length_drop]; omega),
      Nat.mul_comm]
  rw [← slices_eq_chunks 16 (by decide), Spec.pad16]
  by_cases hz : data.length % 16 = 0
  · rw [hz, if_neg (by simp), List.append_nil, show zeros ((16 - 0) % 16) = [] from rfl, List.append_nil,
      divceil_of_dvd _ _ hz]
    exact List.map_congr_left fun i hi => by
      have := hfull [] i (List.mem_range.mp hi); rwa [List.append_nil] at this
  · have hpad : (16 - data.length % 16) % 16 = 16 - data.length % 16 := Nat.mod_eq_of_lt (by omega)
    have hlen : (data ++ zeros (16 - data.length % 16)).length = 16 * (data.length / 16 + 1) := by
      rw [List.length_append]; simp [zeros]; omega
    rw [hpad, if_pos hz, divceil_of_dvd _ _ (by rw [hlen]; exact Nat.mul_mod_right _ _), hlen,
      Nat.mul_div_cancel_left _ (by decide : 0 < 16), List.range_succ, List.map_append,
      List.map_congr_left fun i hi => hfull _ i (List.mem_range.mp hi)]
    congr 1
    rw [List.map_singleton, List.drop_append_of_le_length (by omega),
      show data.length / 16 * 16 = data.length - data.length % 16 by omega,
      List.take_of_length_le (by rw [List.length_append, List.length_drop]; simp [zeros]; omega)]

theorem update_spec (h : Nat) (hH : h < 2 ^ 128) (y : Nat) (hy : y < 2 ^ 128) (data : Bytes) :
    Model.update (mulTable h) y data =
      .ok (ghashFrom h y (chunks 16 (Spec.pad16 data))) := by
  rw [chunks_pad16, ghashFrom_append]
  unfold Model.update
  have hfull : (List.range (data.length / 16)).foldlM (fun y i =>
        (do let y := y ^^^ beDecode ((data.drop (16*i)).take 16)
            Model.mul (mulTable h) y : Except Err Nat)) y =
      .ok (ghashFrom h y ((List.range (data.length / 16)).map (fun i => (data.drop (16*i)).take 16))) := by
    rw [← update_blocks h hH _ y hy, List.foldlM_map]
    intro b hb
    obtain ⟨i, hi, rfl⟩ := List.mem_map.mp hb
    have := List.mem_range.mp hi
    rw [List.length_take, List.length_drop]; omega
  rw [hfull]
  simp only [bind, Except.bind]
  by_cases hz : data.length % 16 = 0
  · simp [hz, ghashFrom, pure, Except.pure]
  · have hlt := ghashFrom_lt h hH ((List.range (data.length / 16)).map (fun i => (data.drop (16*i)).take 16)) y hy
    have hbl : (data.drop (data.length - data.length % 16) ++ zeros (16 - data.length % 16)).length = 16 := by
      rw [List.length_append, List.length_drop]; simp [zeros]; omega
    simp only [hz, ne_eq, not_false_eq_true, if_true]
    rw [mul_table h _ (Nat.xor_lt_two_pow hlt (beDecode_lt16 _ hbl))]
    simp [ghashFrom]

/-- the length block: (len(ad) << 67) | (len(ct) << 3) is [len(A)]_64 ‖ [len(C)]_64 in bits -/
theorem lenBlock_eq (la lc : Nat) (ha : 8 * la < 2 ^ 64) (hc : 8 * lc < 2 ^ 64) :
    (la <<< (3 + 64)) ||| (lc <<< 3) = beDecode (beEncode 8 (8 * la) ++ beEncode 8 (8 * lc)) := by
  rw [beDecode_append, length_beEncode, beDecode_beEncode, beDecode_beEncode,
    show (256:Nat) ^ 8 = 2 ^ 64 from by decide, Nat.mod_eq_of_lt ha, Nat.mod_eq_of_lt hc]
  have h1 : lc <<< 3 < 2 ^ (3 + 64) := by rw [Nat.shiftLeft_eq]; omega
  rw [← Nat.shiftLeft_add_eq_or_of_lt h1, Nat.shiftLeft_eq, Nat.shiftLeft_eq]
  have : (2:Nat) ^ (3 + 64) = 8 * 2 ^ 64 := by decide
  rw [this, show (2:Nat) ^ 3 = 8 from rfl, Nat.mul_comm lc 8, ← Nat.mul_assoc, Nat.mul_comm la 8]

theorem pad16_length_mod (x : Bytes) : (Spec.pad16 x).length % 16 = 0 := length_pad16 x

theorem auth_spec (E : Bytes → Bytes) (hE : ∀ b, (E b).length = 16) (nonce c aad : Bytes)
    (ha : 8 * aad.length < 2 ^ 64) (hc : 8 * c.length < 2 ^ 64) :
    Model.auth (mulTable (beDecode (E (zeros 16)))) c aad
        (E (Model.counterBlock nonce 1)) = .ok (Spec.tag E nonce aad c) := by
  have hH : beDecode (E (zeros 16)) < 2 ^ 128 := beDecode_lt16 _ (hE _)
  have h0 : (0:Nat) < 2 ^ 128 := by decide
  have h1 := ghashFrom_lt _ hH (chunks 16 (Spec.pad16 aad)) 0 h0
  have h2 := ghashFrom_lt _ hH (chunks 16 (Spec.pad16 c)) _ h1
  have hlb : (beEncode 8 (8 * aad.length) ++ beEncode 8 (8 * c.length)).length = 16 := by
    rw [List.length_append, length_beEncode, length_beEncode]
  rw [Model.auth, update_spec _ hH 0 h0 aad, ok_bind, update_spec _ hH _ h1 c, ok_bind, lenBlock_eq _ _ ha hc]
  simp only [mul_table _ _ (Nat.xor_lt_two_pow h2 (beDecode_lt16 _ hlb)), ok_bind, pure, Except.pure, Spec.tag,
    Model.counterBlock]
  rw [Nat.xor_comm, beEncode_xor, beEncode_beDecode16 _ (hE _)]
  congr 3
  have hne : beEncode 8 (8 * aad.length) ++ beEncode 8 (8 * c.length) ≠ [] :=
    fun e => by rw [e] at hlb; exact absurd hlb (by decide)
  rw [List.append_assoc, List.append_assoc, chunks_append 16 (by decide) _ _ (pad16_length_mod aad),
    chunks_append 16 (by decide) _ _ (pad16_length_mod c), chunks_cons' 16 _ (by decide) hne,
    List.take_of_length_le (Nat.le_of_eq hlb), List.drop_of_length_le (Nat.le_of_eq hlb), chunks_nil', Spec.ghash,
    show List.foldl (fun Y X => Spec.gfmul (Y ^^^ beDecode X) (beDecode (E (zeros 16)))) 0 =
      ghashFrom (beDecode (E (zeros 16))) 0 from rfl, ghashFrom_append, ghashFrom_append]
  rfl
end Tls.Crypto.Gcm
