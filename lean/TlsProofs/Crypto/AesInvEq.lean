import TlsProofs.Crypto.AesField
import TlsProofs.Crypto.AesWord
/-
  C09 — InvCipher = EqInvCipher (FIPS-197 §5.3.5; `invCipher_eq_eqInv`): InvMixColumns is linear, InvSubBytes and
  InvShiftRows commute. `invCol` is InvMixColumns on one column (`invCol_flatten`): the form in which AesKd.lean meets it
  in the tables U1..U4 and AesInverse.lean inverts MixColumns.
-/
namespace Tls.Crypto.Aes
open Tls Tls.Crypto

def invCol : List UInt8 → List UInt8
  | [a, b, c, d] =>
    [Spec.gmul 14 a ^^^ Spec.gmul 11 b ^^^ Spec.gmul 13 c ^^^ Spec.gmul 9 d,
     Spec.gmul 9 a ^^^ Spec.gmul 14 b ^^^ Spec.gmul 11 c ^^^ Spec.gmul 13 d,
     Spec.gmul 13 a ^^^ Spec.gmul 9 b ^^^ Spec.gmul 14 c ^^^ Spec.gmul 11 d,
     Spec.gmul 11 a ^^^ Spec.gmul 13 b ^^^ Spec.gmul 9 c ^^^ Spec.gmul 14 d]
  | x => x

theorem invCol_length (x : List UInt8) (h : x.length = 4) : (invCol x).length = 4 := by
  obtain ⟨a, b, c, d, rfl⟩ := exists4 x h
  rfl

theorem invCol_flatten (x0 x1 x2 x3 : List UInt8) (h0 : x0.length = 4) (h1 : x1.length = 4) (h2 : x2.length = 4)
    (h3 : x3.length = 4) :
    ([x0, x1, x2, x3].map invCol).flatten = Spec.invMixColumns [x0, x1, x2, x3].flatten := by
  obtain ⟨a0, a1, a2, a3, rfl⟩ := exists4 x0 h0
  obtain ⟨b0, b1, b2, b3, rfl⟩ := exists4 x1 h1
  obtain ⟨c0, c1, c2, c3, rfl⟩ := exists4 x2 h2
  obtain ⟨d0, d1, d2, d3, rfl⟩ := exists4 x3 h3
  rfl

theorem xor4_shuffle (a b c d e f g h : UInt8) :
    (a ^^^ e) ^^^ (b ^^^ f) ^^^ (c ^^^ g) ^^^ (d ^^^ h) = (a ^^^ b ^^^ c ^^^ d) ^^^ (e ^^^ f ^^^ g ^^^ h) := by
  ac_rfl

theorem at_xor (s k : Spec.State) (i : Nat) (hs : i < s.length) (hk : i < k.length) :
    Spec.at_ (xorBytes s k) i = Spec.at_ s i ^^^ Spec.at_ k i := by
  simp [Spec.at_, xorBytes, List.getD_eq_getElem?_getD, List.getElem?_zipWith, List.getElem?_eq_getElem hs,
    List.getElem?_eq_getElem hk]

theorem invMix_xor (s k : Spec.State) (hs : s.length = 16) (hk : k.length = 16) :
    Spec.invMixColumns (xorBytes s k) = xorBytes (Spec.invMixColumns s) (Spec.invMixColumns k) := by
  have e : ∀ i, i < 16 → Spec.at_ (xorBytes s k) i = Spec.at_ s i ^^^ Spec.at_ k i :=
    fun i hi => at_xor s k i (hs ▸ hi) (hk ▸ hi)
  simp only [Spec.invMixColumns, show List.range 4 = [0, 1, 2, 3] from rfl, List.flatMap_cons, List.flatMap_nil, Nat.reduceMul,
    Nat.reduceAdd, Nat.reduceLT, e, gmul_xor, xor4_shuffle]
  rfl

theorem invSub_invShift (s : Spec.State) (hs : s.length = 16) :
    Spec.invSubBytes (Spec.invShiftRows s) = Spec.invShiftRows (Spec.invSubBytes s) := by
  simp only [Spec.invSubBytes, Spec.invShiftRows, List.map_map]
  apply List.map_congr_left
  intro i _
  exact (at_map _ _ _ (by rw [hs]; exact Nat.mod_lt _ (by decide))).symm

theorem invMix_length (s : Spec.State) : (Spec.invMixColumns s).length = 16 := by
  simp [Spec.invMixColumns, List.range_succ]
theorem invShift_length (s : Spec.State) : (Spec.invShiftRows s).length = 16 := by simp [Spec.invShiftRows]
theorem invSub_length (s : Spec.State) : (Spec.invSubBytes s).length = s.length := by simp [Spec.invSubBytes]
theorem addRK_length (s k : Spec.State) (hs : s.length = 16) (hk : k.length = 16) : (Spec.addRoundKey s k).length = 16 := by
  simp [Spec.addRoundKey, xorBytes, hs, hk]

theorem inv_round_eq (s k : Spec.State) (hs : s.length = 16) (hk : k.length = 16) :
    Spec.invMixColumns (Spec.addRoundKey (Spec.invSubBytes (Spec.invShiftRows s)) k) =
      Spec.addRoundKey (Spec.invMixColumns (Spec.invShiftRows (Spec.invSubBytes s))) (Spec.invMixColumns k) := by
  rw [invSub_invShift s hs]
  exact invMix_xor _ k (invShift_length _) hk

theorem invCipher_eq_eqInv (rk : Nat → Spec.State) (nr : Nat) (hrk : ∀ r, r ≤ nr → (rk r).length = 16) (inp : Bytes)
    (hi : inp.length = 16) :
    Spec.invCipherRK rk nr inp = Spec.eqInvCipherRK (Spec.dkOf rk nr) nr inp := by
  unfold Spec.invCipherRK Spec.eqInvCipherRK
  have d0 : Spec.dkOf rk nr 0 = rk nr := by simp [Spec.dkOf]
  have dn : Spec.dkOf rk nr nr = rk 0 := by simp [Spec.dkOf]
  have key : ∀ (l : List Nat) (s : Spec.State), s.length = 16 → (∀ r ∈ l, 1 ≤ r ∧ r < nr) →
      l.foldl (fun s k => Spec.invMixColumns (Spec.addRoundKey (Spec.invSubBytes (Spec.invShiftRows s)) (rk (nr - k)))) s =
      l.foldl (fun s r => Spec.addRoundKey (Spec.invMixColumns (Spec.invShiftRows (Spec.invSubBytes s)))
        (Spec.dkOf rk nr r)) s ∧
      (l.foldl (fun s k => Spec.invMixColumns (Spec.addRoundKey (Spec.invSubBytes (Spec.invShiftRows s)) (rk (nr - k)))) s).length = 16 := by
    intro l
    induction l with
    | nil => intro s hs _; exact ⟨rfl, hs⟩
    | cons r rs ih =>
      intro s hs hl
      have hr := hl r List.mem_cons_self
      have hd : Spec.dkOf rk nr r = Spec.invMixColumns (rk (nr - r)) := by simp [Spec.dkOf, hr]
      rw [List.foldl_cons, List.foldl_cons, hd, ← inv_round_eq s _ hs (hrk _ (by omega))]
      exact ih _ (invMix_length _) (fun x hx => hl x (List.mem_cons_of_mem _ hx))
  have hs0 : (Spec.addRoundKey inp (rk nr)).length = 16 := addRK_length _ _ hi (hrk _ (Nat.le_refl _))
  obtain ⟨h1, h2⟩ := key (List.range' 1 (nr - 1)) _ hs0
    (by intro r hr; have := List.mem_range'_1.mp hr; omega)
  simp only [d0, dn]
  rw [← h1, invSub_invShift _ h2]

end Tls.Crypto.Aes
