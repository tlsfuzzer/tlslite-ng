import TlsModel.Crypto.Common
import TlsProofs.Crypto.BE
/-
  C09 — little-endian numbers (`leNum` / `leBytes`: ChaCha20 words, Poly1305) are the big-endian ones of the
  reversed string, so their laws are those of `Crypto/BE`.
-/
namespace Tls.Crypto
open Tls

theorem leNum_eq (b : Bytes) : leNum b = beDecode b.reverse := by
  induction b with
  | nil => rfl
  | cons x xs ih => rw [leNum, ih, List.reverse_cons, beDecode_append, beDecode_cons, beDecode_nil]; simp; omega

theorem leBytes_eq (n x : Nat) : leBytes n x = (beEncode n x).reverse := by
  induction n generalizing x with
  | zero => rfl
  | succ n ih => rw [leBytes, ih, ← beEncode_append n 1 x, List.reverse_append]; simp [beEncode]

theorem leNum_lt (b : Bytes) : leNum b < 256 ^ b.length := by
  rw [leNum_eq, ← List.length_reverse]; exact beDecode_lt _

theorem leNum_append (a b : Bytes) : leNum (a ++ b) = leNum a + 256 ^ a.length * leNum b := by
  rw [leNum_eq, leNum_eq, leNum_eq, List.reverse_append, beDecode_append, List.length_reverse, Nat.add_comm,
    Nat.mul_comm]

theorem length_leBytes (n x : Nat) : (leBytes n x).length = n := by
  rw [leBytes_eq, List.length_reverse, length_beEncode]

theorem leBytes_mod (n x : Nat) : leBytes n (x % 256 ^ n) = leBytes n x := by
  rw [leBytes_eq, leBytes_eq, beEncode_mod]

end Tls.Crypto
