import TlsProofs.Crypto.AesRounds
import TlsProofs.Crypto.AesKeyLoop
import TlsProofs.Crypto.AesKd
import TlsProofs.Crypto.AesInverse
/-
  C09 — `Rijndael.__init__` builds both key schedules of FIPS-197 (`init_spec`), and on the object it returns
  `encrypt(block)` = Cipher(KeyExpansion(key), block), `decrypt(block)` = InvCipher(KeyExpansion(key), block)
  (`encrypt_of_init`, `decrypt_of_init`). With `invCipher_cipher` these give `aes_decrypt_encrypt` (Props/C09.lean).
-/
namespace Tls.Crypto.Aes
open Tls Tls.Crypto


theorem numRounds_lookup (n : Nat) (h : n = 16 ∨ n = 24 ∨ n = 32) : Gen.numRounds.lookup n = some (n / 4 + 6) := by
  rw [shifts_and_rounds.2.2]
  rcases h with rfl | rfl | rfl <;> rfl

theorem init_spec (key : Bytes) (hk : key.length = 16 ∨ key.length = 24 ∨ key.length = 32) :
    Model.init key = .ok {
      Ke := (Spec.keyExpansion key).map wd
      Kd := (kdWords (Spec.keyExpansion key) (key.length / 4 + 6)).map wd
      rounds := key.length / 4 + 6 } := by
  have hloop := expandLoop_spec key hk
  have hw := (keyExpansion_isWin key hk).2
  have hne : ¬ (key.length ≠ 16 ∧ key.length ≠ 24 ∧ key.length ≠ 32) := by
    rcases hk with h | h | h <;> simp [h]
  rw [Model.init, if_neg hne, numRounds_lookup _ hk]
  simp only [bind, Except.bind, pure, Except.pure, tk_spec key, hloop, mkKd_spec _ hw]

theorem rkBytes_spec (w : List (List UInt8)) (hw : ∀ x ∈ w, x.length = 4) (r : Nat) (hr : 4 * r + 4 ≤ w.length) :
    rkBytes (w.map wd) r = Spec.roundKey w r := by
  have hg : ∀ k, k < 4 → be4 ((w.map wd).getD (4 * r + k) 0) = w.getD (4 * r + k) [] := by
    intro k hk
    have hlt : 4 * r + k < w.length := by omega
    rw [← be4_wd _ (getD_len w hw _ hlt)]
    simp [List.getD_eq_getElem?_getD, List.getElem?_eq_getElem hlt]
  rw [rkBytes, ← Nat.add_zero (4 * r), hg 0 (by decide), hg 1 (by decide), hg 2 (by decide), hg 3 (by decide), Spec.roundKey,
    drop4 w (4 * r) [] hr]
  simp

theorem roundKey_length (w : List (List UInt8)) (hw : ∀ x ∈ w, x.length = 4) (r : Nat) (hr : 4 * r + 4 ≤ w.length) :
    (Spec.roundKey w r).length = 16 := by
  rw [Spec.roundKey, drop4 w (4 * r) [] hr]
  simp only [List.flatten_cons, List.flatten_nil, List.length_append, List.length_nil, getD_len w hw _ (by omega : 4 * r < _),
    getD_len w hw (4 * r + 1) (by omega), getD_len w hw (4 * r + 2) (by omega), getD_len w hw (4 * r + 3) (by omega)]

theorem encrypt_of_init (key block : Bytes) (k : Model.Keys) (hk : key.length = 16 ∨ key.length = 24 ∨ key.length = 32)
    (hi : Model.init key = .ok k) (hb : block.length = 16) : Model.encrypt k block = .ok (Spec.cipher key block) := by
  obtain ⟨hlen, hw⟩ := keyExpansion_isWin key hk
  obtain rfl := Except.ok.inj ((init_spec key hk).symm.trans hi)
  exact crypt_enc_spec _ (wd_map_lt _) (key.length / 4 + 6) (by rw [List.length_map, hlen]) _
    (fun r hr => rkBytes_spec _ hw r (by rw [hlen]; omega)) block hb

theorem decrypt_of_init (key block : Bytes) (k : Model.Keys) (hk : key.length = 16 ∨ key.length = 24 ∨ key.length = 32)
    (hi : Model.init key = .ok k) (hb : block.length = 16) : Model.decrypt k block = .ok (Spec.invCipher key block) := by
  obtain ⟨hlen, hw⟩ := keyExpansion_isWin key hk
  obtain rfl := Except.ok.inj ((init_spec key hk).symm.trans hi)
  have hkw := kdWords_words _ hw (key.length / 4 + 6)
  have hkl := kdWords_length (Spec.keyExpansion key) (key.length / 4 + 6) hlen
  rw [Spec.invCipher, invCipher_eq_eqInv _ _ (fun r hr => roundKey_length _ hw r (by rw [hlen]; omega)) block hb]
  exact crypt_dec_spec _ (wd_map_lt _) (key.length / 4 + 6) (by rw [List.length_map, hkl]) _
    (fun r hr => by rw [rkBytes_spec _ hkw r (by rw [hkl]; omega), kd_roundKey _ hw _ r hr hlen]) block hb

theorem invCipher_cipher (key block : Bytes) (hk : key.length = 16 ∨ key.length = 24 ∨ key.length = 32)
    (hb : block.length = 16) : Spec.invCipher key (Spec.cipher key block) = block := by
  obtain ⟨hlen, hw⟩ := keyExpansion_isWin key hk
  rw [Spec.invCipher, Spec.cipher]
  exact invCipherRK_cipherRK _ _ (by omega) (fun r hr => roundKey_length _ hw r (by rw [hlen]; omega)) block hb

theorem cipher_length (key block : Bytes) (hk : key.length = 16 ∨ key.length = 24 ∨ key.length = 32) :
    (Spec.cipher key block).length = 16 := by
  obtain ⟨hlen, hw⟩ := keyExpansion_isWin key hk
  rw [Spec.cipher, Spec.cipherRK]
  exact addRK_length _ _ (shift_length _) (roundKey_length _ hw _ (by rw [hlen]; omega))

end Tls.Crypto.Aes
