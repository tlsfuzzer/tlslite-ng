import TlsModel.Basic
/-
  `beEncode` / `beDecode` (TlsModel/Basic.lean) model numberToByteArray / bytesToNumber. Here: that they invert each other
  (up to `% 256 ^ n`), how they go along `++`, `drop` and xor, and how the leading byte bounds the number; `beField` is the
  form in which a reader of a fixed-width field uses them.
-/
namespace Tls

theorem length_beEncode (n x : Nat) : (beEncode n x).length = n := by
  induction n with
  | zero => rfl
  | succ n ih => simp [beEncode, ih]

theorem beDecode_nil : beDecode [] = 0 := rfl

theorem pow256 (n : Nat) : 256 ^ n = 2 ^ (8 * n) := by rw [Nat.pow_mul]

theorem beDecode_foldl (l : Bytes) (a : Nat) :
    l.foldl (fun acc x => acc * 256 + x.toNat) a = a * 256 ^ l.length + beDecode l := by
  induction l generalizing a with
  | nil => simp [beDecode]
  | cons x xs ih =>
    rw [List.foldl_cons, ih]
    show _ = _ + List.foldl (fun acc x => acc * 256 + x.toNat) 0 (x :: xs)
    rw [List.foldl_cons, ih (0 * 256 + x.toNat), List.length_cons, Nat.pow_succ]
    simp only [Nat.zero_mul, Nat.zero_add, Nat.add_mul]
    rw [Nat.mul_assoc, Nat.mul_comm 256, Nat.add_assoc]

theorem beDecode_cons (x : UInt8) (xs : Bytes) :
    beDecode (x :: xs) = x.toNat * 256 ^ xs.length + beDecode xs := by
  rw [beDecode, List.foldl_cons, beDecode_foldl]; simp

theorem beDecode_append (a b : Bytes) : beDecode (a ++ b) = beDecode a * 256 ^ b.length + beDecode b := by
  induction a with
  | nil => simp [beDecode]
  | cons x xs ih =>
    rw [List.cons_append, beDecode_cons, beDecode_cons, ih, List.length_append, Nat.pow_add]
    rw [Nat.add_mul, Nat.mul_assoc, Nat.add_assoc]

theorem beDecode_lt (l : Bytes) : beDecode l < 256 ^ l.length := by
  induction l with
  | nil => simp [beDecode]
  | cons x xs ih =>
    rw [beDecode_cons, List.length_cons, Nat.pow_succ]
    have := x.toNat_lt
    have h256 : x.toNat ≤ 255 := by omega
    have := Nat.mul_le_mul_right (256 ^ xs.length) h256
    omega

theorem beDecode_cons_bounds (x : UInt8) (t : Bytes) :
    x.toNat * 256 ^ t.length ≤ beDecode (x :: t) ∧ beDecode (x :: t) < (x.toNat + 1) * 256 ^ t.length := by
  rw [beDecode_cons, Nat.succ_mul]
  have := beDecode_lt t
  omega

theorem beDecode_zero_cons (t : Bytes) : beDecode (0 :: t) = beDecode t := by
  rw [beDecode_cons, show (0 : UInt8).toNat = 0 from rfl, Nat.zero_mul, Nat.zero_add]

theorem beDecode_beEncode (n x : Nat) : beDecode (beEncode n x) = x % 256 ^ n := by
  induction n with
  | zero => simp [beEncode, beDecode, Nat.mod_one]
  | succ n ih =>
    rw [beEncode, beDecode_cons, ih, length_beEncode, Nat.mod_pow_succ]
    have : (UInt8.ofNat (x / 256 ^ n % 256)).toNat = x / 256 ^ n % 256 := by
      simp [UInt8.toNat_ofNat']
    rw [this, Nat.mul_comm, Nat.add_comm]

theorem beDecode_beEncode_of_lt (n x : Nat) (h : x < 256 ^ n) : beDecode (beEncode n x) = x := by
  rw [beDecode_beEncode, Nat.mod_eq_of_lt h]

theorem beField (n x : Nat) (r : Bytes) (h : x < 256 ^ n) :
    ¬ (beEncode n x ++ r).length < n ∧ beDecode ((beEncode n x ++ r).take n) = x ∧
      (beEncode n x ++ r).drop n = r := by
  have hl := length_beEncode n x
  rw [List.length_append, hl, List.take_left' hl, List.drop_left' hl, beDecode_beEncode_of_lt n x h]
  exact ⟨by omega, rfl, rfl⟩

theorem beEncode_inj (n x y : Nat) (hx : x < 256 ^ n) (hy : y < 256 ^ n)
    (h : beEncode n x = beEncode n y) : x = y := by
  have := congrArg beDecode h
  rwa [beDecode_beEncode_of_lt n x hx, beDecode_beEncode_of_lt n y hy] at this

theorem beEncode_mod (n x : Nat) : beEncode n (x % 256 ^ n) = beEncode n x := by
  have key : ∀ (k n x : Nat), n ≤ k → beEncode n (x % 256 ^ k) = beEncode n x := by
    intro k n
    induction n with
    | zero => intro _ _; rfl
    | succ n ih =>
      intro x hk
      rw [beEncode, beEncode, ih x (by omega)]
      congr 2
      have hd : 256 ^ k = 256 ^ n * 256 ^ (k - n) := by rw [← Nat.pow_add]; congr 1; omega
      rw [hd, Nat.mod_mul_right_div_self]
      have : 256 ^ (k - n) = 256 * 256 ^ (k - n - 1) := by
        rw [← Nat.pow_succ']; congr 1; omega
      rw [this, Nat.mod_mul_right_mod]
  exact key n n x (Nat.le_refl _)

theorem beEncode_append (m n x : Nat) :
    beEncode m (x / 256 ^ n) ++ beEncode n x = beEncode (m + n) x := by
  induction m with
  | zero => rw [Nat.zero_add]; rfl
  | succ m ih =>
    rw [Nat.add_right_comm, beEncode, beEncode, ← ih, Nat.div_div_eq_div_mul, ← Nat.pow_add,
      Nat.add_comm n m]
    rfl

theorem beEncode_drop (a b x : Nat) : (beEncode (a + b) x).drop a = beEncode b x := by
  rw [← beEncode_append, List.drop_left' (length_beEncode _ _)]

theorem beEncode_drop' (L j n : Nat) : (beEncode L n).drop j = beEncode (L - j) n := by
  by_cases h : j ≤ L
  · have := beEncode_drop j (L - j) n
    rwa [Nat.add_sub_cancel' h] at this
  · rw [List.drop_of_length_le (by rw [length_beEncode]; omega), show L - j = 0 by omega]; rfl

theorem beEncode_zero (n : Nat) : ∀ i ∈ beEncode n 0, i = 0 := by
  induction n with
  | zero => simp [beEncode]
  | succ n ih =>
    intro i hi
    simp only [beEncode, List.mem_cons] at hi
    rcases hi with rfl | hi
    · simp
    · exact ih i hi

theorem beDecode_replicate_zero (k : Nat) (t : Bytes) :
    beDecode (List.replicate k (0 : UInt8) ++ t) = beDecode t := by
  induction k with
  | zero => simp
  | succ k ih => rw [List.replicate_succ, List.cons_append, beDecode_zero_cons, ih]

theorem beDecode_replicate_ff (n : Nat) : beDecode (List.replicate n (0xff : UInt8)) = 256 ^ n - 1 := by
  induction n with
  | zero => simp [beDecode]
  | succ n ih =>
    rw [List.replicate_succ, beDecode_cons, ih, List.length_replicate, Nat.pow_succ]
    have : 0 < 256 ^ n := Nat.pow_pos (by decide)
    have h : (0xff : UInt8).toNat = 255 := by decide
    rw [h]; omega

theorem beEncode_beDecode (l : Bytes) : beEncode l.length (beDecode l) = l := by
  induction l with
  | nil => rfl
  | cons x xs ih =>
    rw [List.length_cons, beEncode, beDecode_cons]
    have hlt := beDecode_lt xs
    have hpos : 0 < 256 ^ xs.length := Nat.pow_pos (by decide)
    have h1 : (x.toNat * 256 ^ xs.length + beDecode xs) / 256 ^ xs.length = x.toNat := by
      rw [Nat.mul_comm, Nat.mul_add_div hpos, Nat.div_eq_of_lt hlt]; simp
    have h2 : beEncode xs.length (x.toNat * 256 ^ xs.length + beDecode xs) = xs := by
      rw [← beEncode_mod, Nat.mul_comm, Nat.mul_add_mod, Nat.mod_eq_of_lt hlt, ih]
    rw [h1, h2]
    have := x.toNat_lt
    congr 1
    rw [Nat.mod_eq_of_lt (by omega)]
    simp

theorem beDecode_inj (a b : Bytes) (hl : a.length = b.length) (h : beDecode a = beDecode b) : a = b := by
  rw [← beEncode_beDecode a, ← beEncode_beDecode b, hl, h]

theorem beDecode_take_lt (b : Bytes) (n : Nat) (h : n ≤ b.length) : beDecode (b.take n) < 256 ^ n := by
  have := beDecode_lt (b.take n)
  rwa [List.length_take_of_le h] at this

theorem beEncode_beDecode_take (b : Bytes) (n : Nat) (h : n ≤ b.length) :
    beEncode n (beDecode (b.take n)) = b.take n := by
  have := beEncode_beDecode (b.take n)
  rwa [List.length_take_of_le h] at this

theorem beDecode_lt16 (b : Bytes) (h : b.length = 16) : beDecode b < 2 ^ 128 := by
  have := beDecode_lt b
  rw [h] at this
  exact this

theorem beEncode_beDecode16 (b : Bytes) (h : b.length = 16) : beEncode 16 (beDecode b) = b := by
  have := beEncode_beDecode b
  rw [h] at this
  exact this

/-- the right-hand side is `Crypto.xorBytes`, unfolded -/
theorem beEncode_xor (n a b : Nat) :
    beEncode n (a ^^^ b) = List.zipWith (· ^^^ ·) (beEncode n a) (beEncode n b) := by
  induction n with
  | zero => rfl
  | succ n ih =>
    rw [beEncode, beEncode, beEncode, List.zipWith_cons_cons, ← ih]
    congr 1
    rw [pow256, Nat.xor_div_two_pow, show (256:Nat) = 2 ^ 8 from rfl, Nat.xor_mod_two_pow, UInt8.ofNat_xor]

end Tls
