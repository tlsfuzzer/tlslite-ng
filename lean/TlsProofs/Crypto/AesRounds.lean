import TlsProofs.Crypto.AesTables
import TlsProofs.Guards
/-
  C09 — the table-driven rounds of rijndael.py (`Model.crypt`) are the rounds of FIPS-197: with T1..T4, S
  and shifts 1 2 3 the Cipher (§5.1), with T5..T8, Si and shifts 3 2 1 the equivalent inverse cipher
  (§5.3.5). Both directions are one statement about four tables made of byte functions `f0..f3` (`crypt_tables`).
-/
namespace Tls.Crypto.Aes
open Tls Tls.Crypto

/-- the four state words of a 16-byte state (column c = bytes 4c … 4c+3, big-endian in the word) -/
def wordsOf : List UInt8 → List Nat
  | a :: b :: c :: d :: rest => wordB a b c d :: wordsOf rest
  | _ => []

theorem idx_wordsOf (s : Spec.State) (hs : s.length = 16) (j : Nat) (hj : j < 4) :
    idx (wordsOf s) j =
      .ok (wordB (Spec.at_ s (4*j)) (Spec.at_ s (4*j + 1)) (Spec.at_ s (4*j + 2)) (Spec.at_ s (4*j + 3))) := by
  obtain ⟨s0, s1, s2, s3, s4, s5, s6, s7, s8, s9, s10, s11, s12, s13, s14, s15, rfl⟩ := exists16 s hs
  have : j = 0 ∨ j = 1 ∨ j = 2 ∨ j = 3 := by omega
  rcases this with rfl | rfl | rfl | rfl <;> rfl

theorem low_xor (s w : Nat) (hs : s < 256) : (s ^^^ w) &&& 0xFF = s ^^^ (w % 256) := by
  rw [show (0xFF : Nat) = 2 ^ 8 - 1 from rfl, Nat.and_two_pow_sub_one_eq_mod, Nat.xor_mod_two_pow,
    Nat.mod_eq_of_lt (show s < 2 ^ 8 from hs)]

theorem firstStep_spec (K : List Nat) (hK : ∀ w ∈ K, w < 2 ^ 32) (hlen : 4 ≤ K.length) (block : Bytes)
    (hb : block.length = 16) :
    Model.firstStep K block = .ok (wordsOf (Spec.addRoundKey block (rkBytes K 0))) := by
  obtain ⟨b0, b1, b2, b3, b4, b5, b6, b7, b8, b9, b10, b11, b12, b13, b14, b15, rfl⟩ := exists16 block hb
  have w : ∀ (a b c d : UInt8), (a.toNat <<< 24) ||| (b.toNat <<< 16) ||| (c.toNat <<< 8) ||| d.toNat = wordB a b c d :=
    fun _ _ _ _ => rfl
  simp only [Model.firstStep, show List.range 4 = [0, 1, 2, 3] from rfl, List.mapM_cons, List.mapM_nil,
    idx_key K hK 0 (by omega), idx_key K hK 1 (by omega), idx_key K hK 2 (by omega), idx_key K hK 3 (by omega),
    bind, Except.bind, pure, Except.pure]
  simp only [Model.wordAt, idx, bind, Except.bind, pure, Except.pure, Except.map, Nat.reduceMul, Nat.reduceAdd,
    List.getElem?_cons_succ, List.getElem?_cons_zero, w, wordB_xor]
  rfl

/-- `A`..`D` hold the column (f0 f1 f2 f3) and its three rotations, `Sb` the box of the last round. In `crypt_tables` the
    rounds `rnd`, `fin` and the round keys `rk` are variables tied to the tables and to `K` by hypotheses, so that the
    specification's own round and either form of its keys (`rkBytes K`, `Spec.roundKey w`, `Spec.dkOf …`) go in without a
    rewrite under the fold. -/
structure RoundTables (A B C D Sb : Array Nat) (f0 f1 f2 f3 sb : UInt8 → UInt8) : Prop where
  a : ∀ x : UInt8, aidx A x.toNat = .ok (wordB (f0 x) (f1 x) (f2 x) (f3 x))
  b : ∀ x : UInt8, aidx B x.toNat = .ok (wordB (f3 x) (f0 x) (f1 x) (f2 x))
  c : ∀ x : UInt8, aidx C x.toNat = .ok (wordB (f2 x) (f3 x) (f0 x) (f1 x))
  d : ∀ x : UInt8, aidx D x.toNat = .ok (wordB (f1 x) (f2 x) (f3 x) (f0 x))
  s : ∀ x : UInt8, aidx Sb x.toNat = .ok (sb x).toNat

/-- the bytes column `i` of a round reads: row `r` comes from column `i + s_r` (ShiftRows by `s1 s2 s3`) -/
def picks (s : Spec.State) (s1 s2 s3 i : Nat) : UInt8 × UInt8 × UInt8 × UInt8 :=
  (Spec.at_ s (4*i), Spec.at_ s (4*((i + s1) % 4) + 1), Spec.at_ s (4*((i + s2) % 4) + 2),
   Spec.at_ s (4*((i + s3) % 4) + 3))

/-- per column the circulant matrix (f0 f3 f2 f1) applied to the picked bytes -/
def tableRound (f0 f1 f2 f3 : UInt8 → UInt8) (s1 s2 s3 : Nat) (s : Spec.State) : Spec.State :=
  (List.range 4).flatMap fun i =>
    let (a, b, c, d) := picks s s1 s2 s3 i
    [f0 a ^^^ f3 b ^^^ f2 c ^^^ f1 d, f1 a ^^^ f0 b ^^^ f3 c ^^^ f2 d,
     f2 a ^^^ f1 b ^^^ f0 c ^^^ f3 d, f3 a ^^^ f2 b ^^^ f1 c ^^^ f0 d]

def lastRound (sb : UInt8 → UInt8) (s1 s2 s3 : Nat) (s : Spec.State) : Spec.State :=
  (List.range 4).flatMap fun i =>
    let (a, b, c, d) := picks s s1 s2 s3 i
    [sb a, sb b, sb c, sb d]

theorem lastBytes (x0 x1 x2 x3 k0 k1 k2 k3 : UInt8) :
    [(x0.toNat ^^^ (wordB k0 k1 k2 k3 >>> 24)) &&& 0xFF, (x1.toNat ^^^ (wordB k0 k1 k2 k3 >>> 16)) &&& 0xFF,
     (x2.toNat ^^^ (wordB k0 k1 k2 k3 >>> 8)) &&& 0xFF, (x3.toNat ^^^ wordB k0 k1 k2 k3) &&& 0xFF].map UInt8.ofNat =
      [x0 ^^^ k0, x1 ^^^ k1, x2 ^^^ k2, x3 ^^^ k3] := by
  obtain ⟨e1, e2, e3, e4⟩ := byteOf_wordB k0 k1 k2 k3
  simp only [byteOf_eq, Nat.pow_zero, Nat.div_one] at e1 e2 e3 e4
  simp only [List.map_cons, List.map_nil, low_xor _ _ x0.toNat_lt, low_xor _ _ x1.toNat_lt, low_xor _ _ x2.toNat_lt,
    low_xor _ _ x3.toNat_lt, Nat.shiftRight_eq_div_pow, e1, e2, e3, e4, UInt8.ofNat_xor, UInt8.ofNat_toNat]

section
variable {A B C D Sb : Array Nat} {f0 f1 f2 f3 sb : UInt8 → UInt8} (T : RoundTables A B C D Sb f0 f1 f2 f3 sb)
include T

theorem colWord_tables (K : List Nat) (hK : ∀ w ∈ K, w < 2 ^ 32) (s1 s2 s3 r i : Nat) (hi : i < 4)
    (hr : 4 * r + 3 < K.length) (s : Spec.State) (hs : s.length = 16) :
    Model.colWord A B C D K (wordsOf s) s1 s2 s3 r i =
      let (a, b, c, d) := picks s s1 s2 s3 i
      let k := K.getD (4*r + i) 0
      .ok (wordB (f0 a ^^^ f3 b ^^^ f2 c ^^^ f1 d ^^^ UInt8.ofNat (k / 2 ^ 24))
        (f1 a ^^^ f0 b ^^^ f3 c ^^^ f2 d ^^^ UInt8.ofNat (k / 2 ^ 16 % 256))
        (f2 a ^^^ f1 b ^^^ f0 c ^^^ f3 d ^^^ UInt8.ofNat (k / 2 ^ 8 % 256))
        (f3 a ^^^ f2 b ^^^ f1 c ^^^ f0 d ^^^ UInt8.ofNat (k % 256))) := by
  have m : ∀ j, j % 4 < 4 := fun j => Nat.mod_lt j (by decide)
  simp only [Model.colWord, picks, idx_wordsOf s hs i hi, idx_wordsOf s hs _ (m _), idx_key K hK (4*r + i) (by omega),
    bind, Except.bind, pure, Except.pure, (byteOf_wordB _ _ _ _).1, (byteOf_wordB _ _ _ _).2.1, (byteOf_wordB _ _ _ _).2.2.1,
    (byteOf_wordB _ _ _ _).2.2.2, T.a, T.b, T.c, T.d, wordB_xor]

theorem roundStep_tables (K : List Nat) (hK : ∀ w ∈ K, w < 2 ^ 32) (s1 s2 s3 r : Nat) (hr : 4 * r + 3 < K.length)
    (s : Spec.State) (hs : s.length = 16) :
    Model.roundStep A B C D K s1 s2 s3 (wordsOf s) r =
      .ok (wordsOf (Spec.addRoundKey (tableRound f0 f1 f2 f3 s1 s2 s3 s) (rkBytes K r))) := by
  have col := fun i hi => colWord_tables T K hK s1 s2 s3 r i hi hr s hs
  simp only [Model.roundStep, show List.range 4 = [0, 1, 2, 3] from rfl, List.mapM_cons, List.mapM_nil,
    col 0 (by decide), col 1 (by decide), col 2 (by decide), col 3 (by decide), bind, Except.bind, pure, Except.pure]
  rfl

theorem rounds_fold_tables (K : List Nat) (hK : ∀ w ∈ K, w < 2 ^ 32) (s1 s2 s3 : Nat) (rnd : Spec.State → Spec.State)
    (hrnd : ∀ s, s.length = 16 → tableRound f0 f1 f2 f3 s1 s2 s3 s = rnd s) (rk : Nat → Spec.State)
    (hrk : ∀ r, 4 * r + 4 ≤ K.length → rkBytes K r = rk r) : ∀ (n start : Nat) (s : Spec.State),
    s.length = 16 → 4 * (start + n) ≤ K.length →
    (List.range' start n).foldlM (Model.roundStep A B C D K s1 s2 s3) (wordsOf s) =
      .ok (wordsOf ((List.range' start n).foldl (fun s r => Spec.addRoundKey (rnd s) (rk r)) s)) ∧
    ((List.range' start n).foldl (fun s r => Spec.addRoundKey (rnd s) (rk r)) s).length = 16 := by
  intro n
  induction n with
  | zero => intro start s hs _; exact ⟨rfl, hs⟩
  | succ n ih =>
    intro start s hs hlen
    rw [List.range'_succ, List.foldlM_cons, roundStep_tables T K hK s1 s2 s3 start (by omega) s hs, hrnd s hs,
      hrk start (by omega)]
    exact ih (start + 1) _ (by rw [← hrk start (by omega), ← hrnd s hs]; rfl) (by omega)

theorem lastCol_tables (K : List Nat) (hK : ∀ w ∈ K, w < 2 ^ 32) (s1 s2 s3 rounds i : Nat) (hi : i < 4)
    (hr : 4 * rounds + 3 < K.length) (s : Spec.State) (hs : s.length = 16) :
    ∃ l, Model.lastCol Sb K (wordsOf s) s1 s2 s3 rounds i = .ok l ∧
      l.map UInt8.ofNat =
        let (a, b, c, d) := picks s s1 s2 s3 i
        let k := K.getD (4*rounds + i) 0
        [sb a ^^^ UInt8.ofNat (k / 2 ^ 24), sb b ^^^ UInt8.ofNat (k / 2 ^ 16 % 256), sb c ^^^ UInt8.ofNat (k / 2 ^ 8 % 256),
         sb d ^^^ UInt8.ofNat (k % 256)] := by
  have m : ∀ j, j % 4 < 4 := fun j => Nat.mod_lt j (by decide)
  refine ⟨_, ?_, lastBytes _ _ _ _ _ _ _ _⟩
  simp only [Model.lastCol, idx_wordsOf s hs i hi, idx_wordsOf s hs _ (m _), idx_key K hK (4*rounds + i) (by omega),
    bind, Except.bind, pure, Except.pure, (byteOf_wordB _ _ _ _).1, (byteOf_wordB _ _ _ _).2.1, (byteOf_wordB _ _ _ _).2.2.1,
    (byteOf_wordB _ _ _ _).2.2.2, T.s]

theorem lastStep_tables (K : List Nat) (hK : ∀ w ∈ K, w < 2 ^ 32) (s1 s2 s3 rounds : Nat) (hr : 4 * rounds + 3 < K.length)
    (s : Spec.State) (hs : s.length = 16) :
    ∃ res, (List.range 4).mapM (Model.lastCol Sb K (wordsOf s) s1 s2 s3 rounds) = .ok res ∧
      res.flatten.map UInt8.ofNat = Spec.addRoundKey (lastRound sb s1 s2 s3 s) (rkBytes K rounds) := by
  have col := fun i hi => lastCol_tables T K hK s1 s2 s3 rounds i hi hr s hs
  obtain ⟨l0, e0, m0⟩ := col 0 (by decide)
  obtain ⟨l1, e1, m1⟩ := col 1 (by decide)
  obtain ⟨l2, e2, m2⟩ := col 2 (by decide)
  obtain ⟨l3, e3, m3⟩ := col 3 (by decide)
  refine ⟨[l0, l1, l2, l3], ?_, ?_⟩
  · simp only [show List.range 4 = [0, 1, 2, 3] from rfl, List.mapM_cons, List.mapM_nil, e0, e1, e2, e3, bind, Except.bind,
      pure, Except.pure]
  · simp only [List.flatten_cons, List.flatten_nil, List.map_append, m0, m1, m2, m3, List.map_nil]
    rfl

theorem crypt_tables (s1 s2 s3 : Nat) (rnd fin : Spec.State → Spec.State)
    (hrnd : ∀ s, s.length = 16 → tableRound f0 f1 f2 f3 s1 s2 s3 s = rnd s)
    (hfin : ∀ s, s.length = 16 → lastRound sb s1 s2 s3 s = fin s)
    (K : List Nat) (hK : ∀ w ∈ K, w < 2 ^ 32) (rounds : Nat)
    (hlen : K.length = 4 * (rounds + 1)) (rk : Nat → Spec.State) (hrk : ∀ r, r ≤ rounds → rkBytes K r = rk r)
    (block : Bytes) (hb : block.length = 16) :
    Model.crypt K rounds A B C D Sb [s1, s2, s3] block =
      .ok (Spec.addRoundKey (fin ((List.range' 1 (rounds - 1)).foldl (fun s r => Spec.addRoundKey (rnd s) (rk r))
        (Spec.addRoundKey block (rk 0)))) (rk rounds)) := by
  have hfirst := firstStep_spec K hK (by omega) block hb
  rw [hrk 0 (by omega)] at hfirst
  have hs0 : (Spec.addRoundKey block (rk 0)).length = 16 := by
    simp only [Spec.addRoundKey, xorBytes, List.length_zipWith, hb, ← hrk 0 (by omega), rkBytes_length, Nat.min_self]
  obtain ⟨hfold, hfl⟩ := rounds_fold_tables T K hK s1 s2 s3 rnd hrnd rk (fun r h => hrk r (by omega)) (rounds - 1) 1 _ hs0
    (by omega)
  obtain ⟨res, hres, hlast⟩ := lastStep_tables T K hK s1 s2 s3 rounds (by omega) _ hfl
  rw [Model.crypt, if_neg (by omega)]
  simp only [idx, List.getElem?_cons_zero, List.getElem?_cons_succ, bind, Except.bind, hfirst, hfold, hres, pure,
    Except.pure, hlast, hfin _ hfl, hrk rounds (Nat.le_refl _)]

end

theorem enc_tables : RoundTables Gen.T1 Gen.T2 Gen.T3 Gen.T4 Gen.S (fun x => Spec.gmul 2 (Spec.sbox x)) Spec.sbox Spec.sbox
    (fun x => Spec.gmul 3 (Spec.sbox x)) Spec.sbox := by
  obtain ⟨h1, h2, h3, h4⟩ := T_tables
  refine ⟨fun x => ?_, fun x => ?_, fun x => ?_, fun x => ?_, S_lookup⟩ <;> simp only [wordB, gmul_toNat]
  · exact aidx_map _ _ _ h1 _ _ (S_getElem x)
  · exact aidx_map _ _ _ h2 _ _ (S_getElem x)
  · exact aidx_map _ _ _ h3 _ _ (S_getElem x)
  · exact aidx_map _ _ _ h4 _ _ (S_getElem x)

theorem dec_tables : RoundTables Gen.T5 Gen.T6 Gen.T7 Gen.T8 Gen.Si (fun x => Spec.gmul 14 (Spec.invSbox x))
    (fun x => Spec.gmul 9 (Spec.invSbox x)) (fun x => Spec.gmul 13 (Spec.invSbox x)) (fun x => Spec.gmul 11 (Spec.invSbox x))
    Spec.invSbox := by
  obtain ⟨h1, h2, h3, h4⟩ := Tinv_tables
  refine ⟨fun x => ?_, fun x => ?_, fun x => ?_, fun x => ?_, Si_lookup⟩ <;> simp only [wordB, gmul_toNat]
  · exact aidx_map _ _ _ h1 _ _ (Si_getElem x)
  · exact aidx_map _ _ _ h2 _ _ (Si_getElem x)
  · exact aidx_map _ _ _ h3 _ _ (Si_getElem x)
  · exact aidx_map _ _ _ h4 _ _ (Si_getElem x)

theorem at_shiftRows (s : Spec.State) (c : Nat) (hc : c < 4) (r : Nat) (hr : r < 4) :
    Spec.at_ (Spec.shiftRows s) (4*c + r) = Spec.at_ s (4*((c + r) % 4) + r) := by
  rw [Spec.shiftRows, at_map_range _ _ _ (by omega)]
  congr 1
  revert c hc r hr
  decide

theorem at_invShiftRows (s : Spec.State) (c : Nat) (hc : c < 4) (r : Nat) (hr : r < 4) :
    Spec.at_ (Spec.invShiftRows s) (4*c + r) = Spec.at_ s (4*((c + (4 - r)) % 4) + r) := by
  rw [Spec.invShiftRows, at_map_range _ _ _ (by omega)]
  congr 1
  revert c hc r hr
  decide

theorem state_cols (l : Spec.State) (hl : l.length = 16) :
    l = (List.range 4).flatMap fun c => [Spec.at_ l (4*c + 0), Spec.at_ l (4*c + 1), Spec.at_ l (4*c + 2), Spec.at_ l (4*c + 3)] := by
  obtain ⟨s0, s1, s2, s3, s4, s5, s6, s7, s8, s9, s10, s11, s12, s13, s14, s15, rfl⟩ := exists16 l hl
  rfl

theorem at_shift_map (g : UInt8 → UInt8) (s : Spec.State) (hs : s.length = 16) (c r : Nat) (hc : c < 4) (hr : r < 4) :
    Spec.at_ (Spec.shiftRows (s.map g)) (4*c + r) = g (Spec.at_ s (4 * ((c + r) % 4) + r)) := by
  rw [at_shiftRows _ c hc r hr, at_map _ _ _ (by omega)]

-- `picks` writes row 0 as `4*i`, which `at_shift_map` at `r = 0` (`4*c + 0`) does not match syntactically
theorem at_shift_map_row0 (g : UInt8 → UInt8) (s : Spec.State) (hs : s.length = 16) (c : Nat) (hc : c < 4) :
    Spec.at_ (Spec.shiftRows (s.map g)) (4*c + 0) = g (Spec.at_ s (4*c)) := by
  rw [at_shift_map g s hs c 0 hc (by decide)]
  congr 2; omega

theorem at_invShift_map (g : UInt8 → UInt8) (s : Spec.State) (hs : s.length = 16) (c r : Nat) (hc : c < 4) (hr : r < 4) :
    Spec.at_ (Spec.invShiftRows (s.map g)) (4*c + r) = g (Spec.at_ s (4 * ((c + (4 - r)) % 4) + r)) := by
  rw [at_invShiftRows _ c hc r hr, at_map _ _ _ (by omega)]

theorem at_invShift_map_row0 (g : UInt8 → UInt8) (s : Spec.State) (hs : s.length = 16) (c : Nat) (hc : c < 4) :
    Spec.at_ (Spec.invShiftRows (s.map g)) (4*c + 0) = g (Spec.at_ s (4*c)) := by
  rw [at_invShift_map g s hs c 0 hc (by decide)]
  congr 2; omega

theorem round_enc (s : Spec.State) (hs : s.length = 16) :
    tableRound (fun x => Spec.gmul 2 (Spec.sbox x)) Spec.sbox Spec.sbox (fun x => Spec.gmul 3 (Spec.sbox x)) 1 2 3 s =
      Spec.mixColumns (Spec.shiftRows (Spec.subBytes s)) := by
  apply flatMap_range_congr
  intro c hc
  simp only [picks, Spec.subBytes, at_shift_map_row0 _ s hs c hc, at_shift_map _ s hs c 1 hc (by decide),
    at_shift_map _ s hs c 2 hc (by decide), at_shift_map _ s hs c 3 hc (by decide)]

theorem last_enc (s : Spec.State) (hs : s.length = 16) :
    lastRound Spec.sbox 1 2 3 s = Spec.shiftRows (Spec.subBytes s) := by
  rw [state_cols (Spec.shiftRows _) (by simp [Spec.shiftRows])]
  apply flatMap_range_congr
  intro c hc
  simp only [picks, Spec.subBytes, at_shift_map_row0 _ s hs c hc, at_shift_map _ s hs c 1 hc (by decide),
    at_shift_map _ s hs c 2 hc (by decide), at_shift_map _ s hs c 3 hc (by decide)]

theorem round_dec (s : Spec.State) (hs : s.length = 16) :
    tableRound (fun x => Spec.gmul 14 (Spec.invSbox x)) (fun x => Spec.gmul 9 (Spec.invSbox x))
      (fun x => Spec.gmul 13 (Spec.invSbox x)) (fun x => Spec.gmul 11 (Spec.invSbox x)) 3 2 1 s =
      Spec.invMixColumns (Spec.invShiftRows (Spec.invSubBytes s)) := by
  apply flatMap_range_congr
  intro c hc
  simp only [picks, Spec.invSubBytes, at_invShift_map_row0 _ s hs c hc, at_invShift_map _ s hs c 1 hc (by decide),
    at_invShift_map _ s hs c 2 hc (by decide), at_invShift_map _ s hs c 3 hc (by decide)]

theorem last_dec (s : Spec.State) (hs : s.length = 16) :
    lastRound Spec.invSbox 3 2 1 s = Spec.invShiftRows (Spec.invSubBytes s) := by
  rw [state_cols (Spec.invShiftRows _) (by simp [Spec.invShiftRows])]
  apply flatMap_range_congr
  intro c hc
  simp only [picks, Spec.invSubBytes, at_invShift_map_row0 _ s hs c hc, at_invShift_map _ s hs c 1 hc (by decide),
    at_invShift_map _ s hs c 2 hc (by decide), at_invShift_map _ s hs c 3 hc (by decide)]

/-- `Rijndael.encrypt` on a key schedule `K` is the FIPS-197 Cipher with round keys `rk r` = the bytes of K[4r .. 4r+3] -/
theorem crypt_enc_spec (K : List Nat) (hK : ∀ w ∈ K, w < 2 ^ 32) (rounds : Nat)
    (hlen : K.length = 4 * (rounds + 1)) (rk : Nat → Spec.State) (hrk : ∀ r, r ≤ rounds → rkBytes K r = rk r)
    (block : Bytes) (hb : block.length = 16) :
    Model.crypt K rounds Gen.T1 Gen.T2 Gen.T3 Gen.T4 Gen.S Gen.shiftsEnc block = .ok (Spec.cipherRK rk rounds block) := by
  rw [shifts_and_rounds.1]
  exact crypt_tables enc_tables 1 2 3 _ _ round_enc last_enc K hK rounds hlen rk hrk block hb

/-- `Rijndael.decrypt` on a decryption key schedule `K` is the equivalent inverse cipher of FIPS-197 §5.3.5 -/
theorem crypt_dec_spec (K : List Nat) (hK : ∀ w ∈ K, w < 2 ^ 32) (rounds : Nat)
    (hlen : K.length = 4 * (rounds + 1)) (rk : Nat → Spec.State) (hrk : ∀ r, r ≤ rounds → rkBytes K r = rk r)
    (block : Bytes) (hb : block.length = 16) :
    Model.crypt K rounds Gen.T5 Gen.T6 Gen.T7 Gen.T8 Gen.Si Gen.shiftsDec block = .ok (Spec.eqInvCipherRK rk rounds block) := by
  rw [shifts_and_rounds.2.1]
  exact crypt_tables dec_tables 3 2 1 _ _ round_dec last_dec K hK rounds hlen rk hrk block hb

end Tls.Crypto.Aes
