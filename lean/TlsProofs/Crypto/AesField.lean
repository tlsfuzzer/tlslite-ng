import TlsModel.Crypto.Aes
/-
  C09 — arithmetic of GF(2^8) as FIPS-197 §4.2 defines it (`Spec.xtimeN`, `Spec.gmulN`): results stay
  below 256; on bytes multiplication is additive over xor in each factor, and a map that is additive is known
  from the eight powers of two (`xor_linear_ext`). From that: multiplication is commutative and associative,
  `x^256 = x`, hence a byte with product 1 is the inverse `Spec.ginvN` computes (`ginvN_unique`), and row 0 of the
  coefficient matrix of InvMixColumns times the columns of that of MixColumns is (1 0 0 0) (`mix_diag`, `mix_off1..3`;
  the other rows are these with the bytes rotated: `invCol_mixCol` in AesInverse.lean).
-/
namespace Tls.Crypto.Aes
open Tls Tls.Crypto

/-- a cheaper way for the kernel to run through `x < n` than the instance for `∀ x, x < n → p x` -/
theorem forall_lt_of_all {n : Nat} {p : Nat → Prop} [DecidablePred p]
    (h : (List.range n).all (fun x => decide (p x)) = true) : ∀ x, x < n → p x :=
  fun x hx => of_decide_eq_true (List.all_eq_true.mp h x (List.mem_range.mpr hx))

theorem xor_lt256 (x y : Nat) (hx : x < 256) (hy : y < 256) : x ^^^ y < 256 :=
  Nat.xor_lt_two_pow (n := 8) hx hy

theorem xtimeN_lt : ∀ b, b < 256 → Spec.xtimeN b < 256 := forall_lt_of_all (by decide +kernel)

def gstep (b : Nat) (acc : Nat × Nat) (i : Nat) : Nat × Nat :=
  (if b.testBit i then acc.1 ^^^ acc.2 else acc.1, Spec.xtimeN acc.2)

theorem gmulN_eq (a b : Nat) : Spec.gmulN a b = ((List.range 8).foldl (gstep b) (0, a)).1 := rfl

/-- the second factor is only read bit by bit, so it need not be a field element -/
theorem gmulN_lt (a b : Nat) (ha : a < 256) : Spec.gmulN a b < 256 := by
  have inv : ∀ (l : List Nat) (acc : Nat × Nat), acc.1 < 256 → acc.2 < 256 → (l.foldl (gstep b) acc).1 < 256 := by
    intro l
    induction l with
    | nil => intro acc h _; exact h
    | cons i is ih =>
      intro acc h1 h2
      refine ih _ ?_ (xtimeN_lt _ h2)
      dsimp only [gstep]
      split
      · exact xor_lt256 _ _ h1 h2
      · exact h1
  exact inv _ (0, a) (Nat.zero_lt_succ _) ha

theorem ginvN_lt (a : Nat) (ha : a < 256) : Spec.ginvN a < 256 := by
  unfold Spec.ginvN
  exact gmulN_lt _ _ (gmulN_lt _ _ (gmulN_lt _ _ (gmulN_lt _ _ (gmulN_lt _ _ (gmulN_lt _ _ (gmulN_lt _ _
    (gmulN_lt _ _ ha)))))))

theorem rotl8N_lt (x n : Nat) : Spec.rotl8N x n < 256 := Nat.lt_of_le_of_lt Nat.and_le_right (by decide)

theorem sboxN_lt (x : Nat) (hx : x < 256) : Spec.sboxN x < 256 :=
  xor_lt256 _ _ (xor_lt256 _ _ (xor_lt256 _ _ (xor_lt256 _ _ (xor_lt256 _ _ (ginvN_lt x hx) (rotl8N_lt _ _))
    (rotl8N_lt _ _)) (rotl8N_lt _ _)) (rotl8N_lt _ _)) (by decide)

/-- the inverse of the affine map of the S-box (the first step of `invSboxN`) -/
def affInvN (a : Nat) : Nat := Spec.rotl8N a 1 ^^^ Spec.rotl8N a 3 ^^^ Spec.rotl8N a 6 ^^^ 0x05

theorem affInvN_lt (a : Nat) : affInvN a < 256 :=
  xor_lt256 _ _ (xor_lt256 _ _ (xor_lt256 _ _ (rotl8N_lt _ _) (rotl8N_lt _ _)) (rotl8N_lt _ _)) (by decide)

theorem invSboxN_lt (x : Nat) : Spec.invSboxN x < 256 := ginvN_lt _ (affInvN_lt x)

theorem gmul_toNat (c x : UInt8) : (Spec.gmul c x).toNat = Spec.gmulN c.toNat x.toNat := by
  simp only [Spec.gmul, UInt8.toNat_ofNat']
  exact Nat.mod_eq_of_lt (gmulN_lt _ _ c.toNat_lt)

theorem sbox_toNat (x : UInt8) : (Spec.sbox x).toNat = Spec.sboxN x.toNat := by
  simp only [Spec.sbox, UInt8.toNat_ofNat']
  exact Nat.mod_eq_of_lt (sboxN_lt _ x.toNat_lt)

theorem invSbox_toNat (x : UInt8) : (Spec.invSbox x).toNat = Spec.invSboxN x.toNat := by
  simp only [Spec.invSbox, UInt8.toNat_ofNat']
  exact Nat.mod_eq_of_lt (invSboxN_lt _)

theorem gfold_xor (x y : Nat) : ∀ (l : List Nat) (ax ay p : Nat),
    (l.foldl (gstep (x ^^^ y)) (ax ^^^ ay, p)).1 = (l.foldl (gstep x) (ax, p)).1 ^^^ (l.foldl (gstep y) (ay, p)).1 ∧
    (l.foldl (gstep (x ^^^ y)) (ax ^^^ ay, p)).2 = (l.foldl (gstep x) (ax, p)).2 ∧
    (l.foldl (gstep y) (ay, p)).2 = (l.foldl (gstep x) (ax, p)).2 := by
  intro l
  induction l with
  | nil => intro ax ay p; exact ⟨rfl, rfl, rfl⟩
  | cons i is ih =>
    intro ax ay p
    simp only [List.foldl_cons, gstep, Nat.testBit_xor]
    cases hx : x.testBit i <;> cases hy : y.testBit i <;> simp only [Bool.xor_false, Bool.xor_true, Bool.not_false,
      Bool.not_true, if_true, if_false, Bool.false_eq_true]
    · exact ih ax ay _
    · have e : ax ^^^ ay ^^^ p = ax ^^^ (ay ^^^ p) := Nat.xor_assoc _ _ _
      rw [e]; exact ih ax (ay ^^^ p) _
    · have e : ax ^^^ ay ^^^ p = (ax ^^^ p) ^^^ ay := by
        rw [Nat.xor_assoc, Nat.xor_comm ay p, ← Nat.xor_assoc]
      rw [e]; exact ih (ax ^^^ p) ay _
    · have e : ax ^^^ ay = (ax ^^^ p) ^^^ (ay ^^^ p) := by
        rw [Nat.xor_assoc, Nat.xor_comm p (ay ^^^ p), Nat.xor_assoc ay, Nat.xor_self, Nat.xor_zero]
      rw [e]; exact ih (ax ^^^ p) (ay ^^^ p) _

theorem gmulN_xor (c x y : Nat) : Spec.gmulN c (x ^^^ y) = Spec.gmulN c x ^^^ Spec.gmulN c y := by
  rw [gmulN_eq, gmulN_eq, gmulN_eq]
  have := (gfold_xor x y (List.range 8) 0 0 c).1
  rw [Nat.xor_self] at this
  exact this

theorem gmul_xor (c x y : UInt8) : Spec.gmul c (x ^^^ y) = Spec.gmul c x ^^^ Spec.gmul c y := by
  simp only [Spec.gmul, UInt8.toNat_xor, gmulN_xor, UInt8.ofNat_xor]

theorem two_pow_xor (n y : Nat) (hy : y < 2 ^ n) : 2 ^ n ^^^ y = 2 ^ n + y := by
  have hm := @Nat.xor_mod_two_pow (2 ^ n) y n
  have hd := @Nat.xor_div_two_pow (2 ^ n) y n
  rw [Nat.mod_self, Nat.zero_xor, Nat.mod_eq_of_lt hy] at hm
  rw [Nat.div_self (Nat.two_pow_pos n), Nat.div_eq_of_lt hy, Nat.xor_zero] at hd
  have := Nat.div_add_mod (2 ^ n ^^^ y) (2 ^ n)
  rw [hm, hd, Nat.mul_one] at this
  exact this.symm

theorem xor_linear_ext (N : Nat) (f g : Nat → Nat)
    (hf : ∀ x y, x < 2 ^ N → y < 2 ^ N → f (x ^^^ y) = f x ^^^ f y)
    (hg : ∀ x y, x < 2 ^ N → y < 2 ^ N → g (x ^^^ y) = g x ^^^ g y)
    (h : ∀ i, i < N → f (2 ^ i) = g (2 ^ i)) : ∀ x, x < 2 ^ N → f x = g x := by
  have main : ∀ n, n ≤ N → ∀ x, x < 2 ^ n → f x = g x := by
    intro n
    induction n with
    | zero =>
      intro _ x hx
      obtain rfl : x = 0 := Nat.lt_one_iff.mp hx
      have f0 := hf 0 0 (Nat.two_pow_pos N) (Nat.two_pow_pos N)
      have g0 := hg 0 0 (Nat.two_pow_pos N) (Nat.two_pow_pos N)
      rw [Nat.xor_self, Nat.xor_self] at f0 g0
      rw [f0, g0]
    | succ n ih =>
      intro hn x hx
      have ih' := ih (Nat.le_of_succ_le hn)
      by_cases hlt : x < 2 ^ n
      · exact ih' x hlt
      · rw [Nat.pow_succ, Nat.mul_two] at hx
        have b1 : 2 ^ n < 2 ^ N := Nat.pow_lt_pow_right (by decide) hn
        have b2 : x - 2 ^ n < 2 ^ n := Nat.sub_lt_left_of_lt_add (Nat.le_of_not_lt hlt) hx
        have e : x = 2 ^ n ^^^ (x - 2 ^ n) := by
          rw [two_pow_xor _ _ b2]; exact (Nat.add_sub_cancel' (Nat.le_of_not_lt hlt)).symm
        rw [e, hf _ _ b1 (Nat.lt_trans b2 b1), hg _ _ b1 (Nat.lt_trans b2 b1), h n hn, ih' _ b2]
  exact main N (Nat.le_refl N)

theorem xor4 (a b c d : Nat) : (a ^^^ b) ^^^ (c ^^^ d) = (a ^^^ c) ^^^ (b ^^^ d) := by
  rw [Nat.xor_assoc, ← Nat.xor_assoc b, Nat.xor_comm b c, Nat.xor_assoc c, ← Nat.xor_assoc a]

/-- on bytes `xtime` is a shift and a mask, plus 0x1b when the top bit is set: each part is additive over xor -/
theorem xtimeN_split : ∀ b, b < 256 →
    Spec.xtimeN b = ((b <<< 1) &&& 0xff) ^^^ (if b.testBit 7 then 0x1b else 0) :=
  forall_lt_of_all (by decide +kernel)

theorem xtimeN_xor (x y : Nat) (hx : x < 256) (hy : y < 256) :
    Spec.xtimeN (x ^^^ y) = Spec.xtimeN x ^^^ Spec.xtimeN y := by
  have hk : ∀ a b : Bool, (if (a ^^ b) = true then 0x1b else 0) =
      (if a = true then 0x1b else 0) ^^^ (if b = true then 0x1b else 0 : Nat) := by decide
  rw [xtimeN_split _ (xor_lt256 x y hx hy), xtimeN_split x hx, xtimeN_split y hy, Nat.shiftLeft_xor_distrib,
    Nat.and_xor_distrib_right, Nat.testBit_xor, hk, xor4]

/-- the first factor goes through `xtime` only, so on bytes multiplication is additive in it as well -/
theorem gmulN_xor_left (x y b : Nat) (hx : x < 256) (hy : y < 256) :
    Spec.gmulN (x ^^^ y) b = Spec.gmulN x b ^^^ Spec.gmulN y b := by
  have fold : ∀ (l : List Nat) (ax ay p q : Nat), p < 256 → q < 256 →
      (l.foldl (gstep b) (ax ^^^ ay, p ^^^ q)).1 = (l.foldl (gstep b) (ax, p)).1 ^^^ (l.foldl (gstep b) (ay, q)).1 := by
    intro l
    induction l with
    | nil => intro ax ay p q _ _; rfl
    | cons i is ih =>
      intro ax ay p q hp hq
      simp only [List.foldl_cons, gstep]
      rw [xtimeN_xor p q hp hq]
      cases b.testBit i <;> simp only [if_true, if_false, Bool.false_eq_true]
      · exact ih ax ay _ _ (xtimeN_lt p hp) (xtimeN_lt q hq)
      · rw [xor4]; exact ih _ _ _ _ (xtimeN_lt p hp) (xtimeN_lt q hq)
  have := fold (List.range 8) 0 0 x y hx hy
  rw [Nat.xor_self] at this
  rw [gmulN_eq, gmulN_eq, gmulN_eq]
  exact this

/-- both sides are additive in each factor, so the 64 pairs of powers of two decide -/
theorem gmulN_comm (x y : Nat) (hx : x < 256) (hy : y < 256) : Spec.gmulN x y = Spec.gmulN y x := by
  have pows : ∀ i, i < 8 → ∀ j, j < 8 → Spec.gmulN (2 ^ i) (2 ^ j) = Spec.gmulN (2 ^ j) (2 ^ i) := by
    decide +kernel
  have row : ∀ i, i < 8 → Spec.gmulN (2 ^ i) y = Spec.gmulN y (2 ^ i) := fun i hi =>
    xor_linear_ext 8 (Spec.gmulN (2 ^ i)) (fun y => Spec.gmulN y (2 ^ i)) (fun a b _ _ => gmulN_xor _ a b)
      (fun a b ha hb => gmulN_xor_left a b _ ha hb) (pows i hi) y hy
  exact xor_linear_ext 8 (fun x => Spec.gmulN x y) (Spec.gmulN y) (fun a b ha hb => gmulN_xor_left a b y ha hb)
    (fun a b _ _ => gmulN_xor y a b) row x hx

theorem gmulN_xtime (x p : Nat) (hx : x < 256) (hp : p < 256) :
    Spec.gmulN x (Spec.xtimeN p) = Spec.xtimeN (Spec.gmulN x p) := by
  -- in the first factor `xtime` commutes with every step of the loop; commutativity brings it there
  have fold : ∀ (l : List Nat) (a p : Nat), a < 256 → p < 256 →
      (l.foldl (gstep x) (Spec.xtimeN a, Spec.xtimeN p)).1 = Spec.xtimeN (l.foldl (gstep x) (a, p)).1 := by
    intro l
    induction l with
    | nil => intro a p _ _; rfl
    | cons i is ih =>
      intro a p ha hp
      simp only [List.foldl_cons, gstep]
      cases x.testBit i <;> simp only [if_true, if_false, Bool.false_eq_true]
      · exact ih a _ ha (xtimeN_lt p hp)
      · rw [← xtimeN_xor a p ha hp]; exact ih _ _ (xor_lt256 a p ha hp) (xtimeN_lt p hp)
  have h := fold (List.range 8) 0 p (by decide) hp
  rw [show Spec.xtimeN 0 = 0 by decide] at h
  rw [gmulN_comm x _ hx (xtimeN_lt p hp), gmulN_comm x p hx hp]
  exact h

theorem gmulN_zero (x : Nat) : Spec.gmulN x 0 = 0 := by
  have := gmulN_xor x 0 0
  rw [Nat.xor_self, Nat.xor_self] at this
  exact this

theorem gmulN_assoc (x y z : Nat) (hx : x < 256) (hy : y < 256) :
    Spec.gmulN (Spec.gmulN x y) z = Spec.gmulN x (Spec.gmulN y z) := by
  -- `gmulN x` goes through the shift-and-add loop of `gmulN y z`: through the sum by `gmulN_xor`, through the shift by `gmulN_xtime`
  have fold : ∀ (l : List Nat) (a p : Nat), p < 256 →
      Spec.gmulN x (l.foldl (gstep z) (a, p)).1 = (l.foldl (gstep z) (Spec.gmulN x a, Spec.gmulN x p)).1 := by
    intro l
    induction l with
    | nil => intro a p _; rfl
    | cons i is ih =>
      intro a p hp
      simp only [List.foldl_cons, gstep]
      rw [← gmulN_xtime x p hx hp]
      cases z.testBit i <;> simp only [if_true, if_false, Bool.false_eq_true]
      · exact ih a _ (xtimeN_lt p hp)
      · rw [← gmulN_xor]; exact ih _ _ (xtimeN_lt p hp)
  rw [gmulN_eq y z, fold _ 0 y hy, gmulN_zero, ← gmulN_eq]

theorem gmulN_one (a : Nat) : Spec.gmulN a 1 = a := by
  simp [gmulN_eq, gstep, List.range, List.range.loop, Nat.testBit]

theorem one_gmulN (a : Nat) (ha : a < 256) : Spec.gmulN 1 a = a := by
  rw [gmulN_comm 1 a (by decide) ha, gmulN_one]

def sqn : Nat → Nat → Nat
  | 0, x => x
  | n+1, x => Spec.gmulN (sqn n x) (sqn n x)

/-- squaring is additive on bytes: the two cross terms are equal and cancel -/
theorem sqn_xor (n : Nat) : ∀ x y, x < 256 → y < 256 → sqn n x < 256 ∧ sqn n (x ^^^ y) = sqn n x ^^^ sqn n y := by
  induction n with
  | zero => intro x y hx _; exact ⟨hx, rfl⟩
  | succ n ih =>
    intro x y hx hy
    obtain ⟨bx, e⟩ := ih x y hx hy
    have by' := (ih y x hy hx).1
    refine ⟨gmulN_lt _ _ bx, ?_⟩
    rw [sqn, e, gmulN_xor, gmulN_xor_left _ _ _ bx by', gmulN_xor_left _ _ _ bx by', gmulN_comm _ _ by' bx,
      Nat.xor_assoc, ← Nat.xor_assoc (Spec.gmulN (sqn n x) (sqn n y)), Nat.xor_self, Nat.zero_xor]
    rfl

/-- `x^256 = x`: both sides are additive, so eight bytes decide -/
theorem sqn_eight (a : Nat) (ha : a < 256) : sqn 8 a = a :=
  xor_linear_ext 8 (sqn 8) id (fun x y hx hy => (sqn_xor 8 x y hx hy).2) (fun _ _ _ _ => rfl) (by decide +kernel) a ha

/-- `x^254 * x * x = x`: push the last factor into the chain of squares, which collapses -/
theorem inv_chain (x a2 a4 a8 a16 a32 a64 a128 : Nat) (hx : x < 256) (h2 : Spec.gmulN x x = a2)
    (h4 : Spec.gmulN a2 a2 = a4) (h8 : Spec.gmulN a4 a4 = a8) (h16 : Spec.gmulN a8 a8 = a16)
    (h32 : Spec.gmulN a16 a16 = a32) (h64 : Spec.gmulN a32 a32 = a64) (h128 : Spec.gmulN a64 a64 = a128)
    (h256 : Spec.gmulN a128 a128 = x) :
    Spec.gmulN (Spec.gmulN (Spec.gmulN a128 (Spec.gmulN a64 (Spec.gmulN a32 (Spec.gmulN a16 (Spec.gmulN a8
      (Spec.gmulN a4 a2)))))) x) x = x := by
  have b2 : a2 < 256 := h2 ▸ gmulN_lt _ _ hx
  have b4 : a4 < 256 := h4 ▸ gmulN_lt _ _ b2
  have b8 : a8 < 256 := h8 ▸ gmulN_lt _ _ b4
  have b16 : a16 < 256 := h16 ▸ gmulN_lt _ _ b8
  have b32 : a32 < 256 := h32 ▸ gmulN_lt _ _ b16
  have b64 : a64 < 256 := h64 ▸ gmulN_lt _ _ b32
  have b128 : a128 < 256 := h128 ▸ gmulN_lt _ _ b64
  rw [gmulN_assoc _ x x (gmulN_lt _ _ b128) hx, h2,
    gmulN_assoc a128 _ a2 b128 (gmulN_lt _ _ b64), gmulN_assoc a64 _ a2 b64 (gmulN_lt _ _ b32),
    gmulN_assoc a32 _ a2 b32 (gmulN_lt _ _ b16), gmulN_assoc a16 _ a2 b16 (gmulN_lt _ _ b8),
    gmulN_assoc a8 _ a2 b8 (gmulN_lt _ _ b4), gmulN_assoc a4 a2 a2 b4 b2,
    h4, h8, h16, h32, h64, h128, h256]

theorem ginvN_unique (x y : Nat) (hx : x < 256) (hy : y < 256) (h : Spec.gmulN x y = 1) : Spec.ginvN x = y := by
  have hg := ginvN_lt x hx
  have hP : Spec.gmulN (Spec.gmulN (Spec.ginvN x) x) x = x :=
    inv_chain x _ _ _ _ _ _ _ hx rfl rfl rfl rfl rfl rfl rfl (sqn_eight x hx)
  have hP1 : Spec.gmulN (Spec.ginvN x) x = 1 := calc
    _ = Spec.gmulN (Spec.gmulN (Spec.ginvN x) x) (Spec.gmulN x y) := by rw [h, gmulN_one]
    _ = Spec.gmulN (Spec.gmulN (Spec.gmulN (Spec.ginvN x) x) x) y :=
      (gmulN_assoc _ x y (gmulN_lt _ _ hg) hx).symm
    _ = 1 := by rw [hP, h]
  calc Spec.ginvN x = Spec.gmulN (Spec.ginvN x) (Spec.gmulN x y) := by rw [h, gmulN_one]
    _ = Spec.gmulN (Spec.gmulN (Spec.ginvN x) x) y := (gmulN_assoc _ x y hg hx).symm
    _ = y := by rw [hP1, one_gmulN y hy]

/-- xor-linear in the byte, so the eight powers of two decide (likewise `mix_off1..3`) -/
theorem mix_diag (x : UInt8) :
    Spec.gmul 14 (Spec.gmul 2 x) ^^^ Spec.gmul 11 x ^^^ Spec.gmul 13 x ^^^ Spec.gmul 9 (Spec.gmul 3 x) = x := by
  apply UInt8.toNat_inj.mp
  simp only [UInt8.toNat_xor, gmul_toNat, UInt8.toNat_ofNat]
  exact xor_linear_ext 8 (fun x => Spec.gmulN 14 (Spec.gmulN 2 x) ^^^ Spec.gmulN 11 x ^^^ Spec.gmulN 13 x ^^^
    Spec.gmulN 9 (Spec.gmulN 3 x)) id (by intro x y _ _; simp only [gmulN_xor]; ac_rfl) (fun _ _ _ _ => rfl)
    (by decide +kernel) _ x.toNat_lt

theorem mix_off1 (x : UInt8) :
    Spec.gmul 14 (Spec.gmul 3 x) ^^^ Spec.gmul 11 (Spec.gmul 2 x) ^^^ Spec.gmul 13 x ^^^ Spec.gmul 9 x = 0 := by
  apply UInt8.toNat_inj.mp
  simp only [UInt8.toNat_xor, gmul_toNat, UInt8.toNat_ofNat]
  exact xor_linear_ext 8 (fun x => Spec.gmulN 14 (Spec.gmulN 3 x) ^^^ Spec.gmulN 11 (Spec.gmulN 2 x) ^^^ Spec.gmulN 13 x ^^^
    Spec.gmulN 9 x) (fun _ => 0) (by intro x y _ _; simp only [gmulN_xor]; ac_rfl) (fun _ _ _ _ => rfl)
    (by decide +kernel) _ x.toNat_lt

theorem mix_off2 (x : UInt8) :
    Spec.gmul 14 x ^^^ Spec.gmul 11 (Spec.gmul 3 x) ^^^ Spec.gmul 13 (Spec.gmul 2 x) ^^^ Spec.gmul 9 x = 0 := by
  apply UInt8.toNat_inj.mp
  simp only [UInt8.toNat_xor, gmul_toNat, UInt8.toNat_ofNat]
  exact xor_linear_ext 8 (fun x => Spec.gmulN 14 x ^^^ Spec.gmulN 11 (Spec.gmulN 3 x) ^^^ Spec.gmulN 13 (Spec.gmulN 2 x) ^^^
    Spec.gmulN 9 x) (fun _ => 0) (by intro x y _ _; simp only [gmulN_xor]; ac_rfl) (fun _ _ _ _ => rfl)
    (by decide +kernel) _ x.toNat_lt

theorem mix_off3 (x : UInt8) :
    Spec.gmul 14 x ^^^ Spec.gmul 11 x ^^^ Spec.gmul 13 (Spec.gmul 3 x) ^^^ Spec.gmul 9 (Spec.gmul 2 x) = 0 := by
  apply UInt8.toNat_inj.mp
  simp only [UInt8.toNat_xor, gmul_toNat, UInt8.toNat_ofNat]
  exact xor_linear_ext 8 (fun x => Spec.gmulN 14 x ^^^ Spec.gmulN 11 x ^^^ Spec.gmulN 13 (Spec.gmulN 3 x) ^^^
    Spec.gmulN 9 (Spec.gmulN 2 x)) (fun _ => 0) (by intro x y _ _; simp only [gmulN_xor]; ac_rfl) (fun _ _ _ _ => rfl)
    (by decide +kernel) _ x.toNat_lt

end Tls.Crypto.Aes
