import TlsProofs.Crypto.AesInvEq
import TlsProofs.Crypto.AesTables
/-
  C09 — InvCipher inverts Cipher (FIPS-197), for any round keys: every layer is inverted by its counterpart.
  A statement about the specification; that InvSubBytes undoes SubBytes is read off the generated tables
  (`invSbox_sbox`, from `Si_table`: `Si` is the inverse permutation of `S`, and both are the specification's boxes),
  which is why this module stands on AesTables. `decrypt(encrypt(block)) = block` for the model is
  `aes_decrypt_encrypt` in Props/C09.lean.
-/
namespace Tls.Crypto.Aes
open Tls Tls.Crypto

def mixCol : List UInt8 → List UInt8
  | [a, b, c, d] =>
    [Spec.gmul 2 a ^^^ Spec.gmul 3 b ^^^ c ^^^ d, a ^^^ Spec.gmul 2 b ^^^ Spec.gmul 3 c ^^^ d,
     a ^^^ b ^^^ Spec.gmul 2 c ^^^ Spec.gmul 3 d, Spec.gmul 3 a ^^^ b ^^^ c ^^^ Spec.gmul 2 d]
  | x => x

/-- row 0 of InvMixColumns applied to a MixColumns column, written so that the other three rows are the same
    statement with the bytes rotated -/
theorem inv_mix_entry (a b c d : UInt8) :
    Spec.gmul 14 (Spec.gmul 2 a ^^^ Spec.gmul 3 b ^^^ c ^^^ d) ^^^ Spec.gmul 11 (Spec.gmul 2 b ^^^ Spec.gmul 3 c ^^^ d ^^^ a) ^^^
      Spec.gmul 13 (Spec.gmul 2 c ^^^ Spec.gmul 3 d ^^^ a ^^^ b) ^^^ Spec.gmul 9 (Spec.gmul 2 d ^^^ Spec.gmul 3 a ^^^ b ^^^ c) = a :=
  calc _ = (Spec.gmul 14 (Spec.gmul 2 a) ^^^ Spec.gmul 11 a ^^^ Spec.gmul 13 a ^^^ Spec.gmul 9 (Spec.gmul 3 a)) ^^^
        (Spec.gmul 14 (Spec.gmul 3 b) ^^^ Spec.gmul 11 (Spec.gmul 2 b) ^^^ Spec.gmul 13 b ^^^ Spec.gmul 9 b) ^^^
        (Spec.gmul 14 c ^^^ Spec.gmul 11 (Spec.gmul 3 c) ^^^ Spec.gmul 13 (Spec.gmul 2 c) ^^^ Spec.gmul 9 c) ^^^
        (Spec.gmul 14 d ^^^ Spec.gmul 11 d ^^^ Spec.gmul 13 (Spec.gmul 3 d) ^^^ Spec.gmul 9 (Spec.gmul 2 d)) := by
        simp only [gmul_xor]; ac_rfl
    _ = a := by rw [mix_diag, mix_off1, mix_off2, mix_off3]; simp

theorem invCol_mixCol (a b c d : UInt8) : invCol (mixCol [a, b, c, d]) = [a, b, c, d] := by
  simp only [mixCol, invCol, List.cons.injEq, and_true]
  exact ⟨(by ac_rfl : _ = _).trans (inv_mix_entry a b c d), (by ac_rfl : _ = _).trans (inv_mix_entry b c d a),
    (by ac_rfl : _ = _).trans (inv_mix_entry c d a b), (by ac_rfl : _ = _).trans (inv_mix_entry d a b c)⟩

theorem mixColumns_cols (s0 s1 s2 s3 s4 s5 s6 s7 s8 s9 s10 s11 s12 s13 s14 s15 : UInt8) :
    Spec.mixColumns [s0, s1, s2, s3, s4, s5, s6, s7, s8, s9, s10, s11, s12, s13, s14, s15] =
      mixCol [s0, s1, s2, s3] ++ mixCol [s4, s5, s6, s7] ++ mixCol [s8, s9, s10, s11] ++ mixCol [s12, s13, s14, s15] := by
  simp [Spec.mixColumns, Spec.at_, mixCol, List.range_succ]

theorem invMix_mix (s : Spec.State) (hs : s.length = 16) : Spec.invMixColumns (Spec.mixColumns s) = s := by
  obtain ⟨s0, s1, s2, s3, s4, s5, s6, s7, s8, s9, s10, s11, s12, s13, s14, s15, rfl⟩ := exists16 s hs
  rw [mixColumns_cols]
  have hl : ∀ a b c d : UInt8, (mixCol [a, b, c, d]).length = 4 := fun _ _ _ _ => rfl
  have := invCol_flatten (mixCol [s0, s1, s2, s3]) (mixCol [s4, s5, s6, s7]) (mixCol [s8, s9, s10, s11])
    (mixCol [s12, s13, s14, s15]) (hl _ _ _ _) (hl _ _ _ _) (hl _ _ _ _) (hl _ _ _ _)
  simp only [List.flatten_cons, List.flatten_nil, List.append_nil, List.map_cons, List.map_nil, invCol_mixCol] at this
  simp only [List.append_assoc]
  rw [← this]
  rfl

theorem invShift_shift (s : Spec.State) (hs : s.length = 16) : Spec.invShiftRows (Spec.shiftRows s) = s := by
  obtain ⟨s0, s1, s2, s3, s4, s5, s6, s7, s8, s9, s10, s11, s12, s13, s14, s15, rfl⟩ := exists16 s hs
  rfl

-- read off the evaluated `Si_table`; in the field it would need `ginvN` to be an involution
theorem invSbox_sbox (x : UInt8) : Spec.invSbox (Spec.sbox x) = x := by
  have e : (Gen.S.toList.map (fun s => Gen.Si.toList.getD s 256))[x.toNat]? = some x.toNat := by
    rw [Si_table.1, List.getElem?_range x.toNat_lt]
  rw [List.getElem?_map, S_getElem, Option.map_some, List.getD_eq_getElem?_getD, Si_getElem, Option.getD_some,
    Option.some.injEq] at e
  exact UInt8.toNat_inj.mp e

theorem invSub_sub (s : Spec.State) : Spec.invSubBytes (Spec.subBytes s) = s := by
  simp only [Spec.invSubBytes, Spec.subBytes, List.map_map]
  have : (Spec.invSbox ∘ Spec.sbox) = id := by funext x; exact invSbox_sbox x
  rw [this, List.map_id]

theorem sub_length (s : Spec.State) : (Spec.subBytes s).length = s.length := by simp [Spec.subBytes]
theorem shift_length (s : Spec.State) : (Spec.shiftRows s).length = 16 := by simp [Spec.shiftRows]
theorem mix_length (s : Spec.State) : (Spec.mixColumns s).length = 16 := by simp [Spec.mixColumns, List.range_succ]

theorem addRK_cancel (s k : Spec.State) (hs : s.length = 16) (hk : k.length = 16) :
    Spec.addRoundKey (Spec.addRoundKey s k) k = s := by
  simp only [Spec.addRoundKey]; exact xorBytes_cancel s k (by omega)

theorem inv_rounds (fk : Nat → Spec.State) : ∀ (m : Nat) (bk : Nat → Spec.State) (s : Spec.State), s.length = 16 →
    (∀ r, 1 ≤ r → r ≤ m → (fk r).length = 16 ∧ bk r = fk (m + 1 - r)) →
    ((List.range' 1 m).foldl (fun s r => Spec.addRoundKey (Spec.mixColumns (Spec.shiftRows (Spec.subBytes s))) (fk r)) s).length = 16 ∧
    (List.range' 1 m).foldl (fun t k => Spec.invMixColumns (Spec.addRoundKey (Spec.invSubBytes (Spec.invShiftRows t)) (bk k)))
      (Spec.shiftRows (Spec.subBytes ((List.range' 1 m).foldl
        (fun s r => Spec.addRoundKey (Spec.mixColumns (Spec.shiftRows (Spec.subBytes s))) (fk r)) s))) =
        Spec.shiftRows (Spec.subBytes s) := by
  intro m
  induction m with
  | zero => intro bk s hs _; exact ⟨hs, rfl⟩
  | succ m ih =>
    intro bk s hs h
    obtain ⟨hl, hb⟩ := ih (fun k => bk (k + 1)) s hs fun r h1 hm =>
      ⟨(h r h1 (by omega)).1, by rw [(h (r + 1) (by omega) (by omega)).2]; congr 1; omega⟩
    have hk := (h (m + 1) (by omega) (Nat.le_refl _)).1
    -- the last round of the Cipher is the first the InvCipher undoes
    generalize hF : (List.range' 1 (m + 1)).foldl _ s = X
    rw [List.range'_concat, List.foldl_append, Nat.one_mul, Nat.add_comm 1 m] at hF
    subst hF
    rw [List.foldl_cons, List.foldl_nil, List.range'_succ, List.foldl_cons, (h 1 (Nat.le_refl _) (by omega)).2, Nat.add_sub_cancel,
      invShift_shift _ (by rw [sub_length]; exact addRK_length _ _ (mix_length _) hk), invSub_sub,
      addRK_cancel _ _ (mix_length _) hk, invMix_mix _ (shift_length _), List.range'_succ_left (s := 1), List.foldl_map]
    exact ⟨addRK_length _ _ (mix_length _) hk, hb⟩

theorem invCipherRK_cipherRK (rk : Nat → Spec.State) (nr : Nat) (hnr : 1 ≤ nr) (hrk : ∀ r, r ≤ nr → (rk r).length = 16)
    (inp : Bytes) (hi : inp.length = 16) :
    Spec.invCipherRK rk nr (Spec.cipherRK rk nr inp) = inp := by
  obtain ⟨m, rfl⟩ : ∃ m, nr = m + 1 := ⟨nr - 1, by omega⟩
  have h0 := hrk 0 (by omega)
  have hs0 : (Spec.addRoundKey inp (rk 0)).length = 16 := addRK_length _ _ hi h0
  obtain ⟨_, hb⟩ := inv_rounds rk m (fun k => rk (m + 1 - k)) _ hs0 fun r _ _ => ⟨hrk r (by omega), rfl⟩
  unfold Spec.invCipherRK Spec.cipherRK
  simp only [Nat.add_sub_cancel]
  rw [addRK_cancel _ _ (shift_length _) (hrk _ (Nat.le_refl _)), hb, invShift_shift _ (by rw [sub_length]; exact hs0), invSub_sub,
    addRK_cancel _ _ hi h0]
end Tls.Crypto.Aes
