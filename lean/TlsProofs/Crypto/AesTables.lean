import TlsProofs.Crypto.AesField
import TlsProofs.Crypto.AesWord
/-
  C09 — the GENERATED tables of rijndael.py against FIPS-197, each over the whole table (`decide` in the kernel;
  re-checked whenever the source changes), `rcon` over the 14 entries a key schedule can reach. For `S` the kernel checks that each entry, with the affine map undone,
  times its index is 1, and `ginvN_unique` does the rest.
-/
namespace Tls.Crypto.Aes
open Tls Tls.Crypto

theorem S_bound : ∀ s ∈ Gen.S.toList, s < 256 := by decide +kernel
theorem Si_bound : ∀ s ∈ Gen.Si.toList, s < 256 := by decide +kernel
theorem S_length : Gen.S.toList.length = 256 := by decide +kernel
theorem Si_length : Gen.Si.toList.length = 256 := by decide +kernel

/-- A table of bytes as one number. The kernel walks a list to reach entry `i` but divides big numbers in
    one step, so the statements below that look up all 256 positions are evaluated on `pack` and carried
    over by `pack_lookup`. -/
def pack : List Nat → Nat
  | [] => 0
  | x :: xs => x + 256 * pack xs

theorem pack_lookup (l : List Nat) (h : ∀ x ∈ l, x < 256) (i d : Nat) (hi : i < l.length) :
    pack l / 256 ^ i % 256 = l.getD i d := by
  induction l generalizing i with
  | nil => simp at hi
  | cons x xs ih =>
    have hx := h x List.mem_cons_self
    cases i with
    | zero => simp only [pack, Nat.pow_zero, Nat.div_one, List.getD_cons_zero]; omega
    | succ i =>
      have e : (x + 256 * pack xs) / 256 ^ (i + 1) = pack xs / 256 ^ i := by
        rw [Nat.pow_succ', ← Nat.div_div_eq_div_mul]
        congr 1
        omega
      rw [pack, e, List.getD_cons_succ]
      exact ih (fun y hy => h y (List.mem_cons_of_mem _ hy)) i (by simpa using hi)

/-- `Si` is the inverse permutation of `S` (§5.3.2), in both directions -/
theorem Si_table : Gen.S.toList.map (fun s => Gen.Si.toList.getD s 256) = List.range 256 ∧
    Gen.Si.toList.map (fun s => Gen.S.toList.getD s 256) = List.range 256 := by
  have h : Gen.S.toList.map (fun s => pack Gen.Si.toList / 256 ^ s % 256) = List.range 256 ∧
      Gen.Si.toList.map (fun s => pack Gen.S.toList / 256 ^ s % 256) = List.range 256 := by decide +kernel
  refine ⟨?_, ?_⟩
  · rw [← h.1]
    exact List.map_congr_left fun s hs => (pack_lookup _ Si_bound s 256 (Si_length ▸ S_bound s hs)).symm
  · rw [← h.2]
    exact List.map_congr_left fun s hs => (pack_lookup _ S_bound s 256 (S_length ▸ Si_bound s hs)).symm

/-- the inverse the table `S` offers for `x`: its entry with the affine map undone -/
def sinv (x : Nat) : Nat := affInvN (pack Gen.S.toList / 256 ^ x % 256)

/-- every entry of `S` is the affine image of its candidate, and the candidate times `x` is 1: one multiplication
    per entry, where computing `x^254` takes thirteen -/
theorem S_check : ∀ x, x < 256 →
    (sinv x ^^^ Spec.rotl8N (sinv x) 1 ^^^ Spec.rotl8N (sinv x) 2 ^^^ Spec.rotl8N (sinv x) 3 ^^^
      Spec.rotl8N (sinv x) 4 ^^^ 0x63) = pack Gen.S.toList / 256 ^ x % 256 ∧
    (if x = 0 then sinv x = 0 else Spec.gmulN x (sinv x) = 1) :=
  forall_lt_of_all (by decide +kernel)

theorem ginvN_sinv (x : Nat) (hx : x < 256) : Spec.ginvN x = sinv x := by
  have h := (S_check x hx).2
  by_cases h0 : x = 0
  · rw [if_pos h0] at h
    rw [h, h0]; decide
  · rw [if_neg h0] at h
    exact ginvN_unique x _ hx (affInvN_lt _) h

theorem S_entry (x : Nat) (hx : x < 256) : Gen.S.toList.getD x 0 = Spec.sboxN x := by
  rw [← pack_lookup _ S_bound x 0 (S_length ▸ hx), ← (S_check x hx).1, ← ginvN_sinv x hx]
  rfl

/-- `S` is the S-box of FIPS-197 §5.1.1 -/
theorem S_table : Gen.S.toList = (List.range 256).map Spec.sboxN := by
  apply List.ext_getElem
  · rw [S_length, List.length_map, List.length_range]
  · intro i h1 _
    rw [List.getElem_map, List.getElem_range, ← S_entry i (S_length ▸ h1)]
    exact List.getElem_eq_getD 0

/-- `Si` is InvSubBytes of FIPS-197 §5.3.2 computed directly; the inverses are those `S_check` has verified -/
theorem Si_spec_table : Gen.Si.toList = (List.range 256).map Spec.invSboxN := by
  have h : Gen.Si.toList = (List.range 256).map fun a => sinv (affInvN a) := by decide +kernel
  rw [h]
  exact List.map_congr_left fun a _ => (ginvN_sinv _ (affInvN_lt a)).symm

/-- T1..T4: S-box followed by the MixColumns column (02 01 01 03)ᵀ and its rotations (§5.1.3) -/
theorem T_tables :
    Gen.T1.toList = Gen.S.toList.map (fun s => word (Spec.gmulN 2 s) s s (Spec.gmulN 3 s)) ∧
    Gen.T2.toList = Gen.S.toList.map (fun s => word (Spec.gmulN 3 s) (Spec.gmulN 2 s) s s) ∧
    Gen.T3.toList = Gen.S.toList.map (fun s => word s (Spec.gmulN 3 s) (Spec.gmulN 2 s) s) ∧
    Gen.T4.toList = Gen.S.toList.map (fun s => word s s (Spec.gmulN 3 s) (Spec.gmulN 2 s)) := by
  decide +kernel

/-- T5..T8: inverse S-box followed by the InvMixColumns column (0e 09 0d 0b)ᵀ and its rotations (§5.3.3) -/
theorem Tinv_tables :
    Gen.T5.toList = Gen.Si.toList.map (fun s => word (Spec.gmulN 14 s) (Spec.gmulN 9 s) (Spec.gmulN 13 s) (Spec.gmulN 11 s)) ∧
    Gen.T6.toList = Gen.Si.toList.map (fun s => word (Spec.gmulN 11 s) (Spec.gmulN 14 s) (Spec.gmulN 9 s) (Spec.gmulN 13 s)) ∧
    Gen.T7.toList = Gen.Si.toList.map (fun s => word (Spec.gmulN 13 s) (Spec.gmulN 11 s) (Spec.gmulN 14 s) (Spec.gmulN 9 s)) ∧
    Gen.T8.toList = Gen.Si.toList.map (fun s => word (Spec.gmulN 9 s) (Spec.gmulN 13 s) (Spec.gmulN 11 s) (Spec.gmulN 14 s)) := by
  decide +kernel

/-- U1..U4: the InvMixColumns columns applied to a plain byte (used on the decryption round keys) -/
theorem U_tables :
    Gen.U1.toList = (List.range 256).map (fun x => word (Spec.gmulN 14 x) (Spec.gmulN 9 x) (Spec.gmulN 13 x) (Spec.gmulN 11 x)) ∧
    Gen.U2.toList = (List.range 256).map (fun x => word (Spec.gmulN 11 x) (Spec.gmulN 14 x) (Spec.gmulN 9 x) (Spec.gmulN 13 x)) ∧
    Gen.U3.toList = (List.range 256).map (fun x => word (Spec.gmulN 13 x) (Spec.gmulN 11 x) (Spec.gmulN 14 x) (Spec.gmulN 9 x)) ∧
    Gen.U4.toList = (List.range 256).map (fun x => word (Spec.gmulN 9 x) (Spec.gmulN 13 x) (Spec.gmulN 11 x) (Spec.gmulN 14 x)) := by
  decide +kernel

/-- rcon[i] = x^i in GF(2^8) (§5.2) for i < 14. The key schedules read rcon[0..9] at most (10 passes for a 16-byte
    key, 8 for 24, 7 for 32: `passes` in AesKeyLoop.lean), so any bound from 10 on would do; 14 is the one taken here,
    and `rcon_lookup`, `expandLoop_sim` and `passes` carry it as their bound on the number of passes. The entries
    from 14 on of the source's 30 are not looked at. -/
theorem rcon_table : (Gen.rcon.toList.take 14) = (List.range 14).map (fun i => (List.range i).foldl (fun r _ => Spec.xtimeN r) 1) := by
  decide +kernel

theorem shifts_and_rounds : Gen.shiftsEnc = [1, 2, 3] ∧ Gen.shiftsDec = [3, 2, 1] ∧
    Gen.numRounds = [(16, 10), (24, 12), (32, 14)] := by decide

theorem aidx_of_toList (a : Array Nat) (i v : Nat) (h : a.toList[i]? = some v) : aidx a i = .ok v := by
  rw [Array.getElem?_toList] at h
  simp [aidx, h]

theorem aidx_map {α : Type} (a : Array Nat) (l : List α) (f : α → Nat) (h : a.toList = l.map f) (i : Nat) (v : α)
    (hv : l[i]? = some v) : aidx a i = .ok (f v) := by
  apply aidx_of_toList
  rw [h, List.getElem?_map, hv]; rfl

theorem S_getElem (x : UInt8) : Gen.S.toList[x.toNat]? = some (Spec.sbox x).toNat := by
  rw [S_table, List.getElem?_map, List.getElem?_range x.toNat_lt, sbox_toNat]; rfl

theorem Si_getElem (x : UInt8) : Gen.Si.toList[x.toNat]? = some (Spec.invSbox x).toNat := by
  rw [Si_spec_table, List.getElem?_map, List.getElem?_range x.toNat_lt, invSbox_toNat]; rfl

theorem S_lookup (x : UInt8) : aidx Gen.S x.toNat = .ok (Spec.sbox x).toNat := aidx_of_toList _ _ _ (S_getElem x)

theorem Si_lookup (x : UInt8) : aidx Gen.Si x.toNat = .ok (Spec.invSbox x).toNat := aidx_of_toList _ _ _ (Si_getElem x)

theorem U_lookup (x : UInt8) :
    aidx Gen.U1 x.toNat = .ok (wordB (Spec.gmul 14 x) (Spec.gmul 9 x) (Spec.gmul 13 x) (Spec.gmul 11 x)) ∧
    aidx Gen.U2 x.toNat = .ok (wordB (Spec.gmul 11 x) (Spec.gmul 14 x) (Spec.gmul 9 x) (Spec.gmul 13 x)) ∧
    aidx Gen.U3 x.toNat = .ok (wordB (Spec.gmul 13 x) (Spec.gmul 11 x) (Spec.gmul 14 x) (Spec.gmul 9 x)) ∧
    aidx Gen.U4 x.toNat = .ok (wordB (Spec.gmul 9 x) (Spec.gmul 13 x) (Spec.gmul 11 x) (Spec.gmul 14 x)) := by
  obtain ⟨h1, h2, h3, h4⟩ := U_tables
  have hx := List.getElem?_range x.toNat_lt
  simp only [wordB, gmul_toNat]
  exact ⟨aidx_map _ _ _ h1 _ _ hx, aidx_map _ _ _ h2 _ _ hx, aidx_map _ _ _ h3 _ _ hx, aidx_map _ _ _ h4 _ _ hx⟩

end Tls.Crypto.Aes
