import TlsModel.Crypto.Modes
import TlsProofs.Crypto.Stream
/-
  C09 — CBC (Python_AES and the Python_TripleDES wrapper) over an abstract block cipher:
  model = SP 800-38A, chaining value carried between calls, decrypt ∘ encrypt.
-/
namespace Tls.Crypto.Modes
open Tls Tls.Crypto

/-- the loop body of `Python_AES.encrypt` as a function of the block -/
def encStepB (E : Bytes → Bytes) (acc : Bytes × Bytes) (block : Bytes) : Except Err (Bytes × Bytes) := do
  let b ← xorN 16 block acc.1
  if (E b).length < 16 then .error .index else pure (E b, acc.2 ++ (E b).take 16)

def decStepB (D : Bytes → Bytes) (acc : Bytes × Bytes) (block : Bytes) : Except Err (Bytes × Bytes) := do
  let d ← xorN 16 (D block) acc.1
  pure (block, acc.2 ++ d.take 16)

theorem cbcEncrypt_blocks (E : Bytes → Bytes) (iv pt : Bytes) (h : pt.length % 16 = 0) :
    Model.cbcEncrypt E iv pt = (chunks 16 pt).foldlM (encStepB E) (iv, []) := by
  rw [Model.cbcEncrypt, if_neg (by simp [h]), ← slices_eq_chunks_dvd 16 (by decide) pt h, List.foldlM_map]
  rfl

theorem cbcDecrypt_blocks (D : Bytes → Bytes) (iv ct : Bytes) (h : ct.length % 16 = 0) :
    Model.cbcDecrypt D iv ct = (chunks 16 ct).foldlM (decStepB D) (iv, []) := by
  rw [Model.cbcDecrypt, if_neg (by simp [h]), ← slices_eq_chunks_dvd 16 (by decide) ct h, List.foldlM_map]
  rfl

theorem xorN_ok (n : Nat) (a b : Bytes) (ha : a.length = n) (hb : b.length = n) :
    xorN n a b = .ok (xorBytes a b) := by
  rw [xorN, if_neg (by omega), xorBytes_take_self n a b ha hb]

def lastOr (iv : Bytes) (l : List Bytes) : Bytes := (l.getLast?).getD iv

theorem lastOr_cons (iv x : Bytes) (xs : List Bytes) : lastOr iv (x :: xs) = lastOr x xs := by
  rw [lastOr, List.getLast?_cons]; rfl

theorem enc_blocks (E : Bytes → Bytes) (hE : ∀ b, b.length = 16 → (E b).length = 16) :
    ∀ (bl : List Bytes) (chain out : Bytes), (∀ b ∈ bl, b.length = 16) → chain.length = 16 →
      bl.foldlM (encStepB E) (chain, out) =
        .ok (lastOr chain (Spec.cbcEncBlocks E chain bl), out ++ (Spec.cbcEncBlocks E chain bl).flatten) := by
  intro bl
  induction bl with
  | nil => intro chain out _ _; simp [Spec.cbcEncBlocks, lastOr, pure, Except.pure]
  | cons p ps ih =>
    intro chain out hb hc
    have hp : p.length = 16 := hb p List.mem_cons_self
    have hx : (xorBytes p chain).length = 16 := by rw [xorBytes_length]; omega
    have hEl := hE _ hx
    rw [List.foldlM_cons, encStepB]
    simp only [xorN_ok 16 p chain hp hc, bind, Except.bind, hEl, Nat.lt_irrefl, if_false, pure, Except.pure]
    rw [List.take_of_length_le (by omega), ih _ _ (fun b h => hb b (List.mem_cons_of_mem _ h)) hEl]
    simp [Spec.cbcEncBlocks, lastOr_cons]

theorem dec_blocks (D : Bytes → Bytes) (hD : ∀ b, b.length = 16 → (D b).length = 16) :
    ∀ (bl : List Bytes) (chain out : Bytes), (∀ b ∈ bl, b.length = 16) → chain.length = 16 →
      bl.foldlM (decStepB D) (chain, out) =
        .ok (lastOr chain bl, out ++ (Spec.cbcDecBlocks D chain bl).flatten) := by
  intro bl
  induction bl with
  | nil => intro chain out _ _; simp [Spec.cbcDecBlocks, lastOr, pure, Except.pure]
  | cons c cs ih =>
    intro chain out hb hc
    have hp : c.length = 16 := hb c List.mem_cons_self
    have hDl := hD _ hp
    have hx : (xorBytes (D c) chain).length = 16 := by rw [xorBytes_length]; omega
    rw [List.foldlM_cons, decStepB]
    simp only [xorN_ok 16 (D c) chain hDl hc, bind, Except.bind, pure, Except.pure]
    rw [List.take_of_length_le (by omega), ih _ _ (fun b h => hb b (List.mem_cons_of_mem _ h)) hp]
    simp [Spec.cbcDecBlocks, lastOr_cons]

theorem encBlocks_length (n : Nat) (E : Bytes → Bytes) (hE : ∀ b, b.length = n → (E b).length = n) :
    ∀ (bl : List Bytes) (chain : Bytes), (∀ b ∈ bl, b.length = n) → chain.length = n →
      ∀ c ∈ Spec.cbcEncBlocks E chain bl, c.length = n := by
  intro bl
  induction bl with
  | nil => intro _ _ _ c hc; simp [Spec.cbcEncBlocks] at hc
  | cons p ps ih =>
    intro chain hb hc c hmem
    have hp : p.length = n := hb p List.mem_cons_self
    have hx : (xorBytes p chain).length = n := by rw [xorBytes_length]; omega
    simp only [Spec.cbcEncBlocks, List.mem_cons] at hmem
    rcases hmem with rfl | hmem
    · exact hE _ hx
    · exact ih _ (fun b h => hb b (List.mem_cons_of_mem _ h)) (hE _ hx) c hmem

theorem chunks_cbcEncrypt (n : Nat) (hn : n ≠ 0) (E : Bytes → Bytes) (hE : ∀ b, b.length = n → (E b).length = n)
    (iv pt : Bytes) (hiv : iv.length = n) (h : pt.length % n = 0) :
    chunks n (Spec.cbcEncrypt n E iv pt) = Spec.cbcEncBlocks E iv (chunks n pt) :=
  chunks_flatten n hn _ (encBlocks_length n E hE _ iv (length_of_mem_chunks n hn pt h) hiv)

/-- `Python_AES.encrypt` = SP 800-38A CBC encryption; the new `self.IV` is the last ciphertext block -/
theorem cbcEncrypt_spec (E : Bytes → Bytes) (hE : ∀ b, b.length = 16 → (E b).length = 16)
    (iv pt : Bytes) (hiv : iv.length = 16) (h : pt.length % 16 = 0) :
    Model.cbcEncrypt E iv pt =
      .ok (Spec.lastBlock 16 iv (Spec.cbcEncrypt 16 E iv pt), Spec.cbcEncrypt 16 E iv pt) := by
  rw [cbcEncrypt_blocks E iv pt h,
    enc_blocks E hE _ iv [] (length_of_mem_chunks 16 (by decide) pt h) hiv]
  rw [Spec.lastBlock, chunks_cbcEncrypt 16 (by decide) E hE iv pt hiv h]
  rfl

theorem cbcDecrypt_spec (D : Bytes → Bytes) (hD : ∀ b, b.length = 16 → (D b).length = 16)
    (iv ct : Bytes) (hiv : iv.length = 16) (h : ct.length % 16 = 0) :
    Model.cbcDecrypt D iv ct = .ok (Spec.lastBlock 16 iv ct, Spec.cbcDecrypt 16 D iv ct) := by
  rw [cbcDecrypt_blocks D iv ct h,
    dec_blocks D hD _ iv [] (length_of_mem_chunks 16 (by decide) ct h) hiv]
  simp only [List.nil_append, Spec.cbcDecrypt, Spec.lastBlock]
  rfl

theorem encBlocks_append (E : Bytes → Bytes) (l1 l2 : List Bytes) (iv : Bytes) :
    Spec.cbcEncBlocks E iv (l1 ++ l2) =
      Spec.cbcEncBlocks E iv l1 ++ Spec.cbcEncBlocks E (lastOr iv (Spec.cbcEncBlocks E iv l1)) l2 := by
  induction l1 generalizing iv with
  | nil => simp [Spec.cbcEncBlocks, lastOr]
  | cons p ps ih => simp [Spec.cbcEncBlocks, ih, lastOr_cons]

theorem lastBlock_append (n : Nat) (hn : n ≠ 0) (iv a b : Bytes) (ha : a.length % n = 0) :
    Spec.lastBlock n iv (a ++ b) = Spec.lastBlock n (Spec.lastBlock n iv a) b := by
  simp only [Spec.lastBlock, chunks_append n hn a b ha, List.getLast?_append]
  cases (chunks n b).getLast? <;> simp

theorem spec_cbc_stream (n : Nat) (hn : n ≠ 0) (E : Bytes → Bytes)
    (hE : ∀ b, b.length = n → (E b).length = n) (iv a b : Bytes) (hiv : iv.length = n)
    (ha : a.length % n = 0) :
    Spec.cbcEncrypt n E iv (a ++ b) =
      Spec.cbcEncrypt n E iv a ++
        Spec.cbcEncrypt n E (Spec.lastBlock n iv (Spec.cbcEncrypt n E iv a)) b := by
  rw [Spec.lastBlock, chunks_cbcEncrypt n hn E hE iv a hiv ha]
  simp only [Spec.cbcEncrypt]
  rw [chunks_append n hn a b ha, encBlocks_append, List.flatten_append]
  rfl

theorem decBlocks_encBlocks (n : Nat) (E D : Bytes → Bytes) (hE : ∀ b, b.length = n → (E b).length = n)
    (hDE : ∀ b, b.length = n → D (E b) = b) :
    ∀ (bl : List Bytes) (iv : Bytes), (∀ b ∈ bl, b.length = n) → iv.length = n →
      Spec.cbcDecBlocks D iv (Spec.cbcEncBlocks E iv bl) = bl := by
  intro bl
  induction bl with
  | nil => intro _ _ _; rfl
  | cons p ps ih =>
    intro iv hb hiv
    have hp : p.length = n := hb p List.mem_cons_self
    have hx : (xorBytes p iv).length = n := by rw [xorBytes_length]; omega
    simp only [Spec.cbcEncBlocks, Spec.cbcDecBlocks]
    rw [hDE _ hx, xorBytes_cancel p iv (by omega),
      ih _ (fun b h => hb b (List.mem_cons_of_mem _ h)) (hE _ hx)]

theorem spec_cbc_decrypt_encrypt (n : Nat) (hn : n ≠ 0) (E D : Bytes → Bytes)
    (hE : ∀ b, b.length = n → (E b).length = n) (hDE : ∀ b, b.length = n → D (E b) = b)
    (iv pt : Bytes) (hiv : iv.length = n) (h : pt.length % n = 0) :
    Spec.cbcDecrypt n D iv (Spec.cbcEncrypt n E iv pt) = pt := by
  rw [Spec.cbcDecrypt, chunks_cbcEncrypt n hn E hE iv pt hiv h,
    decBlocks_encBlocks n E D hE hDE _ iv (length_of_mem_chunks n hn pt h) hiv, flatten_chunks n hn]

theorem spec_cbc_length (n : Nat) (hn : n ≠ 0) (E : Bytes → Bytes)
    (hE : ∀ b, b.length = n → (E b).length = n) (iv pt : Bytes) (hiv : iv.length = n)
    (h : pt.length % n = 0) : (Spec.cbcEncrypt n E iv pt).length = pt.length := by
  unfold Spec.cbcEncrypt
  induction pt using chunks_induction n hn generalizing iv with
  | h0 => rw [chunks_nil']; rfl
  | hs b hb ih =>
    obtain ⟨hge, hmod⟩ := drop_length_mod n b hb h
    have hx : (E (xorBytes (b.take n) iv)).length = n :=
      hE _ (by rw [xorBytes_length, List.length_take, hiv, Nat.min_eq_left hge, Nat.min_self])
    rw [chunks_cons' n b hn hb, Spec.cbcEncBlocks, List.flatten_cons, List.length_append, hx, ih _ hx hmod,
      List.length_drop, Nat.add_sub_cancel' hge]

theorem lastBlock_length (n : Nat) (hn : n ≠ 0) (iv ct : Bytes) (hiv : iv.length = n)
    (h : ct.length % n = 0) : (Spec.lastBlock n iv ct).length = n := by
  rw [Spec.lastBlock]
  cases hc : (chunks n ct).getLast? with
  | none => simpa using hiv
  | some x =>
    have := List.mem_of_getLast? hc
    simpa using length_of_mem_chunks n hn ct h x this

theorem cbc_decrypt_encrypt (E D : Bytes → Bytes) (hE : ∀ b, b.length = 16 → (E b).length = 16)
    (hD : ∀ b, b.length = 16 → (D b).length = 16) (hDE : ∀ b, b.length = 16 → D (E b) = b)
    (iv pt : Bytes) (hiv : iv.length = 16) (h : pt.length % 16 = 0) :
    (Model.cbcEncrypt E iv pt >>= fun r => Model.cbcDecrypt D iv r.2) =
      .ok (Spec.lastBlock 16 iv (Spec.cbcEncrypt 16 E iv pt), pt) := by
  have hl : (Spec.cbcEncrypt 16 E iv pt).length % 16 = 0 := by
    rw [spec_cbc_length 16 (by decide) E hE iv pt hiv h]; exact h
  rw [cbcEncrypt_spec E hE iv pt hiv h, ok_bind, cbcDecrypt_spec D hD iv _ hiv hl,
    spec_cbc_decrypt_encrypt 16 (by decide) E D hE hDE iv pt hiv h]

/-! ### Python_TripleDES: the three `Des.crypt` calls with their own IV xor are TDEA-CBC -/

def tdeaE (k : Model.Des3) : Bytes → Bytes := fun b => k.e3 (k.d2 (k.e1 b))
def tdeaD (k : Model.Des3) : Bytes → Bytes := fun b => k.d1 (k.e2 (k.d3 b))

structure Des3Len (k : Model.Des3) : Prop where
  e1 : ∀ b, b.length = 8 → (k.e1 b).length = 8
  d1 : ∀ b, b.length = 8 → (k.d1 b).length = 8
  e2 : ∀ b, b.length = 8 → (k.e2 b).length = 8
  d2 : ∀ b, b.length = 8 → (k.d2 b).length = 8
  e3 : ∀ b, b.length = 8 → (k.e3 b).length = 8
  d3 : ∀ b, b.length = 8 → (k.d3 b).length = 8

theorem tdesEncLoop_spec (k : Model.Des3) (hk : Des3Len k) (fuel : Nat) (data iv : Bytes)
    (hl : data.length ≤ fuel) (hm : data.length % 8 = 0) (hiv : iv.length = 8) :
    Model.tdesEncLoop k fuel iv data =
      (lastOr iv (Spec.cbcEncBlocks (tdeaE k) iv (chunks 8 data)),
       (Spec.cbcEncBlocks (tdeaE k) iv (chunks 8 data)).flatten) := by
  induction data using chunks_induction 8 (by decide) generalizing fuel iv with
  | h0 => rw [chunks_nil']; cases fuel <;> rfl
  | hs data hd ih =>
    obtain ⟨hge, hmod⟩ := drop_length_mod 8 data hd hm
    obtain ⟨fuel, rfl⟩ : ∃ f, fuel = f + 1 := ⟨fuel - 1, by omega⟩
    have ht : (data.take 8).length = 8 := by rw [List.length_take]; exact Nat.min_eq_left hge
    have hx : (xorBytes (data.take 8) iv).length = 8 := by rw [xorBytes_length, ht, hiv, Nat.min_self]
    have h1 := hk.e1 _ hx
    have h2 := hk.d2 _ h1
    have h3 := hk.e3 _ h2
    have hcancel : xorBytes (xorBytes (k.d2 (k.e1 (xorBytes (data.take 8) iv))) iv) iv =
        k.d2 (k.e1 (xorBytes (data.take 8) iv)) := xorBytes_cancel _ _ (by omega)
    have hne : data.isEmpty = false := by simp [hd]
    rw [Model.tdesEncLoop]
    simp only [hne, Bool.false_eq_true, if_false, Model.desCryptEnc, Model.desCryptDec, hcancel]
    rw [ih fuel _ (by rw [List.length_drop]; omega) hmod h3, chunks_cons' 8 data (by decide) hd]
    simp [Spec.cbcEncBlocks, tdeaE, lastOr_cons]

theorem tdesDecLoop_spec (k : Model.Des3) (hk : Des3Len k) (fuel : Nat) (data iv : Bytes)
    (hl : data.length ≤ fuel) (hm : data.length % 8 = 0) (hiv : iv.length = 8) :
    Model.tdesDecLoop k fuel iv data =
      (lastOr iv (chunks 8 data), (Spec.cbcDecBlocks (tdeaD k) iv (chunks 8 data)).flatten) := by
  induction data using chunks_induction 8 (by decide) generalizing fuel iv with
  | h0 => rw [chunks_nil']; cases fuel <;> rfl
  | hs data hd ih =>
    obtain ⟨hge, hmod⟩ := drop_length_mod 8 data hd hm
    obtain ⟨fuel, rfl⟩ : ∃ f, fuel = f + 1 := ⟨fuel - 1, by omega⟩
    have ht : (data.take 8).length = 8 := by rw [List.length_take]; exact Nat.min_eq_left hge
    have h1 := hk.d3 _ ht
    have hcancel : xorBytes (xorBytes (k.d3 (data.take 8)) iv) iv = k.d3 (data.take 8) :=
      xorBytes_cancel _ _ (by omega)
    have hne : data.isEmpty = false := by simp [hd]
    rw [Model.tdesDecLoop]
    simp only [hne, Bool.false_eq_true, if_false, Model.desCryptEnc, Model.desCryptDec, hcancel]
    rw [ih fuel _ (by rw [List.length_drop]; omega) hmod ht, chunks_cons' 8 data (by decide) hd]
    simp [Spec.cbcDecBlocks, tdeaD, lastOr_cons]

end Tls.Crypto.Modes
