import TlsModel.Crypto.ChaCha
import TlsProofs.Crypto.Stream
import TlsProofs.Crypto.LE
/-
  C09 — ChaCha20: the Python-int model computes RFC 8439. A list of Python ints that is `toNats s` for a state `s`
  of 32-bit words stays one through every step of the code, so each function is followed on `toNats`.
-/
namespace Tls.Crypto.ChaCha
open Tls Tls.Crypto

theorem and_mask32 (x : Nat) : x &&& 0xffffffff = x % 2^32 := Nat.and_two_pow_sub_one_eq_mod x 32

theorem rotl_toNat (w : BitVec 32) (c : Nat) (hc : c < 32) :
    (w.rotateLeft c).toNat = ((w.toNat <<< c) &&& 0xffffffff) ||| (w.toNat >>> (32 - c)) := by
  rw [and_mask32]
  simp [BitVec.rotateLeft, BitVec.rotateLeftAux, Nat.mod_eq_of_lt hc, BitVec.toNat_shiftLeft]

theorem add_toNat (a b : BitVec 32) : (a + b).toNat = (a.toNat + b.toNat) &&& 0xffffffff := by
  rw [and_mask32, BitVec.toNat_add]

theorem qrArith_spec (a b c d : BitVec 32) :
    Model.qrArith a.toNat b.toNat c.toNat d.toNat =
      ((Spec.quarterRound a b c d).1.toNat, (Spec.quarterRound a b c d).2.1.toNat,
       (Spec.quarterRound a b c d).2.2.1.toNat, (Spec.quarterRound a b c d).2.2.2.toNat) := by
  simp only [Model.qrArith, Spec.quarterRound, rotl_toNat _ 16 (by decide), rotl_toNat _ 12 (by decide),
    rotl_toNat _ 8 (by decide), rotl_toNat _ 7 (by decide), add_toNat, BitVec.toNat_xor]

def toNats (s : Spec.State) : List Nat := s.toList.map BitVec.toNat

theorem idx_toNats (s : Spec.State) (i : Fin 16) : idx (toNats s) i.val = .ok (s[i]).toNat := by
  have : (toNats s)[i.val]? = some (s[i]).toNat := by
    simp [toNats]
  simp [idx, this]

theorem setIdx_toNats (s : Spec.State) (i : Fin 16) (v : BitVec 32) :
    setIdx (toNats s) i.val v.toNat = .ok (toNats (s.set i v)) := by
  have hl : i.val < (toNats s).length := by simp [toNats]
  rw [setIdx, if_pos hl, toNats, toNats, Vector.toList_set, List.map_set]

/-- the indices are literals in `roundMixupBox`, hence the equations -/
theorem quarterRound_spec (s : Spec.State) (x y z w : Fin 16) (a b c d : Nat)
    (ha : a = x.val) (hb : b = y.val) (hc : c = z.val) (hd : d = w.val) :
    Model.quarterRound (toNats s) (a, b, c, d) = .ok (toNats (Spec.qround s x y z w)) := by
  subst ha hb hc hd
  simp only [Model.quarterRound, idx_toNats, qrArith_spec, Spec.qround, setIdx_toNats, bind, Except.bind]

theorem doubleRound_spec (s : Spec.State) :
    Model.doubleRound (toNats s) = .ok (toNats (Spec.innerBlock s)) := by
  simp only [Model.doubleRound, Model.roundMixupBox, List.foldlM_cons, List.foldlM_nil]
  rw [quarterRound_spec s 0 4 8 12 0 4 8 12 rfl rfl rfl rfl, ok_bind,
    quarterRound_spec _ 1 5 9 13 1 5 9 13 rfl rfl rfl rfl, ok_bind,
    quarterRound_spec _ 2 6 10 14 2 6 10 14 rfl rfl rfl rfl, ok_bind,
    quarterRound_spec _ 3 7 11 15 3 7 11 15 rfl rfl rfl rfl, ok_bind,
    quarterRound_spec _ 0 5 10 15 0 5 10 15 rfl rfl rfl rfl, ok_bind,
    quarterRound_spec _ 1 6 11 12 1 6 11 12 rfl rfl rfl rfl, ok_bind,
    quarterRound_spec _ 2 7 8 13 2 7 8 13 rfl rfl rfl rfl, ok_bind,
    quarterRound_spec _ 3 4 9 14 3 4 9 14 rfl rfl rfl rfl, ok_bind]
  rfl

theorem iterM_doubleRound (n : Nat) (s : Spec.State) :
    iterM n Model.doubleRound (toNats s) = .ok (toNats (Spec.iter Spec.innerBlock n s)) := by
  induction n generalizing s with
  | zero => rfl
  | succ n ih => simp only [iterM, doubleRound_spec, Spec.iter, bind, Except.bind, ih]

theorem wordOfBytes_toNat (b : Bytes) : (Spec.wordOfBytes b).toNat = leNum (b.take 4) := by
  have h := leNum_lt (b.take 4)
  have h2 : (b.take 4).length ≤ 4 := by simp [List.length_take]; omega
  have h3 : 256 ^ (b.take 4).length ≤ 256 ^ 4 := Nat.pow_le_pow_right (by decide) h2
  simp only [Spec.wordOfBytes, BitVec.toNat_ofNat]
  exact Nat.mod_eq_of_lt (by omega)

theorem initState_spec (key nonce : Bytes) (counter : Nat) (hk : key.length = 32)
    (hn : nonce.length = 12) (hc : counter < 2^32) :
    Model.constants ++ Model.bytearrayToWords key ++ [counter] ++ Model.bytearrayToWords nonce =
      toNats (Spec.initState key (BitVec.ofNat 32 counter) nonce) := by
  simp [Model.bytearrayToWords, hk, hn, List.range_succ, toNats, Spec.initState, Model.constants, wordOfBytes_toNat,
    Nat.mod_eq_of_lt hc]

theorem zipAdd_spec (a b : Spec.State) :
    List.zipWith (fun st w => (st + w) &&& 0xffffffff) (toNats a) (toNats b) =
      toNats (Vector.zipWith (· + ·) a b) := by
  simp only [toNats, Vector.toList_zipWith, List.zipWith_map, List.map_zipWith, add_toNat]

theorem chachaBlock_spec (key nonce : Bytes) (counter : Nat) (hk : key.length = 32)
    (hn : nonce.length = 12) (hc : counter < 2^32) :
    Model.chachaBlock (Model.bytearrayToWords key) counter (Model.bytearrayToWords nonce) 20 =
      .ok (toNats (Vector.zipWith (· + ·) (Spec.initState key (BitVec.ofNat 32 counter) nonce)
        (Spec.iter Spec.innerBlock 10 (Spec.initState key (BitVec.ofNat 32 counter) nonce)))) := by
  simp only [Model.chachaBlock, initState_spec key nonce counter hk hn hc, iterM_doubleRound,
    bind, Except.bind, pure, Except.pure, zipAdd_spec]

theorem packL_spec (w : BitVec 32) : Model.packL w.toNat = .ok (Spec.wordBytes w) := by
  rw [Model.packL, if_pos w.isLt]
  simp only [leBytes, Nat.div_div_eq_div_mul]
  rfl

theorem mapM_packL (l : List (BitVec 32)) :
    (l.map BitVec.toNat).mapM Model.packL = .ok (l.map Spec.wordBytes) := by
  rw [List.mapM_map]
  exact mapM_ok _ _ l fun x _ => packL_spec x

theorem wordToBytearray_spec (s : Spec.State) :
    Model.wordToBytearray (toNats s) = .ok (s.toList.flatMap Spec.wordBytes) := by
  have hl : ¬ (toNats s).length ≠ 16 := by simp [toNats]
  rw [Model.wordToBytearray, if_neg hl]
  simp only [toNats, mapM_packL, bind, Except.bind, pure, Except.pure, List.flatMap_def]

theorem blockBytes_spec (key nonce : Bytes) (counter : Nat) (hk : key.length = 32)
    (hn : nonce.length = 12) (hc : counter < 2^32) :
    (Model.chachaBlock (Model.bytearrayToWords key) counter (Model.bytearrayToWords nonce) 20 >>=
      Model.wordToBytearray) = .ok (Spec.block key (BitVec.ofNat 32 counter) nonce) := by
  rw [chachaBlock_spec key nonce counter hk hn hc, ok_bind, wordToBytearray_spec, Spec.block]

theorem block_length (key nonce : Bytes) (c : BitVec 32) : (Spec.block key c nonce).length = 64 := by
  simp only [Spec.block, length_flatMap_const Spec.wordBytes 4 fun _ => rfl, Vector.length_toList]

theorem keyStream_succ (key nonce : Bytes) (c n : Nat) :
    Spec.keyStream key c nonce (n+1) =
      Spec.block key (BitVec.ofNat 32 c) nonce ++ Spec.keyStream key (c+1) nonce n := by
  simp only [Spec.keyStream, flatMap_range_succ, Nat.add_zero, Nat.add_assoc, Nat.add_comm 1]

theorem encryptBlocks_spec (key nonce : Bytes) (c : Nat) (hk : key.length = 32) (hn : nonce.length = 12)
    (pt : Bytes) : ∀ (i : Nat), c + i + divceil pt.length 64 ≤ 2^32 →
    Model.encryptBlocks { key := Model.bytearrayToWords key, nonce := Model.bytearrayToWords nonce,
                          counter := c, rounds := 20 } i (chunks 64 pt) =
      .ok (Spec.encrypt key (c + i) nonce pt) := by
  induction pt using chunks_induction 64 (by decide) with
  | h0 => intro i _; rw [chunks_nil']; rfl
  | hs pt hpt ih =>
    intro i hb
    have hd := divceil_step pt.length 64 (by decide) (List.length_pos_iff.mpr hpt)
    rw [chunks_cons' 64 pt (by decide) hpt]
    simp only [Model.encryptBlocks]
    rw [← bind_assoc, blockBytes_spec key nonce (c + i) hk hn (by omega), ok_bind,
      ih (i + 1) (by rw [List.length_drop]; omega), ok_bind, Spec.encrypt, Spec.encrypt, hd, keyStream_succ,
      xorBytes_append_right, block_length, xorBytes_comm (pt.take 64), List.length_drop, Nat.add_assoc]
    rfl

theorem init_ok (key nonce : Bytes) (counter : Nat) (hk : key.length = 32) (hn : nonce.length = 12) :
    Model.init key nonce counter 20 =
      .ok { key := Model.bytearrayToWords key, nonce := Model.bytearrayToWords nonce, counter, rounds := 20 } := by
  rw [Model.init, if_neg (by simp [hk]), if_neg (by simp [hn])]

theorem encrypt_spec (key nonce pt : Bytes) (counter : Nat) (hk : key.length = 32) (hn : nonce.length = 12)
    (hc : counter + divceil pt.length 64 ≤ 2^32) :
    Model.encrypt { key := Model.bytearrayToWords key, nonce := Model.bytearrayToWords nonce, counter,
                    rounds := 20 } pt = .ok (Spec.encrypt key counter nonce pt) :=
  encryptBlocks_spec key nonce counter hk hn pt 0 hc

theorem encrypt_length (key nonce pt : Bytes) (c : Nat) : (Spec.encrypt key c nonce pt).length = pt.length :=
  xorStream_length _ 64 (by decide) (fun _ => block_length key nonce _) pt

theorem encrypt_encrypt (key nonce pt : Bytes) (c : Nat) :
    Spec.encrypt key c nonce (Spec.encrypt key c nonce pt) = pt :=
  xorStream_involution _ 64 (by decide) (fun _ => block_length key nonce _) pt

end Tls.Crypto.ChaCha
