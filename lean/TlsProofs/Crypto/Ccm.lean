import TlsModel.Crypto.Ccm
import TlsProofs.Crypto.Cbc
import TlsProofs.Crypto.Ctr
/-
  C09 — AES-CCM / CCM-8: `_cbcmac_calc` computes T of RFC 3610 §2.2 (`cbcmacCalc_spec`). The two nested
  `_pad_with_zeroes` of the code are the two `pad16` of the block sequence because B_0 is a whole block
  (`macData_eq`); the CBC-MAC is the last block of the CBC encryption under a zero IV (`cbcMac_eq_last`).
-/
namespace Tls.Crypto.Ccm
open Tls Tls.Crypto Tls.Crypto.Modes

theorem padWithZeroes_spec (x : Bytes) : Model.padWithZeroes x 16 = Spec.pad16 x := by
  unfold Model.padWithZeroes Spec.pad16
  by_cases h : x.length % 16 = 0
  · simp [h, zeros]
  · have : (16 - x.length % 16) % 16 = 16 - x.length % 16 :=
      Nat.mod_eq_of_lt (Nat.sub_lt (by decide) (Nat.pos_of_ne_zero h))
    simp [h, this]

theorem pad16_length_mod (x : Bytes) : (Spec.pad16 x).length % 16 = 0 := length_pad16 x

theorem pad16_prefix (a x : Bytes) (ha : a.length % 16 = 0) : Spec.pad16 (a ++ x) = a ++ Spec.pad16 x := by
  unfold Spec.pad16
  have : (a ++ x).length % 16 = x.length % 16 := by
    rw [List.length_append, Nat.add_mod, ha, Nat.zero_add, Nat.mod_mod]
  rw [this, List.append_assoc]

theorem pad16_nil : Spec.pad16 [] = [] := by simp [Spec.pad16, zeros]

theorem cbcMac_eq_last (E : Bytes → Bytes) : ∀ (bl : List Bytes) (iv : Bytes),
    bl.foldl (fun X B => E (xorBytes X B)) iv = lastOr iv (Modes.Spec.cbcEncBlocks E iv bl) := by
  intro bl
  induction bl with
  | nil => intro iv; rfl
  | cons p ps ih =>
    intro iv
    rw [List.foldl_cons, ih, Modes.Spec.cbcEncBlocks, lastOr_cons, xorBytes_comm iv p]

theorem drop_last_block (bl : List Bytes) (iv : Bytes) (h : ∀ b ∈ bl, b.length = 16) (hne : bl ≠ []) :
    bl.flatten.drop (bl.flatten.length - 16) = lastOr iv bl := by
  have hl : (bl.getLast hne).length = 16 := h _ (List.getLast_mem hne)
  rw [lastOr, List.getLast?_eq_some_getLast hne]
  conv => lhs; rw [← List.dropLast_concat_getLast hne]
  rw [List.flatten_append, List.flatten_cons, List.flatten_nil, List.append_nil, List.length_append, hl,
    Nat.add_sub_cancel, List.drop_left' rfl]
  rfl

theorem b0_length (M : Nat) (N a m : Bytes) (hn : N.length = 12) : (Spec.b0 M N a m).length = 16 := by
  simp [Spec.b0, hn, length_beEncode]

theorem macData_eq (M : Nat) (N a m : Bytes) (hn : N.length = 12) :
    (if m ≠ [] then Model.padWithZeroes (Model.padWithZeroes (Spec.b0 M N a m ++ Spec.encodeAadLen a.length ++ a) 16 ++ m) 16
     else Model.padWithZeroes (Spec.b0 M N a m ++ Spec.encodeAadLen a.length ++ a) 16) =
      Spec.b0 M N a m ++ Spec.pad16 (Spec.encodeAadLen a.length ++ a) ++ Spec.pad16 m := by
  have hb := b0_length M N a m hn
  have hb0 : (Spec.b0 M N a m).length % 16 = 0 := by rw [hb]
  have h1 : Model.padWithZeroes (Spec.b0 M N a m ++ Spec.encodeAadLen a.length ++ a) 16 =
      Spec.b0 M N a m ++ Spec.pad16 (Spec.encodeAadLen a.length ++ a) := by
    rw [padWithZeroes_spec, List.append_assoc, pad16_prefix _ _ hb0]
  have hl1 : (Spec.b0 M N a m ++ Spec.pad16 (Spec.encodeAadLen a.length ++ a)).length % 16 = 0 := by
    rw [List.length_append, hb, Nat.add_mod, pad16_length_mod]
  rw [h1]
  by_cases hm : m = []
  · subst hm; simp [pad16_nil]
  · rw [if_pos hm, padWithZeroes_spec, pad16_prefix _ _ hl1]

theorem cbcMac_length (E : Bytes → Bytes) (hE : ∀ b, (E b).length = 16) (bl : List Bytes) (hne : bl ≠ []) :
    (Spec.cbcMac E bl).length = 16 := by
  unfold Spec.cbcMac
  rw [← List.dropLast_concat_getLast hne, List.foldl_append]
  simp [hE]

theorem authBlocks_ne (M : Nat) (N a m : Bytes) (hn : N.length = 12) : Spec.authBlocks M N a m ≠ [] := by
  intro e
  have := flatten_chunks 16 (by decide) (Spec.b0 M N a m ++ Spec.pad16 (Spec.encodeAadLen a.length ++ a) ++ Spec.pad16 m)
  unfold Spec.authBlocks at e
  rw [e] at this
  have := congrArg List.length this
  simp only [List.flatten_nil, List.length_nil, List.length_append, b0_length M N a m hn] at this
  omega

theorem cbcmacCalc_spec (E : Bytes → Bytes) (hE : ∀ b, (E b).length = 16) (tl : Nat) (htl : tl = 8 ∨ tl = 16)
    (N a m : Bytes) (hn : N.length = 12) :
    Model.cbcmacCalc E tl N a m = .ok (Spec.tagT E tl N a m) := by
  have hflags : 64 * (if a.length > 0 then 1 else 0) + 8 * ((tl - 2) / 2) + 1 * (15 - N.length - 1) < 256 := by
    rcases htl with rfl | rfl <;> split <;> simp [hn]
  have hb0 : [UInt8.ofNat (64 * (if a.length > 0 then 1 else 0) + 8 * ((tl - 2) / 2) + 1 * (15 - N.length - 1))] ++ N ++
      beEncode (15 - N.length) m.length = Spec.b0 tl N a m := by
    simp only [Spec.b0, gt_iff_lt, Nat.pos_iff_ne_zero, ite_not, Nat.one_mul]
  have henc : (if a.length > 0 then
        if a.length < 2^16 - 2^8 then beEncode 2 a.length
        else if a.length < 2^32 then [0xFF, 0xFE] ++ beEncode 4 a.length
        else [0xFF, 0xFF] ++ beEncode 8 a.length
      else ([] : Bytes)) = Spec.encodeAadLen a.length := by
    simp only [Spec.encodeAadLen, gt_iff_lt, Nat.pos_iff_ne_zero, ite_not]
  unfold Model.cbcmacCalc
  simp only [Model.oneByte, hflags, if_true, bind, Except.bind, hb0, henc, macData_eq tl N a m hn]
  -- from here on only three facts about the MAC input `D` matter
  have hb := b0_length tl N a m hn
  have hne := authBlocks_ne tl N a m hn
  rw [Spec.tagT, Spec.authBlocks]
  rw [Spec.authBlocks] at hne
  generalize hD : Spec.b0 tl N a m ++ Spec.pad16 (Spec.encodeAadLen a.length ++ a) ++ Spec.pad16 m = D at hne ⊢
  have hlen : D.length % 16 = 0 := by
    rw [← hD, List.length_append, List.length_append, hb, Nat.add_mod, Nat.add_mod 16, pad16_length_mod,
      pad16_length_mod]
  have hge : 16 ≤ D.length := by rw [← hD, List.length_append, List.length_append, hb]; omega
  have hE' : ∀ b : Bytes, b.length = 16 → (E b).length = 16 := fun b _ => hE b
  have hz : (zeros 16).length = 16 := List.length_replicate
  rw [cbcEncrypt_spec E hE' (zeros 16) D hz hlen]
  have hcl := encBlocks_length 16 E hE' _ (zeros 16) (length_of_mem_chunks 16 (by decide) D hlen) hz
  have hcne : Modes.Spec.cbcEncBlocks E (zeros 16) (chunks 16 D) ≠ [] := by
    cases hc : chunks 16 D with
    | nil => exact absurd hc hne
    | cons x xs => simp [Modes.Spec.cbcEncBlocks]
  have hlast := drop_last_block _ (zeros 16) hcl hcne
  have hX := cbcMac_length E hE _ hne
  rw [← spec_cbc_length 16 (by decide) E hE' (zeros 16) D hz hlen] at hge
  unfold Modes.Spec.cbcEncrypt at hge ⊢
  simp only [Spec.cbcMac, cbcMac_eq_last, pure, Except.pure] at hX ⊢
  rcases htl with rfl | rfl
  · simp only [show ¬ (8 = 16) from by decide, if_false, hlast]
    congr 2
    omega
  · simp only [if_true, hlast]
    rw [List.take_of_length_le (Nat.le_of_eq hX)]

end Tls.Crypto.Ccm
