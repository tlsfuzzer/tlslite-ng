import TlsModel.Crypto.Kdf
import TlsProofs.Crypto.Stream
/-
  C09 — HMAC / PRFs / HKDF over an abstract hash (`Hash.WF`: what is assumed of it): model = RFC specification.
  An HMAC object is its key pads and the bytes fed so far, so its digest is RFC 2104 of the concatenation; the loops
  with fuel (`P_hash`, `PRF_SSL`) are followed from any intermediate state.
-/
namespace Tls.Crypto.Kdf
open Tls Tls.Crypto

/-- what is assumed of a hash: fixed output size, not larger than its block size -/
structure Hash.WF (h : Hash) : Prop where
  len : ∀ x, (h.H x).length = h.digestSize
  pos : 0 < h.digestSize
  le : h.digestSize ≤ h.blockSize

theorem hmacNew_spec (h : Hash) (key : Bytes) :
    let k := if key.length > h.blockSize then h.H key else key
    let k0 := k ++ zeros (h.blockSize - k.length)
    Model.hmacNew h key none =
      { oKey := xorBytes k0 (List.replicate h.blockSize 0x5c),
        context := xorBytes k0 (List.replicate h.blockSize 0x36) } := by
  intro k k0
  -- a key of a full block or more gets `zeros 0` appended
  have hk0 : (if k.length < h.blockSize then k ++ zeros (h.blockSize - k.length) else k) = k0 := by
    show _ = k ++ zeros (h.blockSize - k.length)
    split
    · rfl
    · rw [Nat.sub_eq_zero_of_le (by omega)]; exact (List.append_nil k).symm
  simp only [Model.hmacNew]
  rw [show (if key.length > h.blockSize then h.H key else key) = k from rfl, hk0]

theorem hmac_update_digest (h : Hash) (key : Bytes) (msgs : List Bytes) :
    Model.hmacDigest h (msgs.foldl Model.hmacUpdate (Model.hmacNew h key none)) =
      Spec.hmac h key msgs.flatten := by
  rw [hmacNew_spec h key]
  have : ∀ (l : List Bytes) (o : Model.HmacObj),
      l.foldl Model.hmacUpdate o = { o with context := o.context ++ l.flatten } := by
    intro l; induction l with
    | nil => intro o; simp
    | cons m ms ih => intro o; rw [List.foldl_cons, ih]; simp [Model.hmacUpdate]
  rw [this]
  simp only [Model.hmacDigest, Spec.hmac]

theorem hmac_copy_update (h : Hash) (key a : Bytes) :
    Model.hmacDigest h (Model.hmacUpdate (Model.hmacCopy (Model.hmacNew h key none)) a) = Spec.hmac h key a := by
  have := hmac_update_digest h key [a]
  simpa [Model.hmacCopy] using this

theorem hmac_copy_update2 (h : Hash) (key a b : Bytes) :
    Model.hmacDigest h (Model.hmacUpdate (Model.hmacUpdate (Model.hmacCopy (Model.hmacNew h key none)) a) b) =
      Spec.hmac h key (a ++ b) := by
  have := hmac_update_digest h key [a, b]
  simpa [Model.hmacCopy] using this

theorem hmac_length (h : Hash) (wf : h.WF) (key text : Bytes) : (Spec.hmac h key text).length = h.digestSize := by
  simp only [Spec.hmac]; exact wf.len _

theorem pStream_length (mac : Bytes → Bytes → Bytes) (dl : Nat) (hm : ∀ k m, (mac k m).length = dl)
    (secret seed : Bytes) : ∀ (n : Nat) (A : Bytes), (Spec.pStream mac secret seed n A).length = dl * n := by
  intro n; induction n with
  | zero => intro _; rfl
  | succ n ih => intro A; rw [Spec.pStream, List.length_append, hm, ih, Nat.mul_succ, Nat.add_comm]

/-- `n` is any number of blocks that suffices: the `take` makes the value the same for all of them, which lets the step go to
    `n - 1` and the caller choose `divceil`. -/
theorem pHashLoop_spec (h : Hash) (wf : h.WF) (secret seed : Bytes) (length : Nat) :
    ∀ (fuel n : Nat) (A out : Bytes), length - out.length ≤ fuel → length - out.length ≤ h.digestSize * n →
      Model.pHashLoop h (Model.hmacNew h secret) seed length fuel A out =
        .ok (out ++ (Spec.pStream (Spec.hmac h) secret seed n A).take (length - out.length)) := by
  intro fuel
  induction fuel with
  | zero =>
    intro n A out hf _
    rw [Model.pHashLoop, if_neg (by omega), Nat.le_zero.mp hf, List.take_zero, List.append_nil]
  | succ fuel ih =>
    intro n A out hf hn
    rw [Model.pHashLoop]
    by_cases hlt : out.length < length
    · have hdl := wf.pos
      cases n with
      | zero => rw [Nat.mul_zero] at hn; omega
      | succ n' =>
        have hol := hmac_length h wf secret (Spec.hmac h secret A ++ seed)
        rw [Nat.mul_succ] at hn
        simp only [if_pos hlt, hmac_copy_update h, hmac_copy_update2 h, hol, Spec.pStream]
        generalize Spec.hmac h secret (Spec.hmac h secret A ++ seed) = o at hol ⊢
        have hrest : length - (out ++ o.take (min (length - out.length) h.digestSize)).length =
            length - out.length - h.digestSize := by
          rw [List.length_append, List.length_take, hol]; omega
        rw [ih n' _ _ (by rw [hrest]; omega) (by rw [hrest]; omega), hrest, List.take_append, hol, List.append_assoc,
          List.take_eq_take_iff.mpr (by rw [hol]; omega :
            min (min (length - out.length) h.digestSize) _ = min (length - out.length) _)]
    · rw [if_neg hlt, Nat.sub_eq_zero_of_le (Nat.le_of_not_lt hlt), List.take_zero, List.append_nil]

/-- `P_hash` = RFC 5246 §5 P_hash -/
theorem pHash_spec (h : Hash) (wf : h.WF) (secret seed : Bytes) (length : Nat) :
    Model.pHash h secret seed length = .ok (Spec.pHash (Spec.hmac h) h.digestSize secret seed length) := by
  rw [Model.pHash, pHashLoop_spec h wf secret seed length length (divceil length h.digestSize) seed []
    (by simp) (by simpa using le_mul_divceil length h.digestSize wf.pos)]
  simp [Spec.pHash]

theorem spec_pHash_length (mac : Bytes → Bytes → Bytes) (dl : Nat) (hd : 0 < dl)
    (hm : ∀ k m, (mac k m).length = dl) (secret seed : Bytes) (length : Nat) :
    (Spec.pHash mac dl secret seed length).length = length := by
  rw [Spec.pHash, List.length_take, pStream_length mac dl hm]
  have := le_mul_divceil length dl hd
  omega

theorem xorInto_ok (n : Nat) (a b : Bytes) (ha : a.length = n) (hb : b.length = n) :
    Model.xorInto n a b = .ok (xorBytes a b) := by
  rw [Model.xorInto, if_neg (by omega), xorBytes_take_self n a b ha hb]

theorem prf_spec (md5 sha1 : Hash) (w5 : md5.WF) (w1 : sha1.WF) (secret label seed : Bytes) (length : Nat) :
    Model.prf md5 sha1 secret label seed length = .ok (Spec.prf10 md5 sha1 secret label seed length) := by
  have hl5 := spec_pHash_length (Spec.hmac md5) md5.digestSize w5.pos (hmac_length md5 w5)
  have hl1 := spec_pHash_length (Spec.hmac sha1) sha1.digestSize w1.pos (hmac_length sha1 w1)
  have hdrop : secret.length - (secret.length + 1) / 2 = secret.length / 2 := by omega
  simp only [Model.prf, pHash_spec md5 w5, pHash_spec sha1 w1, bind, Except.bind, Spec.prf10, hdrop]
  exact xorInto_ok _ _ _ (hl5 _ _ _) (hl1 _ _ _)

theorem prf12_spec (h : Hash) (wf : h.WF) (secret label seed : Bytes) (length : Nat) :
    Model.prf12 h secret label seed length = .ok (Spec.prf12 h secret label seed length) := by
  rw [Model.prf12, pHash_spec h wf]; rfl

theorem prfSslInner_eq (length : Nat) : ∀ (cs out : Bytes),
    Model.prfSslInner length out cs =
      (out ++ cs.take (length - out.length), decide (length - out.length < cs.length)) := by
  intro cs
  induction cs with
  | nil => intro out; simp [Model.prfSslInner]
  | cons c cs ih =>
    intro out
    rw [Model.prfSslInner]
    by_cases hge : out.length ≥ length
    · have : length - out.length = 0 := by omega
      simp [hge, this]
    · rw [if_neg hge, ih]
      have e : length - out.length = (length - (out ++ [c]).length) + 1 := by
        rw [List.length_append]; simp; omega
      rw [e]
      simp [List.take_succ_cons]

/-- round `x` of `Spec.prfSsl` -/
def sslBlock (md5 sha1 : Hash) (secret seed : Bytes) (x : Nat) : Bytes :=
  md5.H (secret ++ sha1.H (List.replicate (x+1) (UInt8.ofNat (65 + x)) ++ secret ++ seed))

/-- the rounds `x, x+1, …` are kept as `List.range' x fuel`, so that peeling one round off is `List.range'_succ` -/
theorem prfSsl_go (md5 sha1 : Hash) (hm : ∀ x, (md5.H x).length = 16) (secret seed : Bytes) (length : Nat) :
    ∀ (fuel x : Nat) (out : Bytes), out.length ≤ length →
      Model.prfSsl.go md5 sha1 secret seed length fuel x out =
        (out ++ (List.range' x fuel).flatMap (sslBlock md5 sha1 secret seed)).take length ++
          zeros (length - out.length - 16 * fuel) := by
  intro fuel
  induction fuel with
  | zero =>
    intro x out hle
    simp [Model.prfSsl.go, List.take_of_length_le hle]
  | succ fuel ih =>
    intro x out hle
    have hb : (sslBlock md5 sha1 secret seed x).length = 16 := hm _
    rw [Model.prfSsl.go]
    simp only [prfSslInner_eq]
    rw [show md5.H (secret ++ sha1.H (List.replicate (x + 1) (UInt8.ofNat (65 + x)) ++ secret ++ seed)) =
      sslBlock md5 sha1 secret seed x from rfl, hb, List.range'_succ, List.flatMap_cons]
    by_cases hlt : length - out.length < 16
    · rw [if_pos (decide_eq_true hlt), Nat.sub_eq_zero_of_le (by omega : length - out.length ≤ 16 * (fuel + 1)),
        ← List.append_assoc, List.take_append_of_le_length (by rw [List.length_append, hb]; omega), List.take_append,
        List.take_of_length_le hle]
      exact (List.append_nil _).symm
    · rw [if_neg (by simpa using hlt), List.take_of_length_le (by omega : (sslBlock md5 sha1 secret seed x).length ≤ _),
        ih (x+1) _ (by rw [List.length_append, hb]; omega), List.length_append, hb, List.append_assoc,
        show length - (out.length + 16) - 16 * fuel = length - out.length - 16 * (fuel + 1) by omega]

/-- `PRF_SSL` = the SSLv3 key-block function up to 416 bytes (26 rounds of 16 bytes); beyond, the code returns
    trailing zeros — excluded -/
theorem prfSsl_spec (md5 sha1 : Hash) (hm : ∀ x, (md5.H x).length = 16) (secret seed : Bytes) (length : Nat)
    (hlen : length ≤ 416) :
    Model.prfSsl md5 sha1 secret seed length = Spec.prfSsl md5 sha1 secret seed length := by
  rw [Model.prfSsl, prfSsl_go md5 sha1 hm secret seed length 26 0 [] (Nat.zero_le _), List.length_nil, Nat.sub_zero,
    Nat.sub_eq_zero_of_le hlen, ← List.range_eq_range']
  exact List.append_nil _

theorem hkdf_fold (mac : Bytes → Bytes → Bytes) (prk info : Bytes) (n : Nat) (hn : n ≤ 255) :
    (List.range' 1 n).foldlM (fun (acc : Bytes × Bytes) x =>
        if x > 255 then Except.error Err.value
        else
          let titer := mac prk (acc.2 ++ info ++ [UInt8.ofNat x])
          Except.ok (acc.1 ++ titer, titer)) ([], []) =
      .ok ((List.range n).flatMap (fun i => Spec.hkdfT mac prk info (i + 1)), Spec.hkdfT mac prk info n) := by
  induction n with
  | zero => rfl
  | succ n ih =>
    rw [List.range'_1_concat, List.foldlM_append, ih (by omega), ok_bind, List.range_succ, List.flatMap_append]
    simp [Spec.hkdfT, pure, Except.pure, ok_bind, Nat.add_comm 1 n, show ¬ 255 < n + 1 by omega]

/-- `HKDF_expand` = RFC 5869 HKDF-Expand on its whole domain L ≤ 255·HashLen -/
theorem hkdfExpand_spec (mac : Bytes → Bytes → Bytes) (dl : Nat) (prk info : Bytes) (L : Nat)
    (hL : divceil L dl ≤ 255) :
    Model.hkdfExpand mac dl prk info L = .ok (Spec.hkdfExpand mac dl prk info L) := by
  simp only [Model.hkdfExpand, hkdf_fold mac prk info _ hL, ok_bind, pure, Except.pure, Spec.hkdfExpand]

theorem hkdfLabel_spec (label ctx : Bytes) (length : Nat) (h1 : length < 65536)
    (h2 : 6 + label.length < 256) (h3 : ctx.length < 256) :
    Model.hkdfLabel label ctx length = .ok (Spec.hkdfLabel length label ctx) := by
  have e1 : (tls13Prefix ++ label).length = 6 + label.length := by simp [tls13Prefix]; omega
  simp only [Model.hkdfLabel, Model.writerAdd, bind, Except.bind, pure, Except.pure, e1]
  rw [if_pos (by simpa using h1), if_pos (by simpa using h2), if_pos (by simpa using h3)]
  simp only [Spec.hkdfLabel, List.append_assoc]

theorem hkdfExpandLabel_spec (mac : Bytes → Bytes → Bytes) (dl : Nat) (secret label ctx : Bytes) (length : Nat)
    (h1 : length < 65536) (h2 : 6 + label.length < 256) (h3 : ctx.length < 256)
    (hL : divceil length dl ≤ 255) :
    Model.hkdfExpandLabel mac dl secret label ctx length =
      .ok (Spec.hkdfExpandLabel mac dl secret label ctx length) := by
  simp only [Model.hkdfExpandLabel, hkdfLabel_spec label ctx length h1 h2 h3, bind, Except.bind,
    hkdfExpand_spec mac dl secret _ length hL, Spec.hkdfExpandLabel]

theorem getFixBytes_drop (kb : Bytes) (d n : Nat) (h : d + n ≤ kb.length) :
    Model.getFixBytes (kb.drop d) n = .ok ((kb.drop d).take n, kb.drop (d + n)) := by
  rw [Model.getFixBytes, if_neg (by rw [List.length_drop]; omega), List.drop_drop]

theorem sliceKeyBlock_spec (kb : Bytes) (m k i : Nat) (h : kb.length = 2*m + 2*k + 2*i) :
    Model.sliceKeyBlock kb m k i =
      .ok (⟨kb.take m, (kb.drop (2*m)).take k, (kb.drop (2*m + 2*k)).take i⟩,
           ⟨(kb.drop m).take m, (kb.drop (2*m + k)).take k, (kb.drop (2*m + 2*k + i)).take i⟩) := by
  have h6 : m + m + k + k + i + i ≤ kb.length := by omega
  have h5 := Nat.le_of_add_right_le h6
  have h4 := Nat.le_of_add_right_le h5
  have h3 := Nat.le_of_add_right_le h4
  have h2 := Nat.le_of_add_right_le h3
  have h1 := getFixBytes_drop kb 0 m (by rw [Nat.zero_add]; exact Nat.le_of_add_right_le h2)
  rw [List.drop_zero, Nat.zero_add] at h1
  simp only [Model.sliceKeyBlock, h1, ok_bind, getFixBytes_drop kb _ _ h2, getFixBytes_drop kb _ _ h3,
    getFixBytes_drop kb _ _ h4, getFixBytes_drop kb _ _ h5, getFixBytes_drop kb _ _ h6]
  rw [← Nat.two_mul, Nat.add_assoc (2 * m) k k, ← Nat.two_mul]
  rfl
end Tls.Crypto.Kdf
