import TlsModel.Flights
/-
  The flight functions of TlsModel/Flights.lean are trees of `if`s over `_getMsg` steps chained with
  `Got.andThen`.  "Never an escape" is shown for the pieces (an answer of `_getMsg`, an `if`, an `andThen`); the
  rewrite rules below reduce a flight to its leaves.
-/
namespace Tls.Flights
open Tls.ErrPath

def Out.noEscape : Out → Bool
  | .escape _ => false
  | _ => true

/-- what the parsers establish: an item whose extension list has a duplicated type was refused
    (`_reject_duplicate_extensions`), so it never reaches the checks with `parse = 0` -/
def Item.wf (i : Item) : Bool := !(i.e1.isDup || i.x1.isDup) || i.parse != 0

/-- postcondition of the getters in the form `andThen_noEscape` consumes: the continuation is entered only with an
    item that parsed, and `P` holds of it and of every item behind it -/
def Got.good (P : Item → Prop) : Got → Prop
  | .out o => o.noEscape = true
  | .msg i rest => P i ∧ i.parse = 0 ∧ ∀ j ∈ rest, P j

theorem Got.good_mono {P : Item → Prop} {g : Got} (h : g.good P) : g.good P := h

@[simp] theorem Out.noEscape_alert (d : Nat) (m : String) : (Out.alert d m).noEscape = true := rfl
@[simp] theorem Out.noEscape_blocked : Out.blocked.noEscape = true := rfl
@[simp] theorem Out.noEscape_pass : Out.pass.noEscape = true := rfl
@[simp] theorem Out.noEscape_escape (e : Escape) : (Out.escape e).noEscape = false := rfl

@[simp] theorem Out.noEscape_ite {c : Prop} [Decidable c] {a b : Out} :
    (if c then a else b).noEscape = true ↔ (c → a.noEscape = true) ∧ (¬c → b.noEscape = true) := by
  split <;> simp [*]

@[simp] theorem Got.good_out {P : Item → Prop} {o : Out} : (Got.out o).good P ↔ o.noEscape = true := Iff.rfl

theorem get13_good (P : Item → Prop) (allowed : List Nat) (fl : List Item) (hP : ∀ j ∈ fl, P j) :
    (get13 allowed fl).good P := by
  fun_induction get13 allowed fl
  -- a well-formed ChangeCipherSpec record is skipped
  case case5 ih => exact ih (List.forall_mem_cons.1 hP).2
  -- the one arm that returns `.msg`
  case case9 hp =>
    exact ⟨(List.forall_mem_cons.1 hP).1, Decidable.of_not_not (mt bne_iff_ne.2 hp), (List.forall_mem_cons.1 hP).2⟩
  all_goals rfl

theorem get12hs_good (P : Item → Prop) (allowed : List Nat) (fl : List Item) (hP : ∀ j ∈ fl, P j) :
    (get12hs allowed fl).good P := by
  fun_cases get12hs allowed fl
  -- the one arm that returns `.msg`
  case case6 hp =>
    exact ⟨(List.forall_mem_cons.1 hP).1, Decidable.of_not_not (mt bne_iff_ne.2 hp), (List.forall_mem_cons.1 hP).2⟩
  all_goals rfl

theorem andThen_noEscape {P : Item → Prop} {g : Got} {k : Item → List Item → Out} (hg : g.good P)
    (hk : ∀ i rest, P i → i.parse = 0 → (∀ j ∈ rest, P j) → (k i rest).noEscape = true) :
    (g.andThen k).noEscape = true := by
  cases g with
  | out o => exact hg
  | msg i rest => exact hk i rest hg.1 hg.2.1 hg.2.2

theorem andThen_noEscape_iff {g : Got} {k : Item → List Item → Out} (hg : ∀ o, g = .out o → o.noEscape = true) :
    (g.andThen k).noEscape = true ↔ ∀ i rest, g = .msg i rest → (k i rest).noEscape = true := by
  cases g with
  | out o => simpa [Got.andThen] using hg
  | msg i rest => simp [Got.andThen]

@[simp] theorem get13_andThen {allowed : List Nat} {fl : List Item} {k : Item → List Item → Out} :
    ((get13 allowed fl).andThen k).noEscape = true ↔
      ∀ i rest, get13 allowed fl = .msg i rest → (k i rest).noEscape = true :=
  andThen_noEscape_iff fun o h => by simpa [h] using get13_good (fun _ => True) allowed fl (fun _ _ => trivial)

@[simp] theorem get12hs_andThen {allowed : List Nat} {fl : List Item} {k : Item → List Item → Out} :
    ((get12hs allowed fl).andThen k).noEscape = true ↔
      ∀ i rest, get12hs allowed fl = .msg i rest → (k i rest).noEscape = true :=
  andThen_noEscape_iff fun o h => by simpa [h] using get12hs_good (fun _ => True) allowed fl (fun _ _ => trivial)

@[simp] theorem get12ccs_andThen {fl : List Item} {k : Item → List Item → Out} :
    ((get12ccs fl).andThen k).noEscape = true ↔
      ∀ i rest, get12ccs fl = .msg i rest → (k i rest).noEscape = true := by
  refine andThen_noEscape_iff fun o => ?_
  fun_cases get12ccs fl <;> intro h <;> cases h <;> rfl

@[simp] theorem client12Finished_noEscape (fl : List Item) : (client12Finished fl).noEscape = true := by
  simp [client12Finished]

theorem client12AfterDone_noEscape (c : Cli12) (cert ske cr : Option Item) (fl : List Item)
    (hc : c.certSuite = true → cert.isSome = true) :
    (client12AfterDone c cert ske cr fl).noEscape = true := by
  unfold client12AfterDone
  extract_lets body
  have hb : body.noEscape = true := by
    cases ske <;> simp [body]
  cases cert with
  | none =>
    have : c.certSuite = false := by simpa using hc
    simp [this, hb]
  | some ct => cases ske <;> simp [hb]

theorem wf_nodup {i : Item} (hw : i.wf = true) (hp : i.parse = 0) :
    i.e1.isDup = false ∧ i.x1.isDup = false := by
  unfold Item.wf at hw
  simp only [hp, bne_self_eq_false, Bool.or_false, Bool.not_eq_true', Bool.or_eq_false_iff] at hw
  exact hw

theorem client13Tail_noEscape (c : Cli13) (ee : Item) (cr : Option Item) (hx : ee.x1.isDup = false) :
    (client13Tail c ee cr).noEscape = true := by
  fun_cases client13Tail c ee cr
  -- the two arms that escape: the parser refused a duplicate (`hx`); the length was just tested
  case case2 hd => rw [hd] at hx; cases hx
  case case5 hl => exact absurd rfl hl
  all_goals rfl

theorem client13WithCert_noEscape (c : Cli13) (ee : Item) (cr : Option Item) (fl : List Item)
    (hx : ee.x1.isDup = false) : (client13WithCert c ee cr fl).noEscape = true := by
  simp [client13WithCert, client13Tail_noEscape c ee cr hx]

end Tls.Flights
