import TlsModel.IO
import TlsProofs.Crypto.BE
/-
  C14: the Defragmenter / `_getNextRecord` deliver the messages of the concatenated byte stream,
  however it was cut into records: what comes out is the greedy split `splitAll` of the stream by the
  size handler (`getAll_hs`), and `splitAll` absorbs appended bytes (`splitAll_some_append`).  At the
  end the sender's side: the loop of `_sendMsg` cuts a buffer into non-empty records that concatenate
  to it (`fragmentLoop_spec`), and the empty record it must not produce is refused.
-/
namespace Tls.IO

def splitFuel (h : Handler) : Nat → Bytes → List Bytes × Bytes
  | 0, buf => ([], buf)
  | fuel + 1, buf =>
    match h.size buf with
    | none => ([], buf)
    | some n =>
      let r := splitFuel h fuel (buf.drop n)
      (buf.take n :: r.1, r.2)

def splitAll (h : Handler) (buf : Bytes) : List Bytes × Bytes := splitFuel h (buf.length + 1) buf

/-- the guards of add_static_size / add_dynamic_size -/
def Handler.Pos : Handler → Prop
  | .static size => 1 ≤ size
  | .dynamic _ sos => 1 ≤ sos

theorem Handler.size_static_iff {k : Nat} {c : Bytes} {n : Nat} :
    (Handler.static k).size c = some n ↔ n = k ∧ k ≤ c.length := by
  simp only [Handler.size]
  split
  · exact ⟨nofun, fun h => by omega⟩
  · exact ⟨fun h => by cases h; omega, fun h => by rw [h.1]⟩

theorem Handler.size_dynamic_iff {off sos : Nat} {c : Bytes} {n : Nat} :
    (Handler.dynamic off sos).size c = some n ↔
      n = off + sos + beDecode ((c.drop off).take sos) ∧ n ≤ c.length := by
  simp only [Handler.size]
  split
  · exact ⟨nofun, fun h => by omega⟩
  · split
    · exact ⟨nofun, fun h => by omega⟩
    · exact ⟨fun h => by cases h; omega, fun h => by rw [h.1]⟩

theorem Handler.size_bounds (h : Handler) (hp : h.Pos) (c : Bytes) (n : Nat)
    (hs : h.size c = some n) : 1 ≤ n ∧ n ≤ c.length := by
  cases h with
  | static k => have := size_static_iff.1 hs; have : 1 ≤ k := hp; omega
  | dynamic off sos => have := size_dynamic_iff.1 hs; have : 1 ≤ sos := hp; omega

theorem Handler.size_append (h : Handler) (c x : Bytes) (n : Nat)
    (hs : h.size c = some n) : h.size (c ++ x) = some n := by
  have hl : (c ++ x).length = c.length + x.length := List.length_append
  cases h with
  | static k => have := size_static_iff.1 hs; exact size_static_iff.2 (by omega)
  | dynamic off sos =>
    have ⟨h1, h2⟩ := size_dynamic_iff.1 hs
    have ⟨h3, h4, h5⟩ : off ≤ c.length ∧ sos ≤ c.length - off ∧ n ≤ (c ++ x).length := by omega
    refine size_dynamic_iff.2 ⟨?_, h5⟩
    rw [List.drop_append_of_le_length h3, List.take_append_of_le_length (List.length_drop ▸ h4)]
    exact h1

theorem splitFuel_fuel (h : Handler) (hp : h.Pos) :
    ∀ (f1 f2 : Nat) (buf : Bytes), buf.length < f1 → buf.length < f2 →
      splitFuel h f1 buf = splitFuel h f2 buf := by
  intro f1
  induction f1 with
  | zero => intro f2 buf h1; omega
  | succ f1 ih =>
    intro f2 buf h1 h2
    cases f2 with
    | zero => omega
    | succ f2 =>
      simp only [splitFuel]
      cases hs : h.size buf with
      | none => rfl
      | some n =>
        have ⟨hn1, hn2⟩ := h.size_bounds hp buf n hs
        simp only
        rw [ih f2 (buf.drop n) (by simp; omega) (by simp; omega)]

theorem splitAll_none (h : Handler) (c : Bytes) (hs : h.size c = none) : splitAll h c = ([], c) := by
  simp [splitAll, splitFuel, hs]

theorem splitAll_some (h : Handler) (hp : h.Pos) (c : Bytes) (n : Nat) (hs : h.size c = some n) :
    splitAll h c = (c.take n :: (splitAll h (c.drop n)).1, (splitAll h (c.drop n)).2) := by
  have ⟨hn1, hn2⟩ := h.size_bounds hp c n hs
  have e : splitAll h c =
      (c.take n :: (splitFuel h c.length (c.drop n)).1, (splitFuel h c.length (c.drop n)).2) := by
    simp only [splitAll, splitFuel, hs]
  rw [e]
  unfold splitAll
  rw [splitFuel_fuel h hp c.length ((c.drop n).length + 1) (c.drop n) (by simp; omega) (by omega)]

theorem splitAll_some_append (h : Handler) (hp : h.Pos) (c x : Bytes) (n : Nat) (hs : h.size c = some n) :
    splitAll h (c ++ x) =
      (c.take n :: (splitAll h (c.drop n ++ x)).1, (splitAll h (c.drop n ++ x)).2) := by
  have hn := (h.size_bounds hp c n hs).2
  rw [splitAll_some h hp _ n (h.size_append c x n hs), List.take_append_of_le_length hn,
    List.drop_append_of_le_length hn]

def tls3 (b20 b21 b22 : Bytes) : Defrag :=
  { priorities := [20, 21, 22],
    buffers := [(20, b20), (21, b21), (22, b22)],
    decoders := [(20, .static 1), (21, .static 2), (22, .dynamic 1 3)] }

theorem tlsDefrag_eq : tlsDefrag = tls3 [] [] [] := rfl

/-- the handshake size handler: type(1) length(3) body -/
def hsHandler : Handler := .dynamic 1 3

theorem hsHandler_pos : hsHandler.Pos := by simp [hsHandler, Handler.Pos]

theorem tls3_addData22 (c x : Bytes) :
    (tls3 [] [] c).addData 22 x = .ok (tls3 [] [] (c ++ x)) := by
  simp [Defrag.addData, tls3, List.lookup, assocSet]

theorem tls3_getMessage (c : Bytes) :
    (tls3 [] [] c).getMessage =
      match hsHandler.size c with
      | none => .ok (none, tls3 [] [] c)
      | some n => .ok (some (22, c.take n), tls3 [] [] (c.drop n)) := by
  have h20 : (Handler.static 1).size [] = none := by simp [Handler.size]
  have h21 : (Handler.static 2).size [] = none := by simp [Handler.size]
  simp [Defrag.getMessage, tls3, Defrag.getMessageLoop, List.lookup, hsHandler, h20, h21]
  cases (Handler.dynamic 1 3).size c <;> simp [assocSet]

def hsRecs (frags : List Bytes) : List Rec := frags.map fun f => { type := 22, ssl2 := false, data := f }

theorem getNextRecord_hs_nil (tls13 : Bool) (c : Bytes) :
    getNextRecord tls13 (tls3 [] [] c) [] =
      match hsHandler.size c with
      | none => .ok (none, tls3 [] [] c, [])
      | some n => .ok (some (.msg 22 (c.take n)), tls3 [] [] (c.drop n), []) := by
  cases hs : hsHandler.size c <;> simp [getNextRecord, tls3_getMessage, hs]

theorem getNextRecord_hs_cons (tls13 : Bool) (c f : Bytes) (fs : List Bytes) (hf : f ≠ []) :
    getNextRecord tls13 (tls3 [] [] c) (hsRecs (f :: fs)) =
      match hsHandler.size c with
      | none => getNextRecord tls13 (tls3 [] [] (c ++ f)) (hsRecs fs)
      | some n => .ok (some (.msg 22 (c.take n)), tls3 [] [] (c.drop n), hsRecs (f :: fs)) := by
  have hl : f.length ≠ 0 := fun h => hf (List.length_eq_zero_iff.mp h)
  cases hs : hsHandler.size c <;>
    simp [hsRecs, getNextRecord, tls3_getMessage, hs, fromSocketCheck, hl, contentTypeAll, tls3_addData22]

/-- more fuel than this is enough for `getAll`: every round but the last hands out a message, at
    least one byte of `c ++ frags.flatten` (the `+ 1` per record is slack) -/
def fragMeasure (c : Bytes) (frags : List Bytes) : Nat :=
  c.length + (frags.map fun f => f.length + 1).sum

theorem getAll_hs (tls13 : Bool) :
    ∀ (fuel : Nat) (frags : List Bytes) (c : Bytes), (∀ f ∈ frags, f ≠ []) →
      fragMeasure c frags < fuel →
      getAll tls13 fuel (tls3 [] [] c) (hsRecs frags) =
        ((splitAll hsHandler (c ++ frags.flatten)).1.map (GOut.msg 22), none,
         tls3 [] [] (splitAll hsHandler (c ++ frags.flatten)).2) := by
  intro fuel
  induction fuel with
  | zero => intro frags c _ h; omega
  | succ fuel ih =>
    intro frags
    induction frags with
    | nil =>
      intro c _ hm
      simp only [hsRecs, List.map_nil, getAll, getNextRecord_hs_nil, List.flatten_nil, List.append_nil]
      cases hs : hsHandler.size c with
      | none => simp [splitAll_none _ _ hs]
      | some n =>
        have ⟨hn1, hn2⟩ := hsHandler.size_bounds hsHandler_pos c n hs
        simp only
        have := ih [] (c.drop n) (by simp) (by simp [fragMeasure] at hm ⊢; omega)
        simp only [hsRecs, List.map_nil, List.flatten_nil, List.append_nil] at this
        rw [this, splitAll_some _ hsHandler_pos c n hs]
        simp
    | cons f fs ihf =>
      intro c hne hm
      have hf : f ≠ [] := hne f (by simp)
      simp only [getAll, getNextRecord_hs_cons tls13 c f fs hf]
      cases hs : hsHandler.size c with
      | none =>
        simp only
        have := ihf (c ++ f) (fun g hg => hne g (by simp [hg])) (by
          simp [fragMeasure] at hm ⊢; omega)
        simp only [getAll] at this
        cases hg : getNextRecord tls13 (tls3 [] [] (c ++ f)) (hsRecs fs) with
        | error e => rw [hg] at this; simp at this
        | ok v =>
          rw [hg] at this
          obtain ⟨o, d', recs'⟩ := v
          cases o with
          | none | some => simp only at this ⊢; rw [this]; simp [List.append_assoc]
      | some n =>
        have ⟨hn1, hn2⟩ := hsHandler.size_bounds hsHandler_pos c n hs
        simp only
        have := ih (f :: fs) (c.drop n) hne (by simp [fragMeasure] at hm ⊢; omega)
        rw [this, splitAll_some_append _ hsHandler_pos c _ n hs]
        simp

def WFMsg (m : Bytes) : Prop := hsHandler.size m = some m.length

theorem splitAll_wellformed :
    ∀ (msgs : List Bytes), (∀ m ∈ msgs, WFMsg m) → splitAll hsHandler msgs.flatten = (msgs, []) := by
  intro msgs
  induction msgs with
  | nil =>
    intro _
    have : hsHandler.size [] = none := by simp [hsHandler, Handler.size]
    simpa using splitAll_none _ _ this
  | cons m ms ih =>
    intro h
    rw [List.flatten_cons, splitAll_some_append _ hsHandler_pos m _ _ (h m (by simp))]
    simp [ih (fun x hx => h x (by simp [hx]))]

def mkMsg (t : UInt8) (body : Bytes) : Bytes := t :: beEncode 3 body.length ++ body

theorem mkMsg_wf (t : UInt8) (body : Bytes) (h : body.length < 2 ^ 24) : WFMsg (mkMsg t body) := by
  have hl := length_beEncode 3 body.length
  have e : ((mkMsg t body).drop 1).take 3 = beEncode 3 body.length :=
    List.take_left' hl
  have hlen : (mkMsg t body).length = 1 + 3 + body.length := by
    simp [mkMsg, hl]; omega
  exact Handler.size_dynamic_iff.2
    ⟨by rw [e, beDecode_beEncode, Nat.mod_eq_of_lt h, hlen], Nat.le_refl _⟩

theorem fragmentLoop_spec (k fuel : Nat) (buf : Bytes) :
    (fragmentLoop k fuel buf).flatten = buf ∧
    (1 ≤ k → (buf.length ≤ fuel → ∀ f ∈ fragmentLoop k fuel buf, f.length ≤ k) ∧
      (buf ≠ [] → ∀ f ∈ fragmentLoop k fuel buf, f ≠ [])) := by
  fun_induction fragmentLoop k fuel buf with
  | case1 | case3 =>  -- the loop ends: one last record
    exact ⟨List.flatten_singleton .., fun _ => ⟨fun h f hf => by cases List.mem_singleton.1 hf; omega,
      fun hb f hf => List.mem_singleton.1 hf ▸ hb⟩⟩
  | case2 fuel buf hlen ih =>  -- a record of `k` bytes is cut off
    have hd : (buf.drop k).length = buf.length - k := List.length_drop
    refine ⟨by rw [List.flatten_cons, ih.1, List.take_append_drop],
      fun hk => ⟨fun h f hf => ?_, fun _ f hf => ?_⟩⟩
    · rcases List.mem_cons.1 hf with rfl | hf
      · exact List.length_take_le ..
      · exact (ih.2 hk).1 (by omega) f hf
    · rcases List.mem_cons.1 hf with rfl | hf
      · exact List.ne_nil_of_length_pos (by rw [List.length_take]; omega)
      · exact (ih.2 hk).2 (List.ne_nil_of_length_pos (by omega)) f hf

theorem fragmentMsg_spec (k : Nat) (hk : 1 ≤ k) (buf : Bytes) :
    (fragmentMsg k buf).flatten = buf ∧ (∀ f ∈ fragmentMsg k buf, f.length ≤ k) ∧
    (buf ≠ [] → ∀ f ∈ fragmentMsg k buf, f ≠ []) :=
  have ⟨h1, h2⟩ := fragmentLoop_spec k buf.length buf
  ⟨h1, (h2 hk).1 (Nat.le_refl _), (h2 hk).2⟩

theorem flatMap_fragment_flatten (k : Nat) (bufs : List Bytes) :
    (bufs.flatMap (fragmentMsg k)).flatten = bufs.flatten := by
  induction bufs with
  | nil => rfl
  | cons b bs ih => simp [List.flatMap_cons, ih, fragmentMsg, fragmentLoop_spec]

theorem empty_fragment_refused (tls13 : Bool) (c : Bytes) (rest : List Rec)
    (hs : hsHandler.size c = none) :
    getNextRecord tls13 (tls3 [] [] c) ({ type := 22, data := [] } :: rest) = .error .unexpectedMessage := by
  simp [getNextRecord, tls3_getMessage, hs, fromSocketCheck]

end Tls.IO
