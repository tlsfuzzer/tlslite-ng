import TlsProofs.Record
import TlsModel.RecordToy
/- CBC over an arbitrary block permutation as record-layer primitives (`cbcPrims`; the chaining block
   is the cipher state `S` of the record-layer model), and what `cbc_chaining_lawful` (Props/C01.lean)
   needs to show that it satisfies `BlockLaw`: proved from `D (E b) = b` by induction on the blocks. -/
namespace Tls.Rec
open Tls.Rec.Toy (cbcEnc cbcDec)

structure BlockPerm where
  bs : Nat
  E : Bytes → Bytes
  D : Bytes → Bytes
  bs_pos : 0 < bs
  bs_le : bs ≤ 256
  len : ∀ b, b.length = bs → (E b).length = bs
  inv : ∀ b, b.length = bs → D (E b) = b

theorem cbcEnc_spec (B : BlockPerm) : ∀ (n : Nat) (iv data : Bytes), iv.length = B.bs → data.length = n * B.bs →
    (cbcEnc B.E B.bs n iv data).2.length = data.length ∧ (cbcEnc B.E B.bs n iv data).1.length = B.bs ∧
    cbcDec B.D B.bs n iv (cbcEnc B.E B.bs n iv data).2 = ((cbcEnc B.E B.bs n iv data).1, data)
  | 0, iv, data, hiv, hd => by
    have : data = [] := List.length_eq_zero_iff.mp (by simpa using hd)
    simp [cbcEnc, cbcDec, hiv, this]
  | n + 1, iv, data, hiv, hd => by
    have htake : (data.take B.bs).length = B.bs := by
      simp; rw [hd, Nat.add_mul]; omega
    have hx : (xorBytes (data.take B.bs) iv).length = B.bs := by rw [xorBytes, List.length_zipWith, htake, hiv]; simp
    have hc := B.len _ hx
    have hdrop : (data.drop B.bs).length = n * B.bs := by simp [hd, Nat.add_mul]
    obtain ⟨h1, h2, ih⟩ := cbcEnc_spec B n (B.E (xorBytes (data.take B.bs) iv)) (data.drop B.bs) hc hdrop
    simp only [cbcEnc, cbcDec, List.length_append]
    refine ⟨by rw [h1, hc, hdrop, hd, Nat.add_mul]; omega, h2, ?_⟩
    rw [List.take_left' hc, List.drop_left' hc, ih, B.inv _ hx, xorBytes_cancel _ _ (by rw [htake, hiv]; exact Nat.le_refl _)]
    simp

theorem cbcEnc_length (B : BlockPerm) (n : Nat) (iv data : Bytes) (hiv : iv.length = B.bs) (hd : data.length = n * B.bs) :
    (cbcEnc B.E B.bs n iv data).2.length = data.length ∧ (cbcEnc B.E B.bs n iv data).1.length = B.bs :=
  ⟨(cbcEnc_spec B n iv data hiv hd).1, (cbcEnc_spec B n iv data hiv hd).2.1⟩

def CbcState (B : BlockPerm) := { iv : Bytes // iv.length = B.bs }

theorem div_mul_of_mod (n bs : Nat) (h : n % bs = 0) : n = n / bs * bs :=
  (Nat.div_mul_cancel (Nat.dvd_of_mod_eq_zero h)).symm

theorem cbcDec_state_len (B : BlockPerm) : ∀ (n : Nat) (iv x : Bytes), iv.length = B.bs → x.length = n * B.bs →
    (cbcDec B.D B.bs n iv x).1.length = B.bs
  | 0, iv, x, hiv, _ => by simpa [cbcDec] using hiv
  | k + 1, iv, x, hiv, hx => by
    simp only [cbcDec]
    apply cbcDec_state_len B k
    · simp; rw [hx, Nat.add_mul]; omega
    · simp [hx, Nat.add_mul]

theorem cbcDec_length (B : BlockPerm) (hD : ∀ b, (B.D b).length = b.length) :
    ∀ (n : Nat) (iv y : Bytes), iv.length = B.bs → y.length = n * B.bs → (cbcDec B.D B.bs n iv y).2.length = y.length
  | 0, iv, y, _, hy => by simp [cbcDec]; simpa using hy.symm
  | k + 1, iv, y, hiv, hy => by
    have htake : (y.take B.bs).length = B.bs := by simp; rw [hy, Nat.add_mul]; omega
    simp only [cbcDec, List.length_append]
    rw [cbcDec_length B hD k _ _ htake (by simp [hy, Nat.add_mul]), xorBytes, List.length_zipWith, hD, htake, hiv]
    simp [hy, Nat.add_mul]; omega

def cbcEncS (B : BlockPerm) (s : CbcState B) (d : Bytes) (h : d.length % B.bs = 0) : CbcState B × Bytes :=
  (⟨(cbcEnc B.E B.bs (d.length / B.bs) s.1 d).1, (cbcEnc_length B _ s.1 d s.2 (div_mul_of_mod _ _ h)).2⟩,
   (cbcEnc B.E B.bs (d.length / B.bs) s.1 d).2)

def cbcDecS (B : BlockPerm) (s : CbcState B) (d : Bytes) (h : d.length % B.bs = 0) : CbcState B × Bytes :=
  (⟨(cbcDec B.D B.bs (d.length / B.bs) s.1 d).1, cbcDec_state_len B _ s.1 d s.2 (div_mul_of_mod _ _ h)⟩,
   (cbcDec B.D B.bs (d.length / B.bs) s.1 d).2)

/-- the Python objects assert that the length is a multiple of the block size -/
def cbcPrims (B : BlockPerm) (mac : CT.MacAlg) : Prims (CbcState B) where
  mac := mac
  bs := B.bs
  enc := fun s d => if h : d.length % B.bs = 0 then cbcEncS B s d h else (s, d)
  dec := fun s d => if h : d.length % B.bs = 0 then cbcDecS B s d h else (s, d)
  tagLen := 0
  aeadSeal := fun _ p _ => p
  aeadOpen := fun _ c _ => some c

def demoPerm : BlockPerm where
  bs := 4
  E := fun b => b.map (· + 1)
  D := fun b => b.map (· - 1)
  bs_pos := by decide
  bs_le := by decide
  len := fun b h => by simpa using h
  inv := fun b _ => by
    induction b with
    | nil => rfl
    | cons a as ih => simp [UInt8.add_sub_cancel, Function.comp_def]

end Tls.Rec
