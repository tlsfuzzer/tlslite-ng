import TlsProofs.Resume
/-
  C13, histories: what one operation of `step` does to the world.  Every step is either a connection
  attempt that got as far as the server's decision — then it is `Committed` (one more log record; tickets and
  server objects only added, each carrying that record's parameters or being the resumed session) on a decision
  taken on the world it started from (`DecidedOn`) — or it is `Quiet` (ticket table and log untouched, at most a
  `shutdown` / a rewrite of tickets inside one object): `step_spec`.  The invariants over `run` are read off that:
  `Ext` (objects keep their index, `resumable` never comes back) here, the origin invariant in ResumeHist.
  Before `step`, what the client side of an attempt does (`clientPrepare`, `helloOf`, `echoes_iff`); at the end,
  `lookup` and `stepClose` as C13's `invalidated_never_resumes` / `invalidated_never_offered` read them.
-/
namespace Tls.Resume

def Ext {α : Type} (res : α → Bool) (h h' : List α) : Prop :=
  ∀ (i : Nat) (s : α), h[i]? = some s → ∃ s' : α, h'[i]? = some s' ∧ (res s' = true → res s = true)

theorem Ext.refl {α : Type} (res : α → Bool) (h : List α) : Ext res h h :=
  fun _ s hs => ⟨s, hs, id⟩

theorem Ext.trans {α : Type} {res : α → Bool} {a b c : List α} (h1 : Ext res a b) (h2 : Ext res b c) :
    Ext res a c := by
  intro i s hs
  obtain ⟨s', hs', hr'⟩ := h1 i s hs
  obtain ⟨s'', hs'', hr''⟩ := h2 i s' hs'
  exact ⟨s'', hs'', fun h => hr' (hr'' h)⟩

theorem Ext.stays_off {α : Type} {res : α → Bool} {a b : List α} (h : Ext res a b) {i : Nat} {s : α}
    (hs : a[i]? = some s) (hr : res s = false) : ∃ s', b[i]? = some s' ∧ res s' = false := by
  obtain ⟨s', hs', hmono⟩ := h i s hs
  refine ⟨s', hs', ?_⟩
  cases hr' : res s' with
  | false => rfl
  | true => rw [hmono hr'] at hr; cases hr

theorem Ext.append {α : Type} (res : α → Bool) (h l : List α) : Ext res h (h ++ l) := by
  intro i s hs
  refine ⟨s, ?_, id⟩
  rw [List.getElem?_append_left (List.getElem?_eq_some_iff.mp hs).1]
  exact hs

theorem modifyAt_eq_modify {α : Type} (l : List α) (j : Nat) (f : α → α) : modifyAt l j f = l.modify j f := by
  induction l generalizing j with
  | nil => simp [modifyAt]
  | cons a r ih => cases j <;> simp [modifyAt, ih]

theorem modifyAt_getElem? {α : Type} (l : List α) (j : Nat) (f : α → α) (i : Nat) :
    (modifyAt l j f)[i]? = if i = j then l[i]?.map f else l[i]? := by
  rw [modifyAt_eq_modify, List.getElem?_modify]
  split <;> simp_all [eq_comm]

theorem modifyAt_length {α : Type} (l : List α) (j : Nat) (f : α → α) :
    (modifyAt l j f).length = l.length := by
  rw [modifyAt_eq_modify, List.length_modify]

theorem mem_modifyAt {α : Type} {l : List α} {i : Nat} {f : α → α} {x : α}
    (h : x ∈ modifyAt l i f) : x ∈ l ∨ ∃ y ∈ l, x = f y := by
  obtain ⟨k, hk⟩ := List.getElem?_of_mem h
  rw [modifyAt_getElem?] at hk
  split at hk
  · obtain ⟨y, hy, rfl⟩ := Option.map_eq_some_iff.mp hk
    exact .inr ⟨y, List.mem_of_getElem? hy, rfl⟩
  · exact .inl (List.mem_of_getElem? hk)

theorem Ext.modify {α : Type} (res : α → Bool) (h : List α) (j : Nat) (f : α → α)
    (hf : ∀ s, h[j]? = some s → res (f s) = true → res s = true) : Ext res h (modifyAt h j f) := by
  intro i s hs
  rw [modifyAt_getElem?]
  split
  · rename_i hij
    subst hij
    exact ⟨f s, by simp [hs], hf s hs⟩
  · exact ⟨s, hs, id⟩

theorem Ext.off_of_modify {α : Type} {res : α → Bool} {h h' : List α} {i : Nat} {f : α → α} (hi : i < h.length)
    (hf : ∀ s, res (f s) = false) (he : Ext res (modifyAt h i f) h') : ∃ s', h'[i]? = some s' ∧ res s' = false :=
  he.stays_off (s := f h[i]) (by rw [modifyAt_getElem?, if_pos rfl, List.getElem?_eq_getElem hi]; rfl) (hf _)

theorem Sess.shutdown_resumable (s : Sess) (r : Bool) :
    (s.shutdown r).resumable = true → s.resumable = true := by
  unfold Sess.shutdown; split <;> simp

theorem CSess.shutdown_resumable (s : CSess) (r : Bool) :
    (s.shutdown r).resumable = true → s.resumable = true := by
  unfold CSess.shutdown; split <;> simp

/-- the client takes the ServerHello for an abbreviated handshake when it echoes the session's id, or
    the random id sent along with a ticket -/
theorem echoes_iff (s : CSess) (sentSid shSid : Bytes) :
    ((!s.sessionID.isEmpty && shSid == s.sessionID) ||
      (!s.tickets10.isEmpty && !sentSid.isEmpty && shSid == sentSid)) = true ↔
    (s.sessionID ≠ [] ∧ shSid = s.sessionID) ∨ (s.tickets10 ≠ [] ∧ sentSid ≠ [] ∧ shSid = sentSid) := by
  simp [and_assoc]

theorem clientPrepare_some {s s' : CSess} {srp sni : Bytes}
    (h : clientPrepare (some s) srp sni = some (some s')) : s' = s ∧ cvalid s = true := by
  unfold clientPrepare at h
  obtain ⟨hv, h⟩ := ite_eq_right h nofun
  refine ⟨?_, by simpa using hv⟩
  obtain ⟨_, h⟩ | ⟨_, h⟩ := ite_eq_cases h
  · obtain ⟨_, h⟩ := ite_eq_right h nofun
    obtain ⟨_, h⟩ := ite_eq_right h nofun
    cases h
    rfl
  · cases h
    rfl

theorem clientPrepare_invalid {s : CSess} {srp sni : Bytes} (h : s.resumable = false) :
    clientPrepare (some s) srp sni = some none := by
  unfold clientPrepare
  simp [cvalid, h]

theorem clientPrepare_none {srp sni : Bytes} : clientPrepare none srp sni = some none := rfl

theorem pruneSess10_resumable (now : Nat) (s : CSess) : (pruneSess10 now s).resumable = s.resumable := by
  unfold pruneSess10; split <;> rfl

theorem pruneSess13_resumable (now : Nat) (s : CSess) : (pruneSess13 now s).resumable = s.resumable := by
  unfold pruneSess13; split <;> rfl

theorem clientSession_none (cs : CliSettings) (now : Nat) : clientSession cs none now = none := by
  unfold clientSession; simp

theorem clientSession_some (cs : CliSettings) (s : CSess) (now : Nat) :
    ∃ s', clientSession cs (some s) now = some s' ∧ s'.resumable = s.resumable := by
  unfold clientSession
  simp only [Option.map_some]
  split
  · exact ⟨_, rfl, by rw [pruneSess13_resumable, pruneSess10_resumable]⟩
  · exact ⟨_, rfl, pruneSess10_resumable now s⟩

theorem clientHello_some {sha : List Nat} {cs : CliSettings} {sess : Option CSess} {srp sni : Bytes}
    {now : Nat} {fsid : Bytes} {r : Option CSess} {h : Hello}
    (hh : clientHello sha cs sess srp sni now fsid = some (r, h)) :
    r = clientSession cs sess now ∧ helloOf sha cs r srp sni fsid = some h := by
  unfold clientHello at hh
  simp only [Option.map_eq_some_iff] at hh
  obtain ⟨h', hh', heq⟩ := hh
  injection heq with h1 h2
  subst h1; subst h2
  exact ⟨rfl, hh'⟩

theorem helloOf_none_offers_nothing {sha : List Nat} {cs : CliSettings} {srp sni fsid : Bytes} {h : Hello}
    (hh : helloOf sha cs none srp sni fsid = some h) :
    ticketNonEmpty h = false ∧ (h.sessionId = fsid ∨ h.sessionId = []) ∧
    (∀ ids, h.psk = some ids → ∀ id ∈ ids, ∃ c ∈ cs.pskConfigs, id.identity = c.identity ∧
        id.binder = some ⟨.external c.psk, c.hash, true⟩) := by
  unfold helloOf at hh
  simp only at hh
  injection hh with hh
  subst hh
  refine ⟨?_, ?_, ?_⟩
  · unfold ticketNonEmpty; simp only; split <;> simp_all
  · simp only; split <;> simp
  · intro ids hids id hid
    simp only [List.nil_append] at hids
    split at hids
    · injection hids with hids
      subst hids
      simp only [List.mem_map, List.mem_filter] at hid
      obtain ⟨c, ⟨hc, _⟩, hcid⟩ := hid
      exact ⟨c, hc, by rw [← hcid], by rw [← hcid]⟩
    · contradiction

def newTickets (a : HsArgs) (p : Payload) (n : Nat) : List (Bytes × Nat × Payload) :=
  match a.st.ticketKeys with
  | [] => []
  | k :: _ => (a.nst.take n).map (fun b => (b, k, p))

theorem mem_newTickets {a : HsArgs} {p : Payload} {n : Nat} {e : Bytes × Nat × Payload}
    (h : e ∈ newTickets a p n) : e.2.2 = p := by
  unfold newTickets at h
  split at h
  · cases h
  · obtain ⟨b, _, rfl⟩ := List.mem_map.mp h
    rfl

theorem issueTickets_eq (w : World) (a : HsArgs) (p : Payload) (n : Nat) :
    issueTickets w a p n = { w with sealed := w.sealed ++ newTickets a p n } := by
  unfold issueTickets newTickets
  cases a.st.ticketKeys with
  | nil => exact (congrArg (fun l => { w with sealed := l }) (List.append_nil _)).symm
  | cons k _ => rfl

@[simp] theorem purgeCache_sheap (w : World) (srv : Nat) : (w.purgeCache srv).sheap = w.sheap := rfl
@[simp] theorem purgeCache_cheap (w : World) (srv : Nat) : (w.purgeCache srv).cheap = w.cheap := rfl
@[simp] theorem cacheSet_sheap (w : World) (srv : Nat) (id : Bytes) (i : Option Nat) :
    (w.cacheSet srv id i).sheap = w.sheap := rfl
@[simp] theorem cacheSet_cheap (w : World) (srv : Nat) (id : Bytes) (i : Option Nat) :
    (w.cacheSet srv id i).cheap = w.cheap := rfl

/-- What a finished connection attempt leaves behind on the world `w` it ran on, whatever the version.  An added
    ticket or server object has the new record's number for its master secret and carries its parameters — or it is
    the very session the server resumed (a ticket resumption below TLS 1.3 makes a fresh object of it). -/
def Committed (w : World) (dec : Decision) (r : World × HsObs) : Prop :=
  r.2.dec = some dec ∧ ∃ (rec : ConnRec) (ls : List Sess) (lt : List (Bytes × Nat × Payload)),
    r.1.conns = w.conns ++ [rec] ∧ r.1.sheap = w.sheap ++ ls ∧ r.1.sealed = w.sealed ++ lt ∧
    Ext CSess.resumable w.cheap r.1.cheap ∧
    (∀ s ∈ ls, dec = .resume s ∨ s.completed = true ∧ s.secret = w.conns.length ∧ rec.params = some s.params) ∧
    (∀ e ∈ lt, e.2.2.completed = true ∧ e.2.2.secret = w.conns.length ∧ rec.params = some e.2.2.params)

/-- the attempt ran on `w1`, which is `w` but for the caches and what the ClientHello pruned from a client session -/
theorem Committed.frame {w w1 : World} {dec : Decision} {r : World × HsObs} (h : Committed w1 dec r)
    (hs : w1.sheap = w.sheap) (ht : w1.sealed = w.sealed) (hl : w1.conns = w.conns)
    (hc : Ext CSess.resumable w.cheap w1.cheap) : Committed w dec r := by
  obtain ⟨hd, rec, ls, lt, h1, h2, h3, h4, h5⟩ := h
  exact ⟨hd, rec, ls, lt, hl ▸ h1, hs ▸ h2, ht ▸ h3, hc.trans h4, hl ▸ h5⟩

theorem Committed.failed (w1 : World) (dec : Decision) (o : HsObs) (ho : o.dec = some dec) :
    Committed w1 dec ({ w1 with conns := w1.conns ++ [failRec] }, o) :=
  ⟨ho, failRec, [], [], rfl, (List.append_nil _).symm, (List.append_nil _).symm, Ext.refl _ _,
    (fun _ h => (List.not_mem_nil h).elim), (fun _ h => (List.not_mem_nil h).elim)⟩

/-- a full handshake, and every TLS 1.3 one -/
theorem Committed.fresh {w1 : World} {dec : Decision} {o : HsObs} {a : HsArgs} {p : Payload} {n : Nat}
    {rec : ConnRec} {sobj : Sess} {cobj : CSess} {caches : List (Option Cache)} (ho : o.dec = some dec)
    (hp : p.completed = true ∧ p.secret = w1.conns.length ∧ rec.params = some p.params)
    (hs : sobj.completed = true ∧ sobj.secret = w1.conns.length ∧ rec.params = some sobj.params) :
    Committed w1 dec ({ w1 with sealed := w1.sealed ++ newTickets a p n, sheap := w1.sheap ++ [sobj],
                                cheap := w1.cheap ++ [cobj], conns := w1.conns ++ [rec], caches := caches }, o) := by
  refine ⟨ho, rec, [sobj], newTickets a p n, rfl, rfl, rfl, Ext.append _ _ _, fun s h => ?_, fun e h => ?_⟩
  · cases List.mem_singleton.mp h
    exact .inr hs
  · rw [mem_newTickets h]
    exact hp

theorem commit13_committed (w1 : World) (a : HsArgs) (h0 h : Hello) (dec : Decision) (out : Outcome) :
    Committed w1 dec (commit13 w1 a h0 h dec out) := by
  unfold commit13
  simp only [issueTickets_eq]
  split
  · exact .fresh rfl ⟨rfl, rfl, rfl⟩ ⟨rfl, rfl, rfl⟩
  · exact .failed w1 dec _ rfl

theorem commit12_committed (w1 : World) (a : HsArgs) (s1 : Option CSess) (h0 h : Hello) (vc : Bool)
    (dec : Decision) (out : Outcome) : Committed w1 dec (commit12 w1 a s1 h0 h vc dec out) := by
  unfold commit12
  simp only [issueTickets_eq]
  split
  · split
    · -- resumed: the cached object itself, or a fresh object made of the ticket's session
      split
      · exact ⟨rfl, _, [], [], rfl, (List.append_nil _).symm, (List.append_nil _).symm, Ext.refl _ _,
          (fun _ h => (List.not_mem_nil h).elim), (fun _ h => (List.not_mem_nil h).elim)⟩
      · refine ⟨rfl, _, [_], [], rfl, rfl, (List.append_nil _).symm, Ext.refl _ _,
          fun s hs => ?_, (fun _ h => (List.not_mem_nil h).elim)⟩
        cases List.mem_singleton.mp hs
        exact .inl rfl
    · split <;> exact .fresh rfl ⟨rfl, rfl, rfl⟩ ⟨rfl, rfl, rfl⟩
  · exact .failed w1 dec _ rfl

@[simp] theorem prune_sheap (w : World) (o : Option Nat) (s : Option CSess) : (w.prune o s).sheap = w.sheap := by
  unfold World.prune; split <;> rfl

theorem prune_cheap_ext (w : World) (a : HsArgs) {sess0 sess1 : Option CSess} {h0 : Hello}
    (hprep : clientPrepare (a.offer.bind (w.cheap[·]?)) a.srp a.sni = some sess0)
    (hh : clientHello a.sha384 a.cs sess0 a.srp a.sni w.nowC a.freshSid = some (sess1, h0)) :
    Ext CSess.resumable w.cheap (w.prune a.offer sess1).cheap := by
  unfold World.prune
  split
  · rename_i _ _ j s hoff
    apply Ext.modify
    intro s0 hs0 hr
    have hs1 := (clientHello_some hh).1
    rw [hoff] at hprep
    simp only [Option.bind_some, hs0] at hprep
    cases sess0 with
    | none => rw [clientSession_none] at hs1; contradiction
    | some s0' =>
      have := (clientPrepare_some hprep).1
      subst this
      obtain ⟨s', hs', hres⟩ := clientSession_some a.cs s0' w.nowC
      rw [hs'] at hs1
      injection hs1 with hs1
      subst hs1
      rw [← hres]; exact hr
  · exact Ext.refl _ _

/-- `dec` is a value of the server's decision function on the ticket table, cache and server clock of `w`, for some
    hello (and PRF hash): all that the origin invariant asks of it (`InvAt.decided`) -/
def DecidedOn (w : World) (a : HsArgs) (dec : Decision) : Prop :=
  (is13 a.ver = true ∧ ∃ prf h, dec = if a.negFail then .alert .handshake_failure
      else serverResume13 (w.env a.sha384) a.st w.nowS a.ver prf h) ∨
  (is13 a.ver = false ∧ ∃ h, dec = negAdjust a.negFail
      (serverResume12 (w.env a.sha384) (w.lookup a.srv) w.nowS a.st h))

/-- `(w, HsObs.err)`: the attempt stops before anything is sent (ValueError) -/
theorem stepHs_spec (w : World) (a : HsArgs) :
    stepHs w a = (w, HsObs.err) ∨ ∃ dec, Committed w dec (stepHs w a) ∧ DecidedOn w a dec := by
  unfold stepHs
  cases hprep : clientPrepare (a.offer.bind (w.cheap[·]?)) a.srp a.sni with
  | none => exact .inl rfl
  | some sess0 =>
    simp only
    cases hh : clientHello a.sha384 a.cs sess0 a.srp a.sni w.nowC a.freshSid with
    | none => exact .inl rfl
    | some p =>
      obtain ⟨sess1, h0⟩ := p
      -- pruning touches the client's session objects only
      have hp : (w.prune a.offer sess1).sealed = w.sealed ∧ (w.prune a.offer sess1).conns = w.conns ∧
          (w.prune a.offer sess1).nowS = w.nowS ∧ (w.prune a.offer sess1).lookup = w.lookup := by
        unfold World.prune; split <;> exact ⟨rfl, rfl, rfl, rfl⟩
      have hx := prune_cheap_ext w a hprep hh
      right
      simp only [hp.2.2.1, hp.2.2.2]
      cases h13 : is13 a.ver with
      | true => exact ⟨_, (commit13_committed ..).frame (prune_sheap ..) hp.1 hp.2.1 hx, .inl ⟨h13, _, _, rfl⟩⟩
      | false =>
        simp only [Bool.false_eq_true, if_false]
        refine ⟨_, ?_, .inr ⟨h13, a.edits.foldl applyEdit h0, rfl⟩⟩
        split
        · exact (commit12_committed ..).frame (prune_sheap ..) hp.1 hp.2.1 hx
        · exact (commit12_committed ..).frame (prune_sheap ..) hp.1 hp.2.1 hx

theorem stepHs_decided {w : World} {a : HsArgs} {d : Decision} (hd : (stepHs w a).2.dec = some d) :
    DecidedOn w a d := by
  rcases stepHs_spec w a with h | ⟨dec, hc, hdec⟩
  · rw [h] at hd; cases hd
  · cases hc.1.symm.trans hd
    exact hdec

theorem Committed.ext {w : World} {dec : Decision} {r : World × HsObs} (h : Committed w dec r) :
    Ext Sess.resumable w.sheap r.1.sheap ∧ Ext CSess.resumable w.cheap r.1.cheap := by
  obtain ⟨_, _, ls, _, _, h2, _, h4, _⟩ := h
  rw [h2]
  exact ⟨Ext.append _ _ _, h4⟩

def Quiet (w w' : World) : Prop :=
  w'.sealed = w.sealed ∧ w'.conns = w.conns ∧
  (w'.sheap = w.sheap ∨ ∃ i b, w'.sheap = modifyAt w.sheap i (·.shutdown b)) ∧
  (w'.cheap = w.cheap ∨ ∃ j f, w'.cheap = modifyAt w.cheap j f ∧ ∀ s, (f s).resumable = true → s.resumable = true)

theorem Quiet.refl (w : World) : Quiet w w := ⟨rfl, rfl, .inl rfl, .inl rfl⟩

theorem stepClose_quiet (w : World) (k : Nat) (ck : CloseKind) : Quiet w (stepClose w k ck) := by
  unfold stepClose
  cases w.conns[k]? with
  | none => exact .refl w
  | some c =>
    rcases c with ⟨_ | j, _ | i, _, _⟩
    · exact .refl w
    · exact ⟨rfl, rfl, .inr ⟨_, _, rfl⟩, .inl rfl⟩
    · exact ⟨rfl, rfl, .inl rfl, .inr ⟨_, _, rfl, fun s => CSess.shutdown_resumable s _⟩⟩
    · exact ⟨rfl, rfl, .inr ⟨_, _, rfl⟩, .inr ⟨_, _, rfl, fun s => CSess.shutdown_resumable s _⟩⟩

theorem Quiet.ext {w w' : World} (h : Quiet w w') :
    Ext Sess.resumable w.sheap w'.sheap ∧ Ext CSess.resumable w.cheap w'.cheap := by
  obtain ⟨_, _, hs, hc⟩ := h
  constructor
  · rcases hs with h | ⟨i, b, h⟩ <;> rw [h]
    · exact Ext.refl _ _
    · exact Ext.modify _ _ _ _ fun s _ => Sess.shutdown_resumable s b
  · rcases hc with h | ⟨j, f, h, hf⟩ <;> rw [h]
    · exact Ext.refl _ _
    · exact Ext.modify _ _ _ _ fun s _ => hf s

theorem cacheFill_frame (srv : Nat) (ids : List Bytes) (w : World) :
    (ids.foldl (fun w id => w.cacheSet srv id none) w).sheap = w.sheap ∧
    (ids.foldl (fun w id => w.cacheSet srv id none) w).cheap = w.cheap ∧
    (ids.foldl (fun w id => w.cacheSet srv id none) w).sealed = w.sealed ∧
    (ids.foldl (fun w id => w.cacheSet srv id none) w).conns = w.conns := by
  induction ids generalizing w with
  | nil => exact ⟨rfl, rfl, rfl, rfl⟩
  | cons id r ih => simp only [List.foldl_cons]; exact ih _

theorem tamperSess_resumable (s : CSess) (b : Bytes) : (tamperSess s b).resumable = s.resumable := by
  unfold tamperSess; split <;> rfl

theorem step_spec (w : World) (op : Op) :
    (∃ a dec, op = .hs a ∧ Committed w dec (stepHs w a) ∧ DecidedOn w a dec) ∨ Quiet w (step w op) := by
  cases op with
  | hs a =>
    rcases stepHs_spec w a with h | ⟨dec, hc, hd⟩
    · exact .inr (by simp only [step, h]; exact .refl w)
    · exact .inl ⟨a, dec, rfl, hc, hd⟩
  | close k ck => exact .inr (stepClose_quiet w k ck)
  | tick c dt => cases c <;> exact .inr (.refl w)
  | newServer c => cases c <;> exact .inr (.refl w)
  | cacheFill srv ids =>
    obtain ⟨hs, hc, ht, hl⟩ := cacheFill_frame srv ids w
    exact .inr ⟨ht, hl, .inl hs, .inl hc⟩
  | tamper j b => exact .inr ⟨rfl, rfl, .inl rfl, .inr ⟨_, _, rfl, fun s h => tamperSess_resumable s b ▸ h⟩⟩

theorem step_ext (w : World) (op : Op) :
    Ext Sess.resumable w.sheap (step w op).sheap ∧ Ext CSess.resumable w.cheap (step w op).cheap := by
  rcases step_spec w op with ⟨a, dec, rfl, hc, _⟩ | h
  · exact hc.ext
  · exact h.ext

theorem run_ext (w : World) (ops : List Op) :
    Ext Sess.resumable w.sheap (run w ops).sheap ∧ Ext CSess.resumable w.cheap (run w ops).cheap := by
  induction ops generalizing w with
  | nil => exact ⟨Ext.refl _ _, Ext.refl _ _⟩
  | cons op r ih => exact ⟨(step_ext w op).1.trans (ih _).1, (step_ext w op).2.trans (ih _).2⟩

theorem lookup_eq_bind (w : World) (srv : Nat) (id : Bytes) :
    w.lookup srv id = (w.lookupIdx srv id).bind (fun i => w.sheap[i]?) := by
  unfold World.lookup World.lookupIdx
  split
  · rename_i c _
    cases hf : (c.purge w.nowS).find id with
    | none => simp
    | some o => cases o <;> simp
  · simp

theorem stepClose_sheap {w : World} {k : Nat} {c : ConnRec} {i : Nat} (ck : CloseKind)
    (hk : w.conns[k]? = some c) (hs : c.sobj = some i) :
    (stepClose w k ck).sheap = modifyAt w.sheap i (·.shutdown (!ck.serverFatal)) := by
  unfold stepClose
  rw [hk]
  simp only [hs]
  cases c.cobj <;> rfl

theorem stepClose_cheap {w : World} {k : Nat} {c : ConnRec} {j : Nat} (ck : CloseKind)
    (hk : w.conns[k]? = some c) (hs : c.cobj = some j) :
    (stepClose w k ck).cheap = modifyAt w.cheap j (·.shutdown (!ck.clientFatal)) := by
  unfold stepClose
  rw [hk]
  simp only [hs]
  cases c.sobj <;> rfl

end Tls.Resume
