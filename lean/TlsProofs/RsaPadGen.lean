import TlsProofs.PyRt
import TlsProofs.RsaBasic
import TlsProofs.RsaPss
/-
  Link between the Python-runtime model `Tls.PyE` and C10's hand-written RSA model (TlsModel/Rsa.lean): the RSAKey
  object a key / hash / random source describe (`padSelf`), the translation of the model's errors (`liftP`, a monad
  morphism), and the few runtime expressions whose value is a function of the hand model.  What is tagged `pyrt`
  here extends the set of TlsProofs/PyRt.lean for Props/C10.lean, where the equalities `Gen.f = model` are.
-/
namespace Tls.Rsa
open Tls.Py Tls.PyE

/-- the RSAKey object the hand model's key, hash and randomness describe: `_rawPublicKeyOp` is
    `pow(c, e, n)`, `_rawPrivateKeyOp` an arbitrary function, `secureHash(·, H.name)` is `H.hash`,
    `getRandomBytes` returns `salt` -/
def padSelf (k : PubKey) (H : HashAlg) (privOp : Nat → Nat) (hasPriv : Bool) (salt : Bytes) : PyE.RsaSelf :=
  { n := (k.n : Int), d := 0, keyType := if k.pssOnly then "rsa-pss" else "rsa", hasPrivateKey := hasPriv,
    keyHash := none, sha256 := fun _ => [], hmac := fun _ _ => [],
    privOp := fun x => (privOp x.toNat : Int),
    pubOp := fun x => (rawPublicKeyOp k x.toNat : Int),
    hashFn := fun name d => if name = H.name then H.hash d else [],
    digestSize := fun name => if name = H.name then some (H.hLen : Int) else none,
    random := fun _ => salt }

def Err.toE : Err → PyE.Err
  | .valueError => .valueError
  | .invalidSignature => .invalidSignature
  | .encodingError => .encodingError
  | .messageTooLong => .messageTooLong
  | .maskTooLong => .maskTooLong
  | .indexError => .indexError
  | .assertionError => .assertionError
  | .unknownRSAType => .unknownRSAType
  | .arith => .zeroDivisionError

def liftP {α : Type} : Except Err α → PyE.M α
  | .ok a => .ok a
  | .error e => .error e.toE

-- `Eq.trans rfl rfl`, not `rfl`, here and below: see TlsProofs/PyInt.lean on `rfl` lemmas under `simp`
theorem liftP_ok {α : Type} (a : α) : liftP (.ok a : Except Err α) = .ok a := Eq.trans rfl rfl
theorem liftP_err {α : Type} (e : Err) : liftP (.error e : Except Err α) = .error e.toE := Eq.trans rfl rfl
theorem liftP_bind {α β : Type} (x : Except Err α) (f : α → Except Err β) :
    liftP (x.bind f) = Except.bind (liftP x) (fun a => liftP (f a)) := by cases x <;> rfl
theorem liftP_map {α β : Type} (x : Except Err α) (g : α → β) :
    liftP (Except.map g x) = Except.map g (liftP x) := by cases x <;> rfl

theorem liftP_eq_ok {α : Type} {x : Except Err α} {a : α} : liftP x = .ok a ↔ x = .ok a := by
  cases x <;> simp [liftP]
theorem liftP_map_true_eq_ok {x : Except Err Unit} : liftP (x.map fun _ => true) = .ok true ↔ x = .ok () := by
  cases x <;> simp [liftP, Except.map]

theorem liftP_elim {α β : Type} (o : Option α) (e : Err) (f : α → Except Err β) :
    liftP (o.elim (.error e) f) = o.elim (.error e.toE) fun a => liftP (f a) := by cases o <;> rfl
theorem map_elim {α β γ : Type} (o : Option α) (e : Err) (f : α → Except Err β) (g : β → γ) :
    Except.map g (o.elim (.error e) f) = o.elim (.error e) fun a => Except.map g (f a) := by cases o <;> rfl
theorem map_bind {α β γ : Type} (x : Except Err α) (f : α → Except Err β) (g : β → γ) :
    Except.map g (x.bind f) = x.bind fun a => Except.map g (f a) := by cases x <;> rfl

theorem numBits_eq (n : Nat) : Tls.RsaDec.numBits n = numBits n := Eq.trans rfl rfl
theorem numBytes_eq (n : Nat) : Tls.RsaDec.numBytes n = numBytes n := Eq.trans rfl rfl
theorem pyNumBytes (n : Nat) : PyE.numBytes (n : Int) = (numBytes n : Int) := Tls.RsaDec.numBytes_nat n
theorem pyNumBits (n : Nat) : PyE.numBits (n : Int) = (numBits n : Int) := Tls.RsaDec.numBits_nat n

section
variable (k : PubKey) (H : HashAlg) (f : Nat → Nat) (hp : Bool) (s : Bytes)

theorem padSelf_n :
    (padSelf k H f hp s).n = (k.n : Int) := Eq.trans rfl rfl
theorem padSelf_pub (x : Nat) :
    (padSelf k H f hp s).pubOp (x : Int) = (rawPublicKeyOp k x : Int) := by
  show ((rawPublicKeyOp k (x : Int).toNat : Nat) : Int) = _
  rw [Int.toNat_natCast]
theorem padSelf_priv (x : Nat) :
    (padSelf k H f hp s).privOp (x : Int) = (f x : Int) := by
  show ((f (x : Int).toNat : Nat) : Int) = _
  rw [Int.toNat_natCast]
theorem padSelf_keyType :
    (padSelf k H f hp s).keyType = (if k.pssOnly then "rsa-pss" else "rsa") := Eq.trans rfl rfl
theorem padSelf_hash (d : Bytes) :
    (padSelf k H f hp s).hashFn H.name d = H.hash d := by
  show (if H.name = H.name then H.hash d else []) = _
  simp
theorem padSelf_digestSize :
    PyE.getDigestSize (padSelf k H f hp s) H.name = .ok (H.hLen : Int) := by
  show (match (if H.name = H.name then some (H.hLen : Int) else none) with | some n => _ | none => _) = _
  simp
theorem padSelf_random (n : Int) :
    (padSelf k H f hp s).random n = s := Eq.trans rfl rfl
theorem padSelf_hasPriv :
    (padSelf k H f hp s).hasPrivateKey = hp := Eq.trans rfl rfl

end

/-- the `_rawPrivateKeyOp` handed to `padSelf` on the signing side: the hand model's blinded CRT operation at
    blinding state `st` with random number `rnd`, its result only -/
def privOf (k : PrivKey) (st : Blind) (rnd : Nat) : Nat → Nat := fun m => (rawPrivateKeyOp k st rnd m).1

theorem divceil_def (a b : Nat) : divceil a b = a / b + (if a % b = 0 then 0 else 1) := Eq.trans rfl rfl

/-- `bytearray(i ^ j for i, j in zip(a, b))` -/
theorem xor_zip_eq : ∀ (a b : Bytes),
    Py.bytearrayOfInts ((PyE.zipBytes a b).map fun xy => Py.bxor xy.1 xy.2) = some (xorBytes a b)
  | [], _ => rfl
  | _ :: _, [] => rfl
  | x :: xs, y :: ys => by
    have ih := xor_zip_eq xs ys
    unfold Py.bytearrayOfInts at ih ⊢
    unfold xorBytes PyE.zipBytes at *
    simp only [List.zipWith_cons_cons, List.map_cons, List.mapM_cons, bxor_nat]
    have h3 : x.toNat ^^^ y.toNat < 2^8 := Nat.xor_lt_two_pow x.toNat_lt y.toNat_lt
    have hb : (0 : Int) ≤ ((x.toNat ^^^ y.toNat : Nat) : Int) ∧ ((x.toNat ^^^ y.toNat : Nat) : Int) < 256 := by omega
    simp only [hb, and_self, if_true, Int.toNat_natCast]
    rw [ih]
    have : UInt8.ofNat (x.toNat ^^^ y.toNat) = x ^^^ y := by
      apply UInt8.toNat_inj.mp
      rw [UInt8.toNat_ofNat', UInt8.toNat_xor]
      exact Nat.mod_eq_of_lt h3
    rw [this]
    rfl

/-- `db[0] &= mask`, after `db[0]` has been read and `&` computed -/
theorem setItem_head_and {γ : Type} (db : Bytes) (mask : Nat) (g : Bytes → PyE.M γ) :
    (db.head?.elim (.error .indexError) fun a => (PyE.setItem db 0 ((a.toNat &&& mask : Nat) : Int)).bind g) =
      (liftP (maskHead mask db)).bind g := by
  cases db with
  | nil => rfl
  | cons x xs =>
    show (PyE.setItem (x :: xs) 0 ((x.toNat &&& mask : Nat) : Int)).bind g = _
    unfold PyE.setItem
    have hlt : x.toNat &&& mask < 256 := Nat.lt_of_le_of_lt Nat.and_le_left x.toNat_lt
    have h1 : ¬ ((0 : Int) < 0) := by decide
    have h3 : ¬ (((x.toNat &&& mask : Nat) : Int) < 0 ∨ ((x.toNat &&& mask : Nat) : Int) ≥ 256) := by omega
    simp only [h1, if_false, h3, Int.toNat_natCast]
    rfl

theorem err_bind' {α β : Type} (e : PyE.Err) (f : α → PyE.M β) : (Except.error e : PyE.M α).bind f = .error e :=
  Eq.trans rfl rfl
attribute [pyrt] err_bind' xor_zip_eq

theorem liftP_ite {α : Type} (c : Prop) [Decidable c] (x y : Except Err α) :
    liftP (if c then x else y) = if c then liftP x else liftP y := apply_ite liftP c x y
attribute [pyrt] liftP_ok liftP_err liftP_bind liftP_elim liftP_ite Err.toE padSelf_n padSelf_pub padSelf_priv padSelf_keyType
  padSelf_hash padSelf_digestSize padSelf_random padSelf_hasPriv decide_eq_true_eq

/-- the `Int` length expressions of the generated PSS code, casts moved outwards, for `emLen = ⌈emBits / 8⌉` -/
theorem pss_length_casts (emLen hLen sLen emBits : Nat) (h : hLen + sLen + 2 ≤ emLen)
    (hb1 : emBits ≤ 8 * emLen) (hb2 : 8 * emLen < emBits + 8) :
    ((emLen : Int) - hLen - (1 : Nat) = ((emLen - hLen - 1 : Nat) : Int)) ∧
    ((emLen : Int) - hLen - sLen - (2 : Nat) = ((emLen - hLen - sLen - 2 : Nat) : Int)) ∧
    ((emLen : Int) - sLen - hLen - (2 : Nat) = ((emLen - sLen - hLen - 2 : Nat) : Int)) ∧
    (((8 : Nat) : Int) - (((8 * emLen : Nat) : Int) - emBits) = ((8 - (8 * emLen - emBits) : Nat) : Int)) ∧
    (((8 : Nat) : Int) - (((emLen * 8 : Nat) : Int) - emBits) = ((8 - (emLen * 8 - emBits) : Nat) : Int)) := by
  refine ⟨?_, ?_, ?_, ?_, ?_⟩ <;> omega

/-- `result = EMSA_PSS_verify(…); if result: return True; raise InvalidSignature` on a callee that returns True or raises -/
theorem bind_true_or_raise (r : Except Err Unit) (e : PyE.Err) :
    Except.bind (liftP (Except.map (fun _ => true) r)) (fun b => if b = true then .ok true else .error e) =
      liftP (Except.map (fun _ => true) r) := by cases r <;> rfl

theorem map_ite {α β : Type} (g : α → β) (c : Prop) [Decidable c] (x y : Except Err α) :
    Except.map g (if c then x else y) = if c then Except.map g x else Except.map g y := apply_ite _ c x y
attribute [pyrt] bind_true_or_raise map_elim map_bind map_ite Except.map.eq_1 Except.map.eq_2 Nat.add_sub_cancel_left

end Tls.Rsa
