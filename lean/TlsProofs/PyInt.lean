import TlsModel.PyInt
import TlsProofs.CT
/-
  Facts about the Python-runtime model `Tls.Py` (TlsModel/PyInt.lean): Python's bit operations on non-negative ints
  are the `Nat` ones, and `x & (2^32-1)` is `x mod 2^32` for every integer `x`, negative ones included.
  A generated function is followed statement by statement with `bind_eq_of`, `Returns` and `forIn_range_sim`.
  Nothing here mentions the generated module; the equalities `Gen.f = model` are in Props/C12.lean.
-/
namespace Tls.Py
open Tls Tls.CT

/-! Stated through `Eq.trans` on purpose: a lemma proved by a bare `rfl` is used by `simp` as a
  definitional step without proof term, and the kernel then has to rediscover it on a very large goal. -/
theorem band_nat (a b : Nat) : band (a : Int) (b : Int) = ((a &&& b : Nat) : Int) := Eq.trans rfl rfl
theorem bor_nat (a b : Nat) : bor (a : Int) (b : Int) = ((a ||| b : Nat) : Int) := Eq.trans rfl rfl
theorem bxor_nat (a b : Nat) : bxor (a : Int) (b : Int) = ((a ^^^ b : Nat) : Int) := Eq.trans rfl rfl
theorem band_nat_one (a : Nat) : band (a : Int) 1 = ((a &&& 1 : Nat) : Int) := band_nat a 1
theorem band_nat_255 (a : Nat) : band (a : Int) 255 = ((a &&& 255 : Nat) : Int) := Eq.trans rfl rfl
theorem bxor_one_nat (b : Nat) : bxor 1 (b : Int) = ((1 ^^^ b : Nat) : Int) := bxor_nat 1 b
theorem bor_zero_nat (b : Nat) : bor 0 (b : Int) = (b : Int) := by
  show ((0 ||| b : Nat) : Int) = b
  simp

theorem shl_nat (a k : Nat) : shl (a : Int) k = ((a <<< k : Nat) : Int) := by
  unfold shl
  rw [Nat.shiftLeft_eq]
  simp

theorem shr_nat (a k : Nat) : shr (a : Int) k = ((a >>> k : Nat) : Int) := by
  unfold shr
  rw [Nat.shiftRight_eq_div_pow, Int.natCast_ediv]
  simp

theorem xor_mask (w r : Nat) (h : r < 2 ^ w) : (2 ^ w - 1) ^^^ r = 2 ^ w - 1 - r := by
  have h1 : (~~~ (BitVec.ofNat w r)).toNat = 2 ^ w - 1 - (BitVec.ofNat w r).toNat := BitVec.toNat_not
  rw [BitVec.not_def, BitVec.toNat_xor, BitVec.toNat_allOnes, BitVec.toNat_ofNat, Nat.mod_eq_of_lt h] at h1
  exact h1

theorem band_mask (w : Nat) (x : Int) : band x ((2 ^ w - 1 : Nat) : Int) = x % ((2 ^ w : Nat) : Int) := by
  have hm (a : Nat) : a &&& (2 ^ w - 1) = a % 2 ^ w := Nat.and_two_pow_sub_one_eq_mod a w
  have hp : 0 < 2 ^ w := Nat.two_pow_pos w
  cases x with
  | ofNat a =>
    show ((a &&& (2 ^ w - 1) : Nat) : Int) = (a : Int) % _
    rw [hm]; omega
  | negSucc m =>
    show (((2 ^ w - 1) ^^^ ((2 ^ w - 1) &&& m) : Nat) : Int) = Int.negSucc m % _
    have hlt := Nat.mod_lt m hp
    rw [Nat.and_comm, hm, xor_mask _ _ hlt, Int.negSucc_emod _ (by omega), ← Int.natCast_emod]
    omega

theorem band_mask32 (x : Int) : band x 4294967295 = x % 4294967296 := band_mask 32 x

theorem band_mask32_nat (a : Nat) : band (a : Int) 4294967295 = ((BitVec.ofNat 32 a).toNat : Int) := by
  rw [band_mask32, BitVec.toNat_ofNat]; omega

theorem band_mask32_int (a : Int) : band a 4294967295 = ((BitVec.ofInt 32 a).toNat : Int) := by
  rw [band_mask32, BitVec.toNat_ofInt]; omega

theorem band_sub_bv (u v : BitVec 32) :
    band ((u.toNat : Int) - (v.toNat : Int)) 4294967295 = ((u - v).toNat : Int) := by
  rw [band_mask32, BitVec.toNat_sub]
  omega

theorem band_neg_bv (u : BitVec 32) :
    band (-(u.toNat : Int)) 4294967295 = ((0 - u).toNat : Int) := by
  rw [← Int.zero_sub]
  exact band_sub_bv 0 u

theorem bxor_bv (u v : BitVec 32) : bxor (u.toNat : Int) (v.toNat : Int) = ((u ^^^ v).toNat : Int) := by
  rw [bxor_nat, BitVec.toNat_xor]

theorem bor_bv (u v : BitVec 32) : bor (u.toNat : Int) (v.toNat : Int) = ((u ||| v).toNat : Int) := by
  rw [bor_nat, BitVec.toNat_or]

theorem shr_bv (u : BitVec 32) (k : Nat) : shr (u.toNat : Int) k = ((u >>> k).toNat : Int) := by
  rw [shr_nat, BitVec.toNat_ushiftRight]

theorem bind_some' {α β : Type} (a : α) (f : α → Option β) : (some a).bind f = f a :=
  (Option.bind_some a f).trans (Eq.refl _)

theorem macCopy_eq (m : MacObj) : macCopy m = m := Eq.trans rfl rfl
theorem macUpdate_mk (a : MacAlg) (x b : Bytes) : macUpdate ⟨a, x⟩ b = ⟨a, x ++ b⟩ := Eq.trans rfl rfl
theorem macDigest_mk (a : MacAlg) (x : Bytes) : macDigest ⟨a, x⟩ = a.digest x := Eq.trans rfl rfl
theorem macDigestSize_mk (a : MacAlg) (x : Bytes) : macDigestSize ⟨a, x⟩ = (a.dlen : Int) := Eq.trans rfl rfl
theorem macBlockSize_mk (a : MacAlg) (x : Bytes) : macBlockSize ⟨a, x⟩ = (a.blockSize : Int) := Eq.trans rfl rfl
theorem len_eq (d : Bytes) : len d = (d.length : Int) := Eq.trans rfl rfl

theorem getItem_nat (d : Bytes) (i : Nat) (h : i < d.length) :
    getItem d (i : Int) = some (byteAt d i : Int) := by
  unfold getItem
  have h1 : ¬ ((i : Int) < 0) := by omega
  simp only [h1, if_false, Int.toNat_natCast]
  rw [byteAt_eq_getElem d i h, List.getElem?_eq_getElem h]
  rfl

theorem max2_zero (x : Int) : max2 0 x = (x.toNat : Int) := by
  unfold max2
  by_cases h : (0 : Int) < x
  · simp only [h, if_true]; omega
  · simp only [h, if_false]; omega

/-- `max(0, a - b - c)` on non-negative ints, after `max2_zero` -/
theorem toNat_sub_sub (a b c : Nat) : ((a : Int) - (b : Int) - (c : Int)).toNat = a - b - c := by
  rw [Int.sub_sub, Nat.sub_sub, ← Int.natCast_add]; exact Int.toNat_sub _ _

theorem floordiv_nat (a b : Nat) (hb : 0 < b) :
    floordiv (a : Int) (b : Int) = some ((a / b : Nat) : Int) := by
  unfold floordiv
  have h1 : ¬ ((b : Int) = 0) := by omega
  simp only [h1, if_false]
  rw [Int.fdiv_eq_ediv_of_nonneg _ (by omega), Int.natCast_ediv]

theorem bytearrayOfInts_one (n : Nat) (h : n < 256) :
    bytearrayOfInts [(n : Int)] = some [UInt8.ofNat n] := by
  have h1 : (0 : Int) ≤ (n : Int) ∧ (n : Int) < 256 := by omega
  simp [bytearrayOfInts, h1]

theorem sliceBound_nat (n k : Nat) : sliceBound n (k : Int) = if k < n then k else n := by
  unfold sliceBound
  have h1 : ¬ ((k : Int) < 0) := by omega
  simp only [h1, if_false, Int.toNat_natCast]

theorem slice_to (d : Bytes) (k : Nat) : slice d none (some (k : Int)) = d.take k := by
  unfold slice
  simp only [sliceBound_nat, List.drop_zero, Nat.sub_zero]
  by_cases h : k < d.length
  · simp only [h, if_true]
  · simp only [h, if_false]
    rw [List.take_of_length_le (Nat.le_refl _), List.take_of_length_le (by omega)]

theorem slice_from_to (d : Bytes) (a b : Nat) (ha : a ≤ d.length) (hb : b ≤ d.length) :
    slice d (some (a : Int)) (some (b : Int)) = (d.drop a).take (b - a) := by
  unfold slice
  simp only [sliceBound_nat]
  have e : ∀ k, k ≤ d.length → (if k < d.length then k else d.length) = k := by
    intro k hk; split <;> omega
  rw [e a ha, e b hb]

theorem bind_eq_of {α β : Type} {x : Option α} {f : α → Option β} {r : Option β} (a : α)
    (hx : x = some a) (hf : f a = r) : x.bind f = r := by
  rw [hx]; exact hf

def Returns {α : Type} (x : Option α) (Q : α → Prop) : Prop := ∃ a, x = some a ∧ Q a

theorem Returns.pure {α : Type} {Q : α → Prop} {a : α} (h : Q a) : Returns (some a) Q := ⟨a, rfl, h⟩

theorem Returns.bind {α β : Type} {x : Option α} {f : α → Option β} {P : α → Prop} {Q : β → Prop}
    (hx : Returns x P) (hf : ∀ a, P a → Returns (f a) Q) : Returns (x.bind f) Q := by
  obtain ⟨a, rfl, ha⟩ := hx
  exact hf a ha

theorem Returns.bind_eq {α β : Type} {x : Option α} {f : α → Option β} {P : α → Prop} {r : Option β}
    (hx : Returns x P) (hf : ∀ a, P a → f a = r) : x.bind f = r := by
  obtain ⟨a, rfl, ha⟩ := hx
  exact hf a ha

/-- A loop whose body may raise, simulated by a fold of the model under a relation `R`.
    `m` is `Option` for `Py.forIn` and `Except` for `PyE.forInL`; `φ` embeds the model's items. -/
theorem foldlM_sim {m : Type → Type} [Monad m] [LawfulMonad m] {α β σ τ : Type} (R : σ → τ → Prop)
    (body : σ → α → m σ) (φ : β → α) (g : τ → β → τ) :
    ∀ (l : List β), (∀ x ∈ l, ∀ s t, R s t → ∃ s', body s (φ x) = pure s' ∧ R s' (g t x)) →
      ∀ s t, R s t → ∃ s', (l.map φ).foldlM body s = pure s' ∧ R s' (l.foldl g t)
  | [], _, s, t, h0 => ⟨s, rfl, h0⟩
  | x :: l, h, s, t, h0 => by
    obtain ⟨s1, e1, h1⟩ := h x List.mem_cons_self s t h0
    rw [List.map_cons, List.foldlM_cons, e1, pure_bind]
    exact foldlM_sim R body φ g l (fun y hy => h y (List.mem_cons_of_mem _ hy)) s1 _ h1

theorem range_nat (a b : Nat) : range (a : Int) (b : Int) = (List.range' a (b - a)).map Nat.cast := by
  have e : ((b : Int) - (a : Int)).toNat = b - a := by omega
  rw [range, e, ← Nat.add_zero a, ← List.map_add_range', List.map_map, Nat.add_zero]
  exact List.map_congr_left fun k _ => (Int.natCast_add a k).symm

theorem forIn_range_sim {σ τ : Type} (R : σ → τ → Prop) (a b : Nat) (body : Int → σ → Option σ) (g : τ → Nat → τ)
    (h : ∀ k s t, a ≤ k → k < b → R s t → Returns (body (k : Int) s) fun s' => R s' (g t k))
    (s : σ) (t : τ) (h0 : R s t) :
    Returns (forIn (range (a : Int) (b : Int)) s body) fun s' => R s' ((List.range' a (b - a)).foldl g t) := by
  rw [forIn, range_nat]
  exact foldlM_sim R (fun s i => body i s) Nat.cast g _
    (fun k hk s t => have := List.mem_range'_1.mp hk; h k s t this.1 (by omega)) s t h0

theorem forIn_range {σ : Type} (a b : Nat) (init : σ) (body : Int → σ → Option σ) (g : Nat → σ → σ)
    (h : ∀ k st, a ≤ k → k < b → body (k : Int) st = some (g k st)) :
    forIn (range (a : Int) (b : Int)) init body =
      some ((List.range' a (b - a)).foldl (fun st k => g k st) init) := by
  obtain ⟨_, e, rfl⟩ := forIn_range_sim (fun s t => s = t) a b body (fun st k => g k st)
    (fun k s _ h1 h2 hs => ⟨_, hs ▸ h k s h1 h2, rfl⟩) init init rfl
  exact e

theorem forIn_range0 {σ : Type} (b : Nat) (init : σ) (body : Int → σ → Option σ) (g : Nat → σ → σ)
    (h : ∀ k st, k < b → body (k : Int) st = some (g k st)) :
    forIn (range 0 (b : Int)) init body = some ((List.range b).foldl (fun st k => g k st) init) := by
  rw [List.range_eq_range']
  exact forIn_range 0 b init body g fun k st _ hk => h k st hk

theorem foldl_or_init (l : List Nat) (f : Nat → Nat) (a : Nat) :
    l.foldl (fun r i => r ||| f i) a = a ||| orFold l f := by
  unfold orFold
  induction l generalizing a with
  | nil => simp
  | cons x xs ih =>
    simp only [List.foldl_cons]
    rw [ih (a ||| f x), ih (0 ||| f x), Nat.zero_or, Nat.or_assoc]

/-- `for k in range(a, b): result |= f(k)`, where `res` reads the result out of the loop state -/
theorem returns_orLoop {σ : Type} (res : σ → Int) (f : Nat → Nat) (a b : Nat) (body : Int → σ → Option σ)
    (s : σ) (r0 : Nat) (h0 : res s = r0)
    (h : ∀ k s (r : Nat), a ≤ k → k < b → res s = r →
      Returns (body (k : Int) s) fun s' => res s' = ((r ||| f k : Nat) : Int)) :
    Returns (forIn (range (a : Int) (b : Int)) s body) fun s' =>
      res s' = ((r0 ||| orFold (List.range' a (b - a)) f : Nat) : Int) := by
  rw [← foldl_or_init]
  exact forIn_range_sim (fun s (r : Nat) => res s = r) a b body (fun r k => r ||| f k) h s r0 h0

theorem bytearrayOfInts_shr8 (n : Nat) (h : n < 65536) :
    bytearrayOfInts [shr (n : Int) 8] = some [UInt8.ofNat (n >>> 8)] := by
  rw [shr_nat, bytearrayOfInts_one]
  rw [Nat.shiftRight_eq_div_pow]; omega

theorem bytearrayOfInts_and255 (n : Nat) :
    bytearrayOfInts [band (n : Int) 255] = some [UInt8.ofNat (n &&& 255)] := by
  rw [band_nat_255, bytearrayOfInts_one]
  have := @Nat.and_le_right n 255
  omega

end Tls.Py

namespace Tls.CT
open Tls Tls.Py

/-- what `data_mac` has absorbed before the fragment, piece by piece as the source appends it, is `macHeader` -/
theorem header_eq (seq : Bytes) (ct : UInt8) (vmaj vmin n : Nat) :
    seq ++ [ct] ++ (if isSsl3 vmaj vmin = true then [] else [UInt8.ofNat vmaj] ++ [UInt8.ofNat vmin])
      ++ [UInt8.ofNat (n >>> 8)] ++ [UInt8.ofNat (n &&& 255)] = macHeader seq ct vmaj vmin n := by
  unfold macHeader
  cases isSsl3 vmaj vmin <;> simp

/-- All that `gen_ct_check_cbc_mac_and_pad_eq` (Props/C12.lean) needs of the version: the source's
    `assert version in (…)` passes, its two SSLv3 tests are `isSsl3`, and both numbers are bytes. -/
theorem ver_facts (vmaj vmin : Nat) (hv : (vmaj, vmin) ∈ [(3, 0), (3, 1), (3, 2), (3, 3)]) :
    Py.guard (List.contains [((3 : Int), (0 : Int)), ((3 : Int), (1 : Int)), ((3 : Int), (2 : Int)),
        ((3 : Int), (3 : Int))] ((vmaj : Int), (vmin : Int))) = some ()
    ∧ decide (((vmaj : Int), (vmin : Int)) = ((3 : Int), (0 : Int))) = isSsl3 vmaj vmin
    ∧ decide (((vmaj : Int), (vmin : Int)) ≠ ((3 : Int), (0 : Int))) = !isSsl3 vmaj vmin
    ∧ vmaj < 256 ∧ vmin < 256 := by
  simp only [List.mem_cons, Prod.mk.injEq, List.mem_nil_iff, or_false] at hv
  rcases hv with ⟨rfl, rfl⟩ | ⟨rfl, rfl⟩ | ⟨rfl, rfl⟩ | ⟨rfl, rfl⟩ <;> decide

theorem ofNat_emod32 (a : Int) : BitVec.ofNat 32 (a % 4294967296).toNat = BitVec.ofInt 32 a := by
  apply BitVec.eq_of_toNat_eq
  rw [BitVec.toNat_ofNat, BitVec.toNat_ofInt]
  omega

end Tls.CT
