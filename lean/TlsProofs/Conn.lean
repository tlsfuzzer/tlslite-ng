import TlsProofs.ConnAct
/-
  The invariants of the connection model as one endpoint sees them: `LInvP P pend l`, keys in step
  (`DirInv`) and in-order delivery (`Fifo`) for both of its directions, where `pend` are the records
  already taken off the channel whose effect on `l.me` is outstanding.  Every operation of the model
  is proved in the one shape `Post P Q (f l)` (`Keeps` when `Q` is the invariant again), a round of
  `_getMsg` by cases on its decision `act`.  The invariant of a world (`WInv`) is the two views;
  `Op.Honest` says what a history may contain.
-/
namespace Tls.Conn

/-- by how much processing `m` advances the reader's generation -/
def bump : Msg → Nat
  | .keyUpdate _ => 1
  | _ => 0

def payload : Msg → Bytes
  | .appData d => d
  | _ => []

/-- every record in flight carries the generation its reader will hold on reaching it -/
def Flight : Nat → List Rec → Prop
  | _, [] => True
  | g, r :: rest => r.gen = g ∧ Flight (g + bump r.msg) rest

/-- the reader's generation after the records in flight -/
def finalGen : Nat → List Rec → Nat
  | g, [] => g
  | g, r :: rest => finalGen (g + bump r.msg) rest

def appBytes : List Rec → Bytes
  | [] => []
  | r :: rest => payload r.msg ++ appBytes rest

theorem flight_append (g : Nat) (xs ys : List Rec) :
    Flight g (xs ++ ys) ↔ Flight g xs ∧ Flight (finalGen g xs) ys := by
  induction xs generalizing g with
  | nil => simp [Flight, finalGen]
  | cons r rest ih => simp [Flight, finalGen, ih, and_assoc]

theorem finalGen_append (g : Nat) (xs ys : List Rec) :
    finalGen g (xs ++ ys) = finalGen (finalGen g xs) ys := by
  induction xs generalizing g with
  | nil => simp [finalGen]
  | cons r rest ih => simp [finalGen, ih]

theorem appBytes_append (xs ys : List Rec) : appBytes (xs ++ ys) = appBytes xs ++ appBytes ys := by
  induction xs with
  | nil => simp [appBytes]
  | cons r rest ih => simp [appBytes, ih]

/-- keys in step for the direction writer `W` → reader `R` over channel records `ch` -/
def DirInv (W R : End) (ch : List Rec) : Prop :=
  R.closed = true ∨ (Flight R.readGen ch ∧ (W.closed = true ∨ finalGen R.readGen ch = W.writeGen))

/-- exact in-order delivery for the direction `W` → `R` -/
def Fifo (W R : End) (ch : List Rec) : Prop :=
  R.closing = true ∨
  ∃ rest, R.got ++ R.readBuf ++ rest = W.wrote ∧ (R.closed = false → rest = appBytes ch)

theorem fifo_map {W R W' R' : End} {ch ch' : List Rec} (h : Fifo W R ch) (hcl : R'.closing = R.closing)
    (f : ∀ rest, R.got ++ R.readBuf ++ rest = W.wrote → (R.closed = false → rest = appBytes ch) →
      ∃ rest', R'.got ++ R'.readBuf ++ rest' = W'.wrote ∧ (R'.closed = false → rest' = appBytes ch')) :
    Fifo W' R' ch' := by
  rcases h with h | ⟨rest, h1, h2⟩
  · exact Or.inl (by rw [hcl]; exact h)
  · exact Or.inr (f rest h1 h2)

theorem DirInv.of_open {W R : End} {ch : List Rec} (h : DirInv W R ch) (hr : R.closed = false) :
    Flight R.readGen ch ∧ (W.closed = false → finalGen R.readGen ch = W.writeGen) := by
  rcases h with hc | ⟨hf, hw⟩
  · rw [hr] at hc; cases hc
  · refine ⟨hf, fun hc => ?_⟩
    rcases hw with hw | hw
    · rw [hc] at hw; cases hw
    · exact hw

theorem Fifo.of_not_closing {W R : End} {ch : List Rec} (h : Fifo W R ch) (hcl : R.closing = false) :
    ∃ rest, R.got ++ R.readBuf ++ rest = W.wrote ∧ (R.closed = false → rest = appBytes ch) := by
  rcases h with hx | h
  · rw [hcl] at hx; cases hx
  · exact h

theorem DirInv.append {W W' R : End} {ch xs : List Rec} (h : DirInv W R ch) (ho : W.closed = false)
    (hf : Flight W.writeGen xs) (hg : finalGen W.writeGen xs = W'.writeGen) : DirInv W' R (ch ++ xs) := by
  rcases h with hp | ⟨hfl, hw | hw⟩
  · exact Or.inl hp
  · rw [ho] at hw; cases hw
  · refine Or.inr ⟨?_, Or.inr ?_⟩
    · rw [flight_append, hw]; exact ⟨hfl, hf⟩
    · rw [finalGen_append, hw]; exact hg

theorem fifo_cons {W R : End} {g : Nat} {m : Msg} {ch : List Rec} (hp : payload m = []) :
    Fifo W R (⟨g, m⟩ :: ch) ↔ Fifo W R ch := by
  simp only [Fifo, appBytes, hp, List.nil_append]

structure LInvP (P : End) (pend : List Rec) (l : Local) : Prop where
  inKeys : DirInv P l.me (pend ++ l.inc.recs)
  inFifo : Fifo P l.me (pend ++ l.inc.recs)
  outKeys : DirInv l.me P l.out.recs
  outFifo : Fifo l.me P l.out.recs
  tx : l.me.txDead = false

abbrev LInv (P : End) (l : Local) : Prop := LInvP P [] l

/-- effect of having sent `m` on the sender's observers -/
def advance (m : Msg) (l : Local) : Local :=
  { l with me := { l.me with wrote := l.me.wrote ++ payload m, writeGen := l.me.writeGen + bump m } }

/-- a closed endpoint satisfies the incoming half whatever is in flight -/
theorem linv_of_closed {P : End} {pend pend' : List Rec} {l l' : Local}
    (h : LInvP P pend l) (hc : l'.me.closed = true) (hcl : l'.me.closing = l.me.closing)
    (hgot : l'.me.got = l.me.got) (hbuf : l'.me.readBuf = l.me.readBuf)
    (hout : l'.out.recs = l.out.recs) (hw : l'.me.wrote = l.me.wrote) (htx : l'.me.txDead = false) :
    LInvP P pend' l' := by
  refine ⟨Or.inl hc, ?_, ?_, ?_, htx⟩
  · refine fifo_map h.inFifo hcl ?_
    intro rest h1 _
    refine ⟨rest, by rw [hgot, hbuf]; exact h1, ?_⟩
    intro hc'; rw [hc] at hc'; cases hc'
  · rw [hout]
    rcases h.outKeys with hp | ⟨hf, _⟩
    · exact Or.inl hp
    · exact Or.inr ⟨hf, Or.inl hc⟩
  · rw [hout]
    refine fifo_map h.outFifo rfl ?_
    intro rest h1 h2
    exact ⟨rest, by rw [hw]; exact h1, h2⟩

theorem shutdown_inv {P : End} {pend pend' : List Rec} {l : Local} (r : Bool) (h : LInvP P pend l) :
    LInvP P pend' (shutdown r l) :=
  linv_of_closed h rfl rfl rfl rfl (shutdown_out_recs r l) rfl h.tx

theorem sendRaw_inv {P : End} {pend : List Rec} {l l1 : Local} {m : Msg}
    (hs : sendRaw m l = some l1) (h : LInvP P pend l) : LInvP P pend (advance m l1) := by
  unfold sendRaw at hs
  split at hs
  · cases hs
  · rename_i hc
    simp at hc
    cases hs
    refine ⟨h.inKeys, h.inFifo, ?_, ?_, h.tx⟩
    · exact h.outKeys.append hc.2 (by simp [Flight]) (by simp [finalGen, advance])
    · refine fifo_map h.outFifo rfl ?_
      intro rest h1 h2
      refine ⟨rest ++ payload m, by simp only [advance]; rw [← h1]; simp [List.append_assoc], ?_⟩
      intro a
      simp only [advance]
      rw [appBytes_append, h2 a]; simp [appBytes]

theorem advance_harmless {m : Msg} (hb : bump m = 0) (hp : payload m = []) (l : Local) : advance m l = l := by
  simp [advance, hb, hp]

theorem sendRaw_harmless {P : End} {pend : List Rec} {l l1 : Local} {m : Msg}
    (hb : bump m = 0) (hp : payload m = []) (hs : sendRaw m l = some l1) (h : LInvP P pend l) :
    LInvP P pend l1 := by
  have := sendRaw_inv hs h
  rwa [advance_harmless hb hp] at this

theorem sendRaw_none_closed {P : End} {pend : List Rec} {m : Msg} {l : Local} (h : LInvP P pend l)
    (hs : sendRaw m l = none) : l.me.closed = true := by
  unfold sendRaw at hs
  split at hs
  · rename_i hc; simpa [h.tx] using hc
  · cases hs

theorem sendError_res {α : Type} (d : Nat) (l : Local) :
    (∃ e, (sendError (α := α) d l).1 = .err e) := by
  unfold sendError
  split <;> simp

theorem DirInv.drop {W R : End} {g : Nat} {m : Msg} {ch : List Rec} (hb : bump m = 0)
    (h : DirInv W R (⟨g, m⟩ :: ch)) : DirInv W R ch := by
  rcases h with hc | ⟨hf, hw⟩
  · exact Or.inl hc
  · simp [Flight, finalGen, hb] at hf hw
    exact Or.inr ⟨hf.2, hw⟩

theorem pend_harmless {P : End} {l : Local} {m : Msg} {g : Nat} (hb : bump m = 0) (hp : payload m = [])
    (h : LInvP P [⟨g, m⟩] l) : LInv P l :=
  ⟨h.inKeys.drop hb, (fifo_cons hp).1 h.inFifo, h.outKeys, h.outFifo, h.tx⟩

theorem pend_harmless' {P : End} {l : Local} {m : Msg} {g : Nat} (hb : bump m = 0) (hp : payload m = [])
    (hg : g = l.me.readGen) (h : LInv P l) : LInvP P [⟨g, m⟩] l := by
  refine ⟨?_, ?_, h.outKeys, h.outFifo, h.tx⟩
  · rcases h.inKeys with hc | ⟨hf, hw⟩
    · exact Or.inl hc
    · simp at hf hw
      refine Or.inr ⟨?_, ?_⟩
      · simp [Flight, hb, hg, hf]
      · simpa [finalGen, hb, hg] using hw
  · exact (fifo_cons hp).2 h.inFifo

theorem pop_inv {P : End} {l : Local} {r : Rec} {rest : List Rec} (h : LInv P l)
    (hr : l.inc.recs = r :: rest) :
    LInvP P [r] (popped l rest) := by
  refine ⟨?_, ?_, h.outKeys, h.outFifo, h.tx⟩
  · simpa [hr, popped] using h.inKeys
  · simpa [hr, popped] using h.inFifo

/-- `Q` on a normal return; otherwise the invariant with nothing pending: a stall, a transport error or a refused call
    has taken nothing off the channel, every other exception has closed the endpoint (`linv_of_closed`) -/
def Post {α : Type} (P : End) (Q : α → Local → Prop) : Res α × Local → Prop
  | (.ok a, l') => Q a l'
  | (.stall, l') => LInv P l'
  | (.err _, l') => LInv P l'

/-- by the three shapes of the result, in each of which a `match` on it in the goal reduces -/
@[elab_as_elim]
theorem Post.elim {α : Type} {P : End} {Q : α → Local → Prop} {C : Res α × Local → Prop}
    {x : Res α × Local} (h : Post P Q x) (ok : ∀ a l', Q a l' → C (.ok a, l'))
    (stall : ∀ l', LInv P l' → C (.stall, l')) (err : ∀ e l', LInv P l' → C (.err e, l')) : C x := by
  obtain ⟨res, l'⟩ := x
  cases res with
  | ok a => exact ok a l' h
  | stall => exact stall l' h
  | err e => exact err e l' h

abbrev Keeps {α : Type} (P : End) : Res α × Local → Prop := Post P (fun _ l' => LInv P l')

theorem Keeps.snd {α : Type} {P : End} {x : Res α × Local} (h : Keeps P x) : LInv P x.2 :=
  h.elim (fun _ _ h => h) (fun _ h => h) (fun _ _ h => h)

/-- whatever was pending: either the alert goes out and the endpoint closes, or the endpoint was closed already -/
theorem sendError_post {α : Type} {P : End} {pend : List Rec} {l : Local} (d : Nat)
    {Q : α → Local → Prop} (h : LInvP P pend l) : Post P Q (sendError (α := α) d l) := by
  rw [sendError_eq]
  cases hs : sendRaw (.alert 2 d) l with
  | some l1 => exact shutdown_inv false (sendRaw_harmless rfl rfl hs h)
  | none => exact linv_of_closed h (sendRaw_none_closed h hs) rfl rfl rfl rfl rfl h.tx

/-- the message just taken from the channel, with its effect outstanding -/
def Pending (P : End) (m : Msg) (l : Local) : Prop := LInvP P [⟨l.me.readGen, m⟩] l

theorem nextRecord_post {P : End} {l : Local} (h : LInv P l) : Post P (Pending P) (nextRecord l) := by
  cases hr : l.inc.recs with
  | nil =>
    rw [nextRecord_nil hr]
    exact ite_elim _ (fun _ => h) (fun _ => ite_elim _ (fun _ => h) (fun _ => h))
  | cons r rest =>
    obtain ⟨g, m⟩ := r
    have hp := pop_inv h hr
    rw [nextRecord_cons hr]
    refine ite_elim _ (fun hg => ite_elim _ (fun _ => sendError_post 10 hp) (fun _ => ?_))
      (fun _ => sendError_post 20 hp)
    rw [hg] at hp; exact hp

theorem tryReply_inv {P : End} {pend : List Rec} {l : Local} {r : Option Msg}
    (hr : ∀ m, r = some m → bump m = 0 ∧ payload m = []) (h : LInvP P pend l) : LInvP P pend (tryReply r l) := by
  cases r with
  | none => exact h
  | some m =>
    show LInvP P pend ((sendRaw m l).getD l)
    cases hs : sendRaw m l with
    | none => exact h
    | some l2 => exact sendRaw_harmless (hr m rfl).1 (hr m rfl).2 hs h

theorem logHb_inv {P : End} {pend : List Rec} {l : Local} (x : Option (Bytes × Nat)) (h : LInvP P pend l) :
    LInvP P pend (logHb x l) := by
  cases x with
  | none => exact h
  -- the invariant reads no field that changes: its components are the same propositions, its type (over the updated
  -- record) is not, hence the re-packing, here and below
  | some x => exact ⟨h.inKeys, h.inFifo, h.outKeys, h.outFifo, h.tx⟩

/-- what `_getMsg` answers or drops by itself carries neither data nor a key change: application
    data and KeyUpdate are either handed on or fatal -/
theorem act_harmless (e s : List Nat) (me : End) (m : Msg) :
    (act e s me m = .pass ∨ ∃ d, act e s me m = .fatal d) ∨ (bump m = 0 ∧ payload m = []) := by
  cases m with
  | appData d =>
    cases d with
    | nil => exact .inr ⟨rfl, rfl⟩
    | cons x xs => left; by_cases he : 23 ∈ e <;> simp [act, Msg.ct, he]
  | keyUpdate v =>
    left
    by_cases he : 22 ∈ e <;> by_cases hs : 24 ∈ s <;> simp [act, Msg.ct, Msg.hsType, he, hs, renegType_ne]
  | _ => exact .inr ⟨rfl, rfl⟩

def StepQ (P : End) : Step → Local → Prop
  | .again, l' => LInv P l'
  | .got m, l' => Pending P m l'

theorem Act.run_post {P : End} {l1 : Local} {m : Msg} (e s : List Nat) (hp : Pending P m l1) :
    Post P (StepQ P) ((act e s l1.me m).run m l1) := by
  rcases act_harmless e s l1.me m with (ha | ⟨d, ha⟩) | ⟨hb, hpl⟩
  · rw [ha]; exact hp
  · rw [ha]; exact sendError_post d hp
  · have hl : LInv P l1 := pend_harmless hb hpl hp
    cases act e s l1.me m with
    | peerAlert d reply keep =>
      exact shutdown_inv keep (tryReply_inv (by rintro m h; cases reply <;> cases h; exact ⟨rfl, rfl⟩) hl)
    | reneg =>
      unfold Act.run
      cases hs : sendRaw (.alert 1 100) l1 with
      | some l2 => exact sendRaw_harmless rfl rfl hs hl
      | none => exact hl
    | drop echo log =>
      exact logHb_inv log (tryReply_inv (by rintro m h; cases echo <;> cases h; exact ⟨rfl, rfl⟩) hl)
    | fatal d => exact sendError_post d hl
    | pass => exact hp

theorem getMsgStep_post {P : End} {l : Local} (e s : List Nat) (h : LInv P l) :
    Post P (StepQ P) (getMsgStep e s l) := by
  cases hr : l.inc.recs with
  | nil =>
    rw [getMsgStep_nil hr]
    exact ite_elim _ (fun _ => h) (fun _ => ite_elim _ (fun _ => h) (fun _ => h))
  | cons r rest =>
    obtain ⟨g, m⟩ := r
    have hp := pop_inv h hr
    by_cases hg : g = l.me.readGen
    · subst hg; rw [getMsgStep_head hr]; exact Act.run_post (l1 := popped l rest) e s hp
    · rw [getMsgStep_badmac hr hg]; exact sendError_post 20 hp

theorem getMsg_post {P : End} (e s : List Nat) (f : Nat) {l : Local} (h : LInv P l) :
    Post P (Pending P) (getMsg e s f l) := by
  induction f generalizing l with
  | zero => exact h
  | succ f ih =>
    unfold getMsg
    refine (getMsgStep_post e s h).elim (fun st l1 hq => ?_) (fun _ h => h) (fun _ _ h => h)
    cases st with
    | again => exact ih hq
    | got m => exact hq

theorem advance_closed {P : End} {pend : List Rec} {l : Local} {m : Msg} (hc : l.me.closed = true)
    (hp : payload m = []) (h : LInvP P pend l) : LInvP P pend (advance m l) := by
  apply linv_of_closed h <;> simp [advance, hc, hp, h.tx]

theorem sendMsg_post {P : End} {l : Local} (m : Msg) (h : LInv P l) :
    Post P (fun _ l' => LInv P (advance m l')) (sendMsg m l) := by
  unfold sendMsg
  cases hs : sendRaw m l with
  | some l1 => exact sendRaw_inv hs h
  | none =>
    refine ite_elim _ (fun _ => ?_) fun _ => ite_elim _ (fun _ => shutdown_inv false h) fun _ => h
    refine (nextRecord_post h).elim (fun r l1 hp => ?_) (fun _ h => h) (fun _ _ h => h)
    cases r <;> exact shutdown_inv false hp

theorem sendKeyUpdate_post {P : End} {l : Local} (v : Nat) (h : LInv P l) :
    Keeps P (sendKeyUpdate v l) := by
  unfold sendKeyUpdate
  refine ite_elim _ (fun _ => h) fun _ => ite_elim _ (fun _ => h) fun _ => ?_
  refine (sendMsg_post (.keyUpdate v) h).elim (fun u l1 hq => ?_) (fun _ h => h) (fun _ _ h => h)
  cases u
  simpa [advance, bump, payload, Post] using hq

theorem consume_ku {P : End} {l : Local} (v : Nat) (h : Pending P (.keyUpdate v) l) :
    LInv P { l with me := { l.me with readGen := l.me.readGen + 1 } } := by
  refine ⟨?_, ?_, h.outKeys, h.outFifo, h.tx⟩
  · have := h.inKeys
    simp only [DirInv, List.cons_append, List.nil_append, Flight, finalGen, bump, true_and] at this ⊢
    exact this
  · exact (fifo_cons rfl).1 h.inFifo

theorem handleKeyUpdate_post {P : End} {l : Local} (v : Nat) (h : Pending P (.keyUpdate v) l) :
    Keeps P (handleKeyUpdate v l) := by
  unfold handleKeyUpdate
  have h1 := consume_ku v h
  exact ite_elim _ (fun _ => ite_elim _ (fun _ => sendKeyUpdate_post 0 h1) fun _ => h1) fun _ => sendError_post 47 h

theorem flight_harmless_map (g : Nat) (ms : List Msg) (hm : ∀ m ∈ ms, bump m = 0 ∧ payload m = []) :
    Flight g (ms.map fun m => ⟨g, m⟩) ∧ finalGen g (ms.map fun m => ⟨g, m⟩) = g ∧
      appBytes (ms.map fun m => ⟨g, m⟩) = [] := by
  induction ms with
  | nil => simp [Flight, finalGen, appBytes]
  | cons m rest ih =>
    have hm1 := hm m (by simp)
    have ih' := ih (fun m hmem => hm m (by simp [hmem]))
    simp [Flight, finalGen, appBytes, hm1.1, hm1.2, ih'.1, ih'.2.1, ih'.2.2]

theorem sendBuffered_post {P : End} {l : Local} (ms : List Msg)
    (hm : ∀ m ∈ ms, bump m = 0 ∧ payload m = []) (h : LInv P l) :
    Keeps P (sendBuffered ms l) := by
  unfold sendBuffered
  split
  · exact h
  · rename_i hc
    simp at hc
    obtain ⟨hf, hg, ha⟩ := flight_harmless_map l.me.writeGen ms hm
    refine ⟨h.inKeys, h.inFifo, ?_, ?_, h.tx⟩
    · exact h.outKeys.append hc.2 hf hg
    · refine fifo_map h.outFifo rfl ?_
      intro rest h1 h2
      refine ⟨rest, h1, ?_⟩
      intro a; rw [appBytes_append, ha, h2 a]; simp

theorem phaMsgs_harmless (e : End) (ctx : Nat) : ∀ m ∈ phaMsgs e ctx, bump m = 0 ∧ payload m = [] := by
  intro m hm
  unfold phaMsgs at hm
  simp only [] at hm
  split at hm <;> simp at hm <;> rcases hm with rfl | rfl | rfl <;> simp [bump, payload]

theorem handlePha_post {P : End} {l : Local} (ctx : Nat) (sa : Nat) (h : LInv P l) :
    Keeps P (handlePha ctx sa l) := by
  unfold handlePha
  exact ite_elim _ (fun _ => sendError_post 109 h) fun _ => ite_elim _ (fun _ => sendError_post 40 h) fun _ =>
    sendBuffered_post _ (phaMsgs_harmless _ _) h

theorem srvPhaFinish_post {P : End} {l2 : Local} (chain : Nat) (h2 : LInv P l2) :
    Keeps P (srvPhaFinish chain l2) := by
  unfold srvPhaFinish
  refine (getMsg_post [22] [20] (fuelOf l2) h2).elim (fun m l3 hp => ?_) (fun _ h => h) (fun _ _ h => h)
  cases m with
  | finished ok =>
    have hl : LInv P l3 := pend_harmless rfl rfl hp
    cases ok
    · exact sendError_post 51 hl
    · exact ⟨hl.inKeys, hl.inFifo, hl.outKeys, hl.outFifo, hl.tx⟩
  | _ => exact shutdown_inv false hp

theorem handleSrvPha_post {P : End} {l : Local} (ctx chain : Nat) (h : LInv P l) :
    Keeps P (handleSrvPha ctx chain l) := by
  unfold handleSrvPha
  refine ite_elim _ (fun _ => sendError_post 47 h)
    (fun _ => ite_elim _ (fun _ => sendError_post 47 h) (fun _ => ?_))
  have h1 : LInv P { l with me := { l.me with certReqs := l.me.certReqs.erase ctx } } :=
    ⟨h.inKeys, h.inFifo, h.outKeys, h.outFifo, h.tx⟩
  simp only []
  generalize ({ l with me := { l.me with certReqs := l.me.certReqs.erase ctx } } : Local) = l1 at h1 ⊢
  refine ite_elim _ (fun _ => ?_) (fun _ =>
    ite_elim _ (fun _ => sendError_post 116 h1) (fun _ => srvPhaFinish_post chain h1))
  refine (getMsg_post [22] [15] (fuelOf l1) h1).elim (fun m l2 hp => ?_) (fun _ h => h) (fun _ _ h => h)
  cases m with
  | certVerify adv cons sigOk =>
    have hl : LInv P l2 := pend_harmless rfl rfl hp
    cases adv
    · exact sendError_post 47 hl
    · cases cons
      · exact sendError_post 47 hl
      · cases sigOk
        · exact sendError_post 51 hl
        · exact srvPhaFinish_post chain hl
  | _ => exact shutdown_inv false hp

theorem getMsg_post_frame {P : End} {e s : List Nat} {f : Nat} {l : Local} (h : LInv P l) :
    Post P (fun m l' => Pending P m l' ∧ l'.me.closed = l.me.closed ∧ l'.me.closing = l.me.closing)
      (getMsg e s f l) := by
  have hf := getMsg_frame e s f l
  revert hf
  refine (getMsg_post e s f h).elim (fun m l' hp hf => ?_) (fun _ h _ => h) (fun _ _ h _ => h)
  obtain ⟨hb, hme⟩ := hf
  exact ⟨hp, by rw [hme]; exact ⟨rfl, rfl⟩⟩

theorem readIter_post {P : End} {l : Local} (is13 : Bool) (allowed : List Nat) (h : LInv P l)
    (hc : l.me.closed = false) :
    Keeps P (readIter is13 allowed l) := by
  unfold readIter
  have hg : Post P _ (if is13 then getMsg [23, 22] allowed (fuelOf l) l else getMsg [23] [] (fuelOf l) l) :=
    ite_elim _ (fun _ => getMsg_post_frame h) (fun _ => getMsg_post_frame h)
  simp only []
  refine hg.elim (fun m l1 ⟨hp, hc1, _⟩ => ?_) (fun _ h => h) (fun _ _ h => h)
  rw [hc] at hc1
  cases m with
  | newSessionTicket =>
    have hl := pend_harmless rfl rfl hp
    exact ⟨hl.inKeys, hl.inFifo, hl.outKeys, hl.outFifo, hl.tx⟩
  | keyUpdate v =>
    dsimp only
    exact (handleKeyUpdate_post v hp).elim (fun _ _ h => h) (fun _ h => h) (fun _ _ h => h)
  | certificate ctx chain =>
    dsimp only
    exact (handleSrvPha_post ctx chain (pend_harmless rfl rfl hp)).elim
      (fun _ _ h => h) (fun _ h => h) (fun _ _ h => h)
  | certRequest ctx sa =>
    dsimp only
    exact (handlePha_post ctx sa (pend_harmless rfl rfl hp)).elim
      (fun _ _ h => h) (fun _ h => h) (fun _ _ h => h)
  | appData d =>
    refine ⟨?_, ?_, hp.outKeys, hp.outFifo, hp.tx⟩
    · have := hp.inKeys
      simpa [DirInv, Flight, finalGen, bump] using this
    · refine fifo_map hp.inFifo rfl ?_
      intro rest h1 h2
      have h3 := h2 hc1
      simp [appBytes, payload] at h3
      refine ⟨appBytes l1.inc.recs, ?_, fun _ => rfl⟩
      rw [← h1, h3]; simp [List.append_assoc]
  | _ => exact shutdown_inv false hp

theorem readLoop_post {P : End} (is13 : Bool) (allowed : List Nat) (min : Nat) (f : Nat) (t : Bool)
    {l : Local} (h : LInv P l) :
    Keeps P (readLoop is13 allowed min f t l) := by
  induction f generalizing l t with
  | zero => exact h
  | succ f ih =>
    unfold readLoop
    refine ite_elim _ (fun hcond => ?_) (fun _ => h)
    have hc : l.me.closed = false := by simp at hcond; exact hcond.2
    refine (readIter_post is13 allowed h hc).elim (fun t' _ hr => ih t' hr) (fun _ h => h)
      (fun e l1 hl => ?_)
    cases e with
    | remoteAlert d =>
      cases d with
      | zero => exact ih false hl
      | succ d => exact hl
    | abruptClose => exact ite_elim _ (fun _ => ih false (shutdown_inv true hl)) (fun _ => hl)
    | _ => exact hl

theorem read_post {P : End} (mx : Option Nat) (mn : Nat) {l : Local} (h : LInv P l) :
    Keeps P (read mx mn l) := by
  unfold read
  refine (readLoop_post (l.me.ver13 && !l.me.closed) (allowedHs l.me) mn (fuelOf l) true h).elim
    (fun _ l1 hl => ?_) (fun _ h => h) (fun _ _ hl => shutdown_inv false hl)
  refine ⟨hl.inKeys, ?_, hl.outKeys, hl.outFifo, hl.tx⟩
  refine fifo_map hl.inFifo rfl ?_
  intro rest h1 h2
  refine ⟨rest, ?_, h2⟩
  simp only []
  rw [← h1]
  simp only [List.append_assoc, List.take_append_drop]


theorem sendAll_post {P : End} (ds : List Bytes) {l : Local} (h : LInv P l) :
    Keeps P (sendAll ds l) := by
  induction ds generalizing l with
  | nil => exact h
  | cons d ds ih =>
    unfold sendAll
    refine (sendMsg_post (.appData d) h).elim (fun u l1 h1 => ?_) (fun _ h => h) (fun _ _ h => h)
    cases u
    apply ih
    simpa [advance, bump, payload] using h1

theorem write_post {P : End} (d : Bytes) {l : Local} (h : LInv P l) :
    Keeps P (write d l) := by
  unfold write
  refine ite_elim _ (fun _ => h) fun _ => ?_
  exact (sendAll_post (appRecords l.me d) h).elim (fun u _ h => by cases u; exact h) (fun _ h => h)
    (fun _ _ hl => shutdown_inv _ hl)

theorem heartbeat_post {P : End} (p : Bytes) (n : Nat) {l : Local} (h : LInv P l) :
    Keeps P (heartbeat p n l) := by
  unfold heartbeat
  refine ite_elim _ (fun _ => h) fun _ => ite_elim _ (fun _ => h) fun _ => ?_
  refine (sendMsg_post (.heartbeat 1 p n) h).elim (fun _ l1 h1 => ?_) (fun _ h => h) (fun e l1 hl => ?_)
  · rwa [advance_harmless rfl rfl] at h1
  · cases e with
    | socketError => exact shutdown_inv false hl
    | _ => exact hl

theorem requestClientAuth_post {P : End} {l : Local} (sa : Nat) (h : LInv P l) :
    Keeps P (requestClientAuth sa l) := by
  unfold requestClientAuth
  refine ite_elim _ (fun _ => h) fun _ => ite_elim _ (fun _ => h) fun _ => ite_elim _ (fun _ => h) fun _ => ?_
  have h1 : LInv P { l with me := { l.me with certReqs := l.me.certReqs ++ [l.me.nextCtx], nextCtx := l.me.nextCtx + 1 } } :=
    ⟨h.inKeys, h.inFifo, h.outKeys, h.outFifo, h.tx⟩
  refine (sendMsg_post (.certRequest l.me.nextCtx sa) h1).elim (fun _ l1 h2 => ?_)
    (fun _ h => h) (fun _ _ h => h)
  rwa [advance_harmless rfl rfl] at h2

theorem closeWait_post {P : End} (f : Nat) {l : Local} (h : LInv P l) (hcl : l.me.closing = true) :
    Keeps P (closeWait f l) := by
  induction f generalizing l with
  | zero => exact h
  | succ f ih =>
    unfold closeWait
    have hg : Post P _ (if l.me.ver13 && !l.me.closed
          then getMsg [21, 23, 22] (if l.me.isClient then [4, 24] else [24]) (fuelOf l) l
          else getMsg [21, 23] [] (fuelOf l) l) :=
      ite_elim _ (fun _ => getMsg_post_frame h) (fun _ => getMsg_post_frame h)
    simp only []
    refine hg.elim (fun m l1 ⟨hp, _, hcl1⟩ => ?_) (fun _ h => h) (fun _ _ h => h)
    rw [hcl] at hcl1
    cases m with
    | alert lvl d =>
      have hl : LInv P l1 := pend_harmless rfl rfl hp
      exact ite_elim _ (fun _ => shutdown_inv true hl) (fun _ => hl)
    | keyUpdate v => exact ih (consume_ku _ hp) hcl1
    -- while closing, dropped application data only voids the (already void) delivery claim
    | appData d => exact ih ⟨hp.inKeys.drop rfl, Or.inl hcl1, hp.outKeys, hp.outFifo, hp.tx⟩ hcl1
    | newSessionTicket => exact ih (pend_harmless rfl rfl hp) hcl1
    | _ => exact shutdown_inv false hp

theorem closeBody_post {P : End} {l : Local} (h : LInv P l) :
    Keeps P (closeBody l) := by
  unfold closeBody
  refine (sendMsg_post (.alert 1 0) h).elim (fun u l1 h1 => ?_) (fun _ h => h) (fun _ _ h => h)
  cases u
  rw [advance_harmless rfl rfl] at h1
  exact ite_elim _ (fun _ => shutdown_inv true h1) (fun _ => closeWait_post _ ⟨h1.inKeys, Or.inl rfl, h1.outKeys, h1.outFifo, h1.tx⟩ rfl)

theorem close_post {P : End} {l : Local} (h : LInv P l) : Keeps P (close l) := by
  unfold close
  have h' : LInv P { l with me := { l.me with refCount := l.me.refCount - 1 } } :=
    ⟨h.inKeys, h.inFifo, h.outKeys, h.outFifo, h.tx⟩
  refine ite_elim _ (fun _ => h) fun _ => ite_elim _ (fun _ => h') fun _ => ?_
  refine (closeBody_post h').elim (fun u _ h => by cases u; exact h) (fun _ h => h) (fun e l1 hl => ?_)
  cases e with
  | socketError | abruptClose => exact shutdown_inv true hl
  | _ => exact shutdown_inv false hl

/-- operations of a correctly working endpoint over a working transport, plus messages of a faulty
    peer that neither carry application data nor are a KeyUpdate that parses (whatever its request byte) -/
def Op.Honest : Op → Prop
  | .inject m => bump m = 0 ∧ payload m = []
  | .kill _ => False
  | .abort => False
  | _ => True

theorem runLocal_inv {P : End} (op : Op) (ho : op.Honest) {l : Local} (h : LInv P l) :
    LInv P (runLocal op l).2 := by
  cases op with
  | write d => exact liftU_snd _ ▸ (write_post d h).snd
  | read mx mn => rw [runLocal_read]; exact (read_post mx mn h).snd
  | keyUpdate r => exact liftU_snd _ ▸ (sendKeyUpdate_post _ h).snd
  | requestClientAuth sa => exact liftU_snd _ ▸ (requestClientAuth_post sa h).snd
  | heartbeat p n => exact liftU_snd _ ▸ (heartbeat_post p n h).snd
  | close => exact liftU_snd _ ▸ (close_post h).snd
  | makefile => exact ⟨h.inKeys, h.inFifo, h.outKeys, h.outFifo, h.tx⟩
  | inject m => exact tryReply_inv (r := some m) (fun _ hm => Option.some.inj hm ▸ ho) h
  | kill k => exact absurd ho id
  | abort => exact absurd ho id


structure WInv (w : World) : Prop where
  c2sKeys : DirInv w.c w.s w.c2s.recs
  s2cKeys : DirInv w.s w.c w.s2c.recs
  c2sFifo : Fifo w.c w.s w.c2s.recs
  s2cFifo : Fifo w.s w.c w.s2c.recs
  ctx : w.c.txDead = false
  stx : w.s.txDead = false

/-- each endpoint's view of the world carries the invariants of its two directions -/
theorem step_inv (w : World) (who : Side) (op : Op) (ho : op.Honest) (h : WInv w) :
    WInv (step w who op).2 := by
  cases who with
  | client =>
    have r := runLocal_inv (P := w.s) (l := w.view .client) op ho ⟨h.s2cKeys, h.s2cFifo, h.c2sKeys, h.c2sFifo, h.ctx⟩
    exact ⟨r.outKeys, r.inKeys, r.outFifo, r.inFifo, r.tx, h.stx⟩
  | server =>
    have r := runLocal_inv (P := w.c) (l := w.view .server) op ho ⟨h.c2sKeys, h.c2sFifo, h.s2cKeys, h.s2cFifo, h.stx⟩
    exact ⟨r.inKeys, r.outKeys, r.inFifo, r.outFifo, h.ctx, r.tx⟩

theorem run_inv (w : World) (ops : List (Side × Op)) (hh : ∀ o ∈ ops, o.2.Honest) (h : WInv w) :
    WInv (run w ops) := by
  induction ops generalizing w with
  | nil => exact h
  | cons o rest ih =>
    obtain ⟨who, op⟩ := o
    simp only [run]
    apply ih
    · intro o ho; exact hh o (by simp [ho])
    · exact step_inv w who op (hh (who, op) (by simp)) h

/-- a connection as the handshake leaves it: nothing in flight, generations paired, nothing read
    or written yet, transport alive; every other field (version, modes, options) is arbitrary -/
structure Fresh (w : World) : Prop where
  c2s : w.c2s.recs = []
  s2c : w.s2c.recs = []
  cs : w.s.readGen = w.c.writeGen
  sc : w.c.readGen = w.s.writeGen
  cgot : w.c.got = []
  cbuf : w.c.readBuf = []
  cwrote : w.c.wrote = []
  sgot : w.s.got = []
  sbuf : w.s.readBuf = []
  swrote : w.s.wrote = []
  ctx : w.c.txDead = false
  stx : w.s.txDead = false

theorem fresh_inv {w : World} (h : Fresh w) : WInv w := by
  refine ⟨?_, ?_, ?_, ?_, h.ctx, h.stx⟩
  · rw [h.c2s]; exact Or.inr ⟨trivial, Or.inr (by simp [finalGen, h.cs])⟩
  · rw [h.s2c]; exact Or.inr ⟨trivial, Or.inr (by simp [finalGen, h.sc])⟩
  · rw [h.c2s]; exact Or.inr ⟨[], by simp [h.sgot, h.sbuf, h.cwrote], fun _ => rfl⟩
  · rw [h.s2c]; exact Or.inr ⟨[], by simp [h.cgot, h.cbuf, h.swrote], fun _ => rfl⟩

theorem nextRecord_no_bad_mac {l : Local} (h : Flight l.me.readGen l.inc.recs) :
    (nextRecord l).1 ≠ .err (.localAlert 20) := by
  cases hr : l.inc.recs with
  | nil =>
    rw [nextRecord_nil hr]
    unfold noInput
    split
    · simp
    · split <;> simp
  | cons r rest =>
    obtain ⟨g, m⟩ := r
    rw [hr] at h
    rw [nextRecord_cons hr, if_pos h.1]
    split
    · rw [sendError_eq]; split <;> simp
    · simp

end Tls.Conn
