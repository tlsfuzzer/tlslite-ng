import TlsModel.Resume
import TlsProofs.Guards
/-
  C13: what each resumption decision of TlsModel/Resume.lean has established when it
  says "resume" (`checkSession_eq_resume`, `serverResume12_resume` for SSLv3 … TLS 1.2 through the
  cache or a ticket; `selectPskFrom_selected`, `serverPsk13_selected`, `serverResume13_resume` for TLS 1.3 PSKs),
  and, for the fall-back theorems, when a ticket cannot lead to a session (`ticketToSession_none`,
  `sessionFromTicket_none_of_empty`).
-/
namespace Tls.Resume

theorem tryDecrypt_some {env : Env} {keys : List Nat} {n c : Bytes} {p : Payload}
    (h : tryDecrypt env keys n c = some p) : ∃ k ∈ keys, env.aeadOpen k n c = some p :=
  List.exists_of_findSome?_eq_some h

theorem tryDecrypt12_some {env : Env} {keys : List Nat} {t : Bytes} {p : Payload}
    (h : tryDecrypt12 env keys t = some p) : ∃ k ∈ keys, env.aeadOpen k (t.take 32) (t.drop 32) = some p :=
  tryDecrypt_some h

/-- resumed through a ticket: it opens under one of the CURRENT keys, is not older than the lifetime, and the
    session is exactly its contents (plus the echoed session id) -/
def ViaTicket (env : Env) (now : Nat) (st : SrvSettings) (h : Hello) (s : Sess) : Prop :=
  ∃ t k p, h.ticket = some t ∧ t ≠ [] ∧ k ∈ st.ticketKeys ∧
    env.aeadOpen k (t.take 32) (t.drop 32) = some p ∧ ¬ (p.created + st.ticketLifetime < now) ∧
    s = (if h.sessionId.isEmpty then sessOfPayload p else { sessOfPayload p with sessionID := h.sessionId })

def ViaCache (lookup : Bytes → Option Sess) (st : SrvSettings) (h : Hello) (s : Sess) : Prop :=
  ticketNonEmpty h = false ∧ st.hasCache = true ∧ h.sessionId ≠ [] ∧ lookup h.sessionId = some s ∧
    valid s = true

def Consistent (st : SrvSettings) (h : Hello) (s : Sess) : Prop :=
  s.suite ∈ st.allowed ∧ s.suite ∈ h.suites ∧
  (h.srpUsername ≠ [] → s.srpUsername = h.srpUsername) ∧
  (h.serverName ≠ [] → s.serverName = h.serverName) ∧
  (s.etm = true → h.etm = true) ∧ s.ems = h.ems

/-- the guard of `checkSession` on a name the ClientHello may repeat (`srpUsername`, `serverName`) -/
theorem nameGuard_false {a b : Bytes} :
    ¬ (!a.isEmpty && (b.isEmpty || a != b)) = true ↔ (a ≠ [] → b = a) := by
  cases a with
  | nil => simp
  | cons x a =>
    simp only [List.isEmpty_cons, Bool.not_false, Bool.true_and, Bool.or_eq_true, List.isEmpty_iff,
      bne_iff_ne, ne_eq, not_or, Decidable.not_not, reduceCtorEq, not_false_eq_true, true_implies]
    exact ⟨fun hg => hg.2.symm, fun hb => ⟨by rw [hb]; nofun, hb.symm⟩⟩

theorem checkSession_eq_resume {st : SrvSettings} {h : Hello} {s s' : Sess} :
    checkSession st h s' = .resume s ↔ s = s' ∧ s.resumable = true ∧ Consistent st h s := by
  unfold Consistent
  constructor
  · fun_cases checkSession st h s'
    -- the last arm: all eight guards have failed
    case case9 h1 h2 h3 h4 h5 h6 h7 h8 =>
      rintro ⟨⟩
      refine ⟨rfl, by simpa using h1, by simpa using h2, by simpa using h3, nameGuard_false.mp h4,
        nameGuard_false.mp h5, by simpa using h6, ?_⟩
      cases hs : s.ems <;> cases hh : h.ems <;> simp [hs, hh] at h7 h8 ⊢
    all_goals nofun
  · rintro ⟨rfl, h1, h2, h3, h4, h5, h6, h7⟩
    unfold checkSession
    rw [if_neg (by simpa using h1), if_neg (by simpa using h2), if_neg (by simpa using h3),
      if_neg (nameGuard_false.mpr h4), if_neg (nameGuard_false.mpr h5), if_neg (by simpa using h6),
      if_neg (by simp [h7]), if_neg (by simp [h7])]

theorem checkSession_resume_intro {st : SrvSettings} {h : Hello} {s : Sess}
    (h1 : s.resumable = true) (h2 : s.suite ∈ st.allowed) (h3 : s.suite ∈ h.suites)
    (h4 : h.srpUsername = []) (h5 : h.serverName = [] ∨ (s.serverName = h.serverName))
    (h6 : s.etm = true → h.etm = true) (h7 : s.ems = h.ems) :
    checkSession st h s = .resume s :=
  checkSession_eq_resume.mpr
    ⟨rfl, h1, h2, h3, fun hn => absurd h4 hn, fun hn => h5.resolve_left hn, h6, h7⟩

theorem ticketToSession_some {env : Env} {st : SrvSettings} {now : Nat} {t : Bytes} {s : Sess} :
    ticketToSession env st now t = some s →
    t ≠ [] ∧ ∃ k ∈ st.ticketKeys, ∃ p, env.aeadOpen k (t.take 32) (t.drop 32) = some p ∧
      ¬ (p.created + st.ticketLifetime < now) ∧ s = sessOfPayload p := by
  fun_cases ticketToSession env st now t
  -- the one arm that returns a session: the ticket is not empty, opens, and has not expired
  case case4 hne p hp hexp =>
    rintro ⟨⟩
    obtain ⟨k, hk, hop⟩ := tryDecrypt12_some hp
    exact ⟨by simpa using hne, k, hk, p, hop, hexp, rfl⟩
  all_goals nofun

theorem ticketToSession_none {env : Env} {st : SrvSettings} {now : Nat} {t : Bytes}
    (hbad : ∀ k ∈ st.ticketKeys, ∀ p, env.aeadOpen k (t.take 32) (t.drop 32) = some p →
      p.created + st.ticketLifetime < now) :
    ticketToSession env st now t = none := by
  cases h : ticketToSession env st now t with
  | none => rfl
  | some s =>
    obtain ⟨_, k, hk, p, hop, hexp, _⟩ := ticketToSession_some h
    exact absurd (hbad k hk p hop) hexp

theorem sessionFromTicket_none_of_empty {env : Env} {st : SrvSettings} {now : Nat} {h : Hello}
    (hn : ticketNonEmpty h = false) : sessionFromTicket env st now h = none := by
  unfold sessionFromTicket
  unfold ticketNonEmpty at hn
  cases ht : h.ticket with
  | none => rfl
  | some t =>
    simp only [ht] at hn
    have : t.isEmpty = true := by simpa using hn
    simp [ticketToSession, this]

theorem findSession_some {env : Env} {lookup : Bytes → Option Sess} {now : Nat} {st : SrvSettings}
    {h : Hello} {s : Sess} (hf : findSession env lookup now st h = some s) :
    ViaTicket env now st h s ∨ ViaCache lookup st h s := by
  unfold findSession at hf
  obtain ⟨hc, hf⟩ | ⟨_, hf⟩ := ite_eq_cases hf
  · right
    simp only [Bool.and_eq_true, Bool.not_eq_true', List.isEmpty_eq_false_iff] at hc
    obtain ⟨⟨⟨_, hne⟩, hcache⟩, hsid⟩ := hc
    obtain ⟨s0, hl, hv⟩ := Option.bind_eq_some_iff.mp hf
    obtain ⟨hv, hs⟩ := (ite_eq_cases hv).resolve_right nofun
    cases hs
    exact ⟨hne, hcache, hsid, hl, hv⟩
  · left
    unfold sessionFromTicket at hf
    cases ht : h.ticket with
    | none => simp only [ht] at hf; cases hf
    | some t =>
      simp only [ht, Option.map_eq_some_iff] at hf
      obtain ⟨s0, hs0, hs⟩ := hf
      obtain ⟨hne, k, hk, p, hop, hexp, rfl⟩ := ticketToSession_some hs0
      exact ⟨t, k, p, ht, hne, hk, hop, hexp, hs.symm⟩

theorem ViaTicket.payload {env : Env} {now : Nat} {st : SrvSettings} {h : Hello} {s : Sess}
    (hv : ViaTicket env now st h s) :
    ∃ t k p, h.ticket = some t ∧ k ∈ st.ticketKeys ∧ env.aeadOpen k (t.take 32) (t.drop 32) = some p ∧
      s.completed = p.completed ∧ s.params = p.params ∧ s.secret = p.secret := by
  obtain ⟨t, k, p, ht, _, hk, hop, _, rfl⟩ := hv
  refine ⟨t, k, p, ht, hk, hop, ?_⟩
  cases h.sessionId.isEmpty <;> exact ⟨rfl, rfl, rfl⟩

theorem serverResume12_resume {env : Env} {lookup : Bytes → Option Sess} {now : Nat}
    {st : SrvSettings} {h : Hello} {s : Sess} : serverResume12 env lookup now st h = .resume s →
    findSession env lookup now st h = some s ∧ s.resumable = true ∧ Consistent st h s := by
  fun_cases serverResume12 env lookup now st h
  -- a session was found: the decision is `checkSession`'s
  case case2 hf =>
    intro hr
    obtain ⟨rfl, hs⟩ := checkSession_eq_resume.mp hr
    exact ⟨hf, hs⟩
  all_goals nofun

theorem tryDecrypt13_some {env : Env} {keys : List Nat} {idn : Bytes} {p : Payload}
    (h : tryDecrypt13 env keys idn = some p) :
    33 ≤ idn.length ∧ ∃ k ∈ keys, env.aeadOpen k (idn.take 32) (idn.drop 32) = some p := by
  obtain ⟨hlen, h⟩ := ite_eq_right h nofun
  exact ⟨Nat.le_of_not_lt hlen, tryDecrypt_some h⟩

def TicketAccepted (env : Env) (st : SrvSettings) (now : Nat) (ver : Ver) (prf : Hash)
    (id : PskIdent) (p : Payload) : Prop :=
  st.pskConfigs.find? (fun c => c.identity == id.identity) = none ∧ 33 ≤ id.identity.length ∧
  (∃ k ∈ st.ticketKeys, env.aeadOpen k (id.identity.take 32) (id.identity.drop 32) = some p) ∧
  p.version = ver ∧ ¬ (p.created + st.ticketLifetime < now) ∧ prfOf env p.suite = prf ∧
  id.binder = some ⟨.resumption p.secret, prf, false⟩

/-- `t = none`: an external PSK is configured under the identity's name; `t = some p`: a ticket the server accepts
    (`Selected … id (some p)` unfolds to `TicketAccepted … id p`, and is used as such) -/
def Selected (env : Env) (st : SrvSettings) (now : Nat) (ver : Ver) (prf : Hash) (id : PskIdent) :
    Option Payload → Prop
  | none => (st.pskConfigs.find? (fun c => c.identity == id.identity)).isSome = true
  | some p => TicketAccepted env st now ver prf id p

theorem selectPskFrom_selected {env : Env} {st : SrvSettings} {now : Nat} {ver : Ver} {prf : Hash}
    {all ids : List PskIdent} {i0 i : Nat} {t : Option Payload} (hd : all.drop i0 = ids) :
    selectPskFrom env st now ver prf ids i0 = .selected i t →
    ∃ id, all[i]? = some id ∧ Selected env st now ver prf id t := by
  fun_induction selectPskFrom env st now ver prf ids i0
  -- 3 selects an external PSK, 9 a ticket
  case case3 hc _ _ =>
    rintro ⟨⟩
    exact ⟨_, (drop_eq_cons hd).1, by simp [Selected, hc]⟩
  case case9 hc p hp hver hexp hprf hb =>
    rintro ⟨⟩
    obtain ⟨hlen, hk⟩ := tryDecrypt13_some hp
    have hprf : prfOf env p.suite = prf := by simpa using hprf
    refine ⟨_, (drop_eq_cons hd).1, hc, hlen, hk, (show ver = p.version by simpa using hver).symm, hexp, hprf, ?_⟩
    rw [← hprf]
    simpa using hb
  -- the loop goes on to the next identity
  case case2 ih | case5 ih | case6 ih | case7 ih | case8 ih => exact ih (drop_eq_cons hd).2
  all_goals nofun

theorem serverPsk13_selected {env : Env} {st : SrvSettings} {now : Nat} {ver : Ver} {prf : Hash}
    {h : Hello} {i : Nat} {t : Option Payload} : serverPsk13 env st now ver prf h = .selected i t →
    ∃ ids id, h.psk = some ids ∧ ids[i]? = some id ∧ Selected env st now ver prf id t := by
  fun_cases serverPsk13 env st now ver prf h
  -- the extension is there and the guard on modes and keys holds: the loop runs from index 0
  case case2 hids _ =>
    intro hsel
    obtain ⟨id, hget, hid⟩ := selectPskFrom_selected List.drop_zero hsel
    exact ⟨_, id, hids, hget, hid⟩
  all_goals nofun

theorem serverResume13_resume {env : Env} {st : SrvSettings} {now : Nat} {ver : Ver} {prf : Hash}
    {h : Hello} {s : Sess} : serverResume13 env st now ver prf h = .resume s →
    ∃ i p, serverPsk13 env st now ver prf h = .selected i (some p) ∧ s = sessOfPayload p ∧
      kexOk13 st h true = true := by
  fun_cases serverResume13 env st now ver prf h
  -- the loop selected a ticket and a key-exchange mode fits
  case case6 hsel hkex =>
    rintro ⟨⟩
    exact ⟨_, _, hsel, rfl, hkex⟩
  all_goals nofun

end Tls.Resume
