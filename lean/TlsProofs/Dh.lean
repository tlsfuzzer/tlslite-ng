import TlsModel.Dh
import TlsProofs.RsaBasic
import TlsProofs.Guards
import Mathlib.Data.Nat.Prime.Basic
/-
  FFDH / ECDH glue: what a successful `calc_shared_key` has checked, either encoding of the secret decodes to it,
  `_non_zero_check` passes iff some byte is non-zero.  Nothing here is about primes: of the Mathlib module the file
  uses `ℕ`, `push` and `forall₂_congr`; the prime modulus is a hypothesis of `ffdh_result_nondegenerate` in
  Props/C10.lean only.
-/
namespace Tls.Dh
open Tls.Rsa

/-- what `FFDHKeyExchange.__init__` guarantees -/
def FFDH.Valid (k : FFDH) : Prop := 1 < k.generator ∧ k.generator < k.prime

theorem beDecode_minimalBytes (n : ℕ) : beDecode (minimalBytes n) = n := beDecode_minimal n

theorem calcShared_ok (k : FFDH) (priv : ℕ) (peer : Share) (S : Bytes)
    (h : k.calcShared priv peer = .ok S) :
    ∃ y, k.normalise peer = .ok y ∧ 2 ≤ y ∧ y < k.prime - 1 ∧
      y ^ priv % k.prime ≠ 1 ∧ y ^ priv % k.prime ≠ k.prime - 1 ∧
      S = (if k.tls13 then beEncode (numBytes k.prime) (y ^ priv % k.prime)
           else minimalBytes (y ^ priv % k.prime)) := by
  unfold FFDH.calcShared at h
  cases hn : k.normalise peer with
  | error e => rw [hn] at h; cases h
  | ok y =>
    rw [hn] at h
    simp only [powMod_eq] at h
    by_cases hr : 2 ≤ y ∧ y < k.prime - 1
    · rw [if_neg (not_not_intro hr)] at h
      by_cases hs : y ^ priv % k.prime = 1 ∨ y ^ priv % k.prime = k.prime - 1
      · rw [if_pos hs] at h; cases h
      · rw [if_neg hs] at h
        refine ⟨y, rfl, hr.1, hr.2, (not_or.mp hs).1, (not_or.mp hs).2, ?_⟩
        cases ht : k.tls13 <;> simp [ht] at h ⊢ <;> exact h.symm
    · rw [if_pos hr] at h; cases h

theorem decode_shared (k : FFDH) (s : ℕ) (hs : s < k.prime) :
    beDecode (if k.tls13 then beEncode (numBytes k.prime) s else minimalBytes s) = s := by
  split
  · exact beDecode_beEncode_of_lt _ _ (Nat.lt_trans hs (lt_pow_numBytes _))
  · exact beDecode_minimalBytes s

/-- `Tls.foldl_or_eq_zero` at `UInt8.toNat`; inside `Tls.Dh` the name means this one -/
theorem foldl_or_eq_zero (v : Bytes) (acc : ℕ) :
    v.foldl (fun s (i : UInt8) => s ||| i.toNat) acc = 0 ↔ acc = 0 ∧ ∀ i ∈ v, i = 0 :=
  (Tls.foldl_or_eq_zero v UInt8.toNat acc).trans
    (and_congr_right fun _ => forall₂_congr fun _ _ => UInt8.toNat_inj (b := 0))

theorem nonZeroCheck_eq (v : Bytes) :
    nonZeroCheck v = if ∀ i ∈ v, i = 0 then .error .illegalParameter else .ok () := by
  unfold nonZeroCheck
  simp only [foldl_or_eq_zero, true_and]

theorem nonZeroCheck_ok_iff (v : Bytes) : nonZeroCheck v = .ok () ↔ ∃ i ∈ v, i ≠ 0 := by
  rw [nonZeroCheck_eq, throw_or_ok_eq_ok]
  push Not
  exact and_iff_left rfl

end Tls.Dh
