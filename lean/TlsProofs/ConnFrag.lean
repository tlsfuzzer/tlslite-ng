import TlsModel.ConnFrag
import TlsProofs.Conn
/-
  Fragmented channel contents: what reassembly makes of the pieces of one message (the step of
  `reassembly_inverts_fragmentation`, C16), and the key / delivery invariants of the message level
  carried over to every fragmentation.
-/
namespace Tls.Conn

theorem fragRec_parts (nf : Msg → Nat) (r : Rec) (h1 : r.msg.ct = 22) (h2 : 2 ≤ nf r.msg) :
    fragRec nf r = partsFrom r.gen r.msg (nf r.msg) (nf r.msg) 0 := by
  simp [fragRec, h1, h2]

theorem fragRec_whole (nf : Msg → Nat) (r : Rec) (h : ¬ (r.msg.ct = 22 ∧ 2 ≤ nf r.msg)) :
    fragRec nf r = [⟨r.gen, .whole r.msg⟩] := by
  simp only [fragRec]
  split
  · rename_i hc; simp at hc; exact absurd hc h
  · rfl

theorem reasm_partsFrom (v : Bool) (g : Nat) (m : Msg) (n : Nat) (hm : m.ct = 22) (rest : List Frag)
    (k i : Nat) (hk : 0 < k) (hn : i + k = n) :
    reasm v (some (m, i)) (partsFrom g m n k i ++ rest) =
      (match reasm v none rest with
       | .error d => .error d
       | .ok (rs, pf) => .ok (⟨g, m⟩ :: rs, pf)) := by
  induction k generalizing i with
  | zero => omega
  | succ k ih =>
    simp only [partsFrom, List.cons_append, reasm, feed, hm]
    by_cases hlast : k = 0
    · subst hlast
      have : i + 1 = n := by omega
      simp [this, partsFrom]
      cases reasm v none rest <;> rfl
    · have hne : ¬ (i + 1 = n) := by omega
      simp [hne]
      rw [ih (i + 1) (by omega) (by omega)]
      cases reasm v none rest <;> rfl

/-- `Flight` at fragment level: the generation moves only once a KeyUpdate is complete -/
def FlightF : Nat → List Frag → Prop
  | _, [] => True
  | g, f :: rest =>
    f.gen = g ∧
    FlightF (match f.piece with
             | .whole m => g + bump m
             | .part m i n => if i + 1 == n then g + bump m else g) rest

theorem flightF_partsFrom (g : Nat) (m : Msg) (n k i : Nat) (rest : List Frag) (hn : i + k = n) :
    FlightF g (partsFrom g m n k i ++ rest) ↔ (if k = 0 then FlightF g rest else FlightF (g + bump m) rest) := by
  induction k generalizing i with
  | zero => simp [partsFrom]
  | succ k ih =>
    simp only [partsFrom, List.cons_append, FlightF, true_and]
    by_cases hk : k = 0
    · subst hk
      have : i + 1 = n := by omega
      simp [this, partsFrom]
    · have hne : ¬ (i + 1 = n) := by omega
      simp [hne]
      rw [ih (i + 1) (by omega)]
      simp [hk]

theorem flight_fragments (nf : Msg → Nat) (g : Nat) (recs : List Rec) (h : Flight g recs) :
    FlightF g (recs.flatMap (fragRec nf)) := by
  induction recs generalizing g with
  | nil => trivial
  | cons r rest ih =>
    obtain ⟨hg, hrest⟩ := h
    simp only [List.flatMap_cons]
    by_cases hc : r.msg.ct = 22 ∧ 2 ≤ nf r.msg
    · rw [fragRec_parts nf r hc.1 hc.2, hg, flightF_partsFrom g r.msg (nf r.msg) (nf r.msg) 0 _ (by omega)]
      have : nf r.msg ≠ 0 := by omega
      simp [this]
      exact ih _ hrest
    · rw [fragRec_whole nf r hc]
      simp only [List.cons_append, List.nil_append, FlightF]
      exact ⟨hg, ih _ hrest⟩

theorem payload_of_ct22 {m : Msg} (h : m.ct = 22) : payload m = [] := by
  cases m <;> simp_all [Msg.ct, payload]

def appBytesF : List Frag → Bytes
  | [] => []
  | f :: rest => (match f.piece with | .whole m => payload m | .part .. => []) ++ appBytesF rest

theorem appBytesF_partsFrom (g : Nat) (m : Msg) (n k i : Nat) (rest : List Frag) :
    appBytesF (partsFrom g m n k i ++ rest) = appBytesF rest := by
  induction k generalizing i with
  | zero => simp [partsFrom]
  | succ k ih => simp [partsFrom, appBytesF, ih]

theorem appBytes_fragments (nf : Msg → Nat) (recs : List Rec) :
    appBytesF (recs.flatMap (fragRec nf)) = appBytes recs := by
  induction recs with
  | nil => rfl
  | cons r rest ih =>
    simp only [List.flatMap_cons, appBytes]
    by_cases hc : r.msg.ct = 22 ∧ 2 ≤ nf r.msg
    · rw [fragRec_parts nf r hc.1 hc.2, appBytesF_partsFrom, ih, payload_of_ct22 hc.1]; simp
    · rw [fragRec_whole nf r hc]
      simp [appBytesF, ih]

end Tls.Conn
