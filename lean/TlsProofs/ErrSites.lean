import TlsModel.ErrSites
/-
  Sufficient conditions for the decisions of TlsModel/ErrSites.lean that are cheap for the kernel to evaluate on
  the generated tables.  Strings dominate there: within one declaration the kernel decodes each distinct literal
  once, at a cost that grows faster than its length (comparing decoded literals is cheap), so what counts is which
  literals an evaluation touches; and `ExtUse.forces` enumerates 2 ^ atoms valuations.
-/
namespace Tls.ErrSites

/-- `f.eval ρ = pos` makes atom `i` true by the shape of `f` alone: `atom i` is a conjunct of a formula that
    holds, or a disjunct on every branch of one. -/
def F.fixes (i : Nat) : Bool → F → Bool
  | pos, .atom j => pos && j == i
  | _, .tt => false
  | pos, .not f => F.fixes i (!pos) f
  | true, .and a b => F.fixes i true a || F.fixes i true b
  | false, .and a b => F.fixes i false a && F.fixes i false b
  | true, .or a b => F.fixes i true a && F.fixes i true b
  | false, .or a b => F.fixes i false a || F.fixes i false b

theorem F.fixes_sound {i ρ : Nat} : ∀ {f : F} {pos : Bool}, f.fixes i pos = true → f.eval ρ = pos →
    ρ.testBit i = true := by
  intro f
  induction f with
  | atom j =>
    intro pos h e
    simp only [fixes, Bool.and_eq_true, beq_iff_eq] at h
    rw [← h.2, ← h.1]
    exact e
  | tt => intro pos h; cases h
  | not f ih => intro pos h e; exact ih h (by rw [← e]; simp [eval])
  | and a b iha ihb =>
    intro pos h e
    cases pos <;> simp only [fixes, eval, Bool.and_eq_true, Bool.or_eq_true, Bool.and_eq_false_iff] at h e
    · exact e.elim (iha h.1) (ihb h.2)
    · exact h.elim (iha · e.1) (ihb · e.2)
  | or a b iha ihb =>
    intro pos h e
    cases pos <;> simp only [fixes, eval, Bool.and_eq_true, Bool.or_eq_true, Bool.or_eq_false_iff] at h e
    · exact h.elim (iha · e.1) (ihb · e.2)
    · exact e.elim (iha h.1) (ihb h.2)

theorem ExtUse.forces_of_fixes {u : ExtUse} {i : Nat} (h : u.path.any (F.fixes i true) = true) :
    u.forces i = true := by
  obtain ⟨f, hf, hfi⟩ := List.any_eq_true.1 h
  refine List.all_eq_true.2 fun ρ _ => ?_
  cases hp : u.path.all (F.eval ρ) with
  | false => rfl
  | true => exact F.fixes_sound hfi (List.all_eq_true.1 hp f hf)

/-- Two cheap sufficient tests in front of `ExtUse.ok` itself: the shape test for `direct` and the table of implied
    facts, so that the valuations are enumerated and `ownMessage` (string prefix tests) is evaluated only for the few
    uses they do not settle. -/
theorem ExtUse.ok_of_fixes {checks : List ExitCheck} {u : ExtUse}
    (h : (u.path.any (F.fixes 0 true) || impliedTable.any (Implied.covers checks u) || u.ok checks) = true) :
    u.ok checks = true := by
  simp only [Bool.or_eq_true] at h
  rcases h with (hf | hi) | h
  · simp [ExtUse.ok, ExtUse.direct, forces_of_fixes hf]
  · simp [ExtUse.ok, hi]
  · exact h

/-- the classes are compared first because most raises share a class -/
theorem raiseGuarded_of_class {h : List (String × List String)} {sites : List ParseSite} {classes : List String}
    (hs : ∀ s ∈ sites, ∀ c ∈ classes, siteGuarded h s c = true) {r : String × String}
    (hr : (classes.contains r.2 || localInvariantRaises.contains r) = true) :
    raiseGuarded h sites r = true := by
  simp only [Bool.or_eq_true, List.contains_iff_mem] at hr
  rcases hr with hc | hl
  · simp only [raiseGuarded, Bool.or_eq_true, List.all_eq_true]
    exact Or.inr fun s hs' => hs s hs' _ hc
  · simp [raiseGuarded, hl]

end Tls.ErrSites
