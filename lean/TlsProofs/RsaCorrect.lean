import TlsProofs.RsaNT
import TlsProofs.RsaBasic
/-
  Correctness of `Python_RSAKey._rawPrivateKeyOp` (CRT + blinding) and of the blinding update; at the
  end one call of it as an operation on the shared blinding pair (C18 ∘ C10: it keeps the pair
  consistent and returns `m^d mod n`), which Props/C18.lean puts under the linearizability theorem.
  Depends on Mathlib: never import this from TlsModel or a driver.
-/
namespace Tls.Rsa
open Nat

/-- what a well-formed private key satisfies (`Python_RSAKey.__init__` / `generate` establish it:
    see `ValidKey.of_lcm`) -/
structure ValidKey (k : PrivKey) : Prop where
  hp : k.p.Prime
  hq : k.q.Prime
  hne : k.p ≠ k.q
  hp2 : 2 < k.p
  hq2 : 2 < k.q
  hn : k.pub.n = k.p * k.q
  hd_p : k.pub.e * k.d ≡ 1 [MOD k.p - 1]
  hd_q : k.pub.e * k.d ≡ 1 [MOD k.q - 1]
  hdP : k.pub.e * k.dP ≡ 1 [MOD k.p - 1]
  hdQ : k.pub.e * k.dQ ≡ 1 [MOD k.q - 1]
  hqInv : k.qInv * k.q ≡ 1 [MOD k.p]

/-- the way `Python_RSAKey.__init__`/`generate` derive the private values:
    `d = invMod(e, lcm(p-1, q-1))`, `dP = d % (p-1)`, `dQ = d % (q-1)`, `qInv = invMod(q, p)` -/
theorem ValidKey.of_lcm (k : PrivKey) (hp : k.p.Prime) (hq : k.q.Prime) (hne : k.p ≠ k.q)
    (hp2 : 2 < k.p) (hq2 : 2 < k.q) (hn : k.pub.n = k.p * k.q)
    (hd : k.pub.e * k.d ≡ 1 [MOD Nat.lcm (k.p - 1) (k.q - 1)])
    (hdP : k.dP = k.d % (k.p - 1)) (hdQ : k.dQ = k.d % (k.q - 1))
    (hqInv : k.qInv * k.q % k.p = 1) : ValidKey k := by
  have h1 : k.pub.e * k.d ≡ 1 [MOD k.p - 1] := hd.of_dvd (Nat.dvd_lcm_left _ _)
  have h2 : k.pub.e * k.d ≡ 1 [MOD k.q - 1] := hd.of_dvd (Nat.dvd_lcm_right _ _)
  refine ⟨hp, hq, hne, hp2, hq2, hn, h1, h2, ?_, ?_, ?_⟩
  · rw [hdP]
    exact ((Nat.mod_modEq _ _).mul_left _).trans h1
  · rw [hdQ]
    exact ((Nat.mod_modEq _ _).mul_left _).trans h2
  · show k.qInv * k.q % k.p = 1 % k.p
    rw [hqInv, Nat.mod_eq_of_lt (by omega)]

theorem ValidKey.n_gt_one {k : PrivKey} (vk : ValidKey k) : 1 < k.pub.n := by
  rw [vk.hn]
  exact Nat.lt_of_lt_of_le (by decide : 1 < 3 * 3) (Nat.mul_le_mul vk.hp2 vk.hq2)

theorem ValidKey.pow_ed {k : PrivKey} (vk : ValidKey k) (x : ℕ) :
    x ^ (k.pub.e * k.d) ≡ x [MOD k.pub.n] := by
  rw [vk.hn]
  have h1 : 1 ≤ k.pub.e * k.d :=
    one_le_of_modEq_one (by have := vk.hp2; omega) vk.hd_p
  exact pow_modEq_self_mul vk.hp vk.hq vk.hne vk.hd_p vk.hd_q h1 x

theorem powMod_pow_modEq {p : ℕ} (hp : p.Prime) (hp2 : 2 < p) {e d : ℕ} (hed : e * d ≡ 1 [MOD p - 1])
    (x : ℕ) : (powMod x d p) ^ e ≡ x [MOD p] := by
  rw [powMod_eq]
  refine ((Nat.mod_modEq _ _).pow _).trans ?_
  rw [← pow_mul, Nat.mul_comm]
  exact pow_modEq_self_prime hp hed (one_le_of_modEq_one (by omega) hed) x

theorem rawPrivateKeyOpHelper_spec {k : PrivKey} (vk : ValidKey k) (x : ℕ) :
    0 ≤ rawPrivateKeyOpHelper k x ∧ (rawPrivateKeyOpHelper k x).toNat < k.pub.n ∧
    (rawPrivateKeyOpHelper k x).toNat ^ k.pub.e ≡ x [MOD k.pub.n] := by
  have hq0 := Nat.zero_lt_of_lt vk.hq2
  obtain ⟨c0, cn, cp, cq⟩ := crt_recombine (Nat.zero_lt_of_lt vk.hp2) hq0 (powMod x k.dP k.p) (powMod x k.dQ k.q)
    k.qInv (powMod_lt _ _ _ hq0) vk.hqInv
  rw [vk.hn]
  exact ⟨c0, cn, (Nat.modEq_and_modEq_iff_modEq_mul ((Nat.coprime_primes vk.hp vk.hq).mpr vk.hne)).mp
    ⟨(cp.pow _).trans (powMod_pow_modEq vk.hp vk.hp2 vk.hdP x),
     (cq.pow _).trans (powMod_pow_modEq vk.hq vk.hq2 vk.hdQ x)⟩⟩

theorem ValidKey.pow_e_inj {k : PrivKey} (vk : ValidKey k) {a b : ℕ} (ha : a < k.pub.n)
    (hb : b < k.pub.n) (h : a ^ k.pub.e ≡ b ^ k.pub.e [MOD k.pub.n]) : a = b := by
  have h2 : a ^ (k.pub.e * k.d) ≡ b ^ (k.pub.e * k.d) [MOD k.pub.n] := by
    rw [pow_mul, pow_mul]; exact h.pow _
  have h3 : a ≡ b [MOD k.pub.n] := ((vk.pow_ed a).symm.trans h2).trans (vk.pow_ed b)
  exact h3.eq_of_lt_of_lt ha hb

theorem ValidKey.root_unique {k : PrivKey} (vk : ValidKey k) {r m : ℕ} (hr : r < k.pub.n)
    (h : r ^ k.pub.e ≡ m [MOD k.pub.n]) : r = m ^ k.d % k.pub.n := by
  apply vk.pow_e_inj hr (Nat.mod_lt _ (Nat.zero_lt_of_lt vk.n_gt_one))
  refine h.trans ?_
  have h1 : (m ^ k.d % k.pub.n) ^ k.pub.e ≡ (m ^ k.d) ^ k.pub.e [MOD k.pub.n] :=
    (Nat.mod_modEq _ _).pow _
  refine (Nat.ModEq.trans ?_ h1.symm)
  rw [← pow_mul, Nat.mul_comm]
  exact (vk.pow_ed m).symm

def PairOk (k : PrivKey) (b u : ℕ) : Prop := b * u ^ k.pub.e ≡ 1 [MOD k.pub.n]

/-- state invariant of `self.blinder`/`self.unblinder`: fresh (`blinder = 0`) or consistent -/
def BlindOk (k : PrivKey) (st : Blind) : Prop := st.blinder = 0 ∨ PairOk k st.blinder st.unblinder

theorem PairOk.square {k : PrivKey} {b u : ℕ} (h : PairOk k b u) :
    PairOk k (b * b % k.pub.n) (u * u % k.pub.n) := by
  unfold PairOk at *
  have h1 : b * b % k.pub.n * (u * u % k.pub.n) ^ k.pub.e ≡ b * b * (u * u) ^ k.pub.e [MOD k.pub.n] :=
    (Nat.mod_modEq _ _).mul ((Nat.mod_modEq _ _).pow _)
  refine h1.trans ?_
  have : b * b * (u * u) ^ k.pub.e = (b * u ^ k.pub.e) * (b * u ^ k.pub.e) := by
    rw [mul_pow]; ring
  rw [this]
  simpa using h.mul h

theorem PairOk.init {k : PrivKey} {rnd : ℕ} (hn : 1 < k.pub.n)
    (hinv : invMod rnd k.pub.n * rnd % k.pub.n = 1) :
    PairOk k (powMod (invMod rnd k.pub.n) k.pub.e k.pub.n) rnd := by
  unfold PairOk
  rw [powMod_eq]
  have h1 : (invMod rnd k.pub.n) ^ k.pub.e % k.pub.n * rnd ^ k.pub.e
      ≡ (invMod rnd k.pub.n) ^ k.pub.e * rnd ^ k.pub.e [MOD k.pub.n] :=
    (Nat.mod_modEq _ _).mul_right _
  refine h1.trans ?_
  rw [← mul_pow]
  have h2 : invMod rnd k.pub.n * rnd ≡ 1 [MOD k.pub.n] := by
    show invMod rnd k.pub.n * rnd % k.pub.n = 1 % k.pub.n
    rw [hinv, Nat.mod_eq_of_lt hn]
  simpa using h2.pow k.pub.e

theorem blindStep_spec {k : PrivKey} {st : Blind} {rnd : ℕ} (hn : 1 < k.pub.n) (hst : BlindOk k st)
    (hrnd : st.blinder = 0 → invMod rnd k.pub.n * rnd % k.pub.n = 1) :
    PairOk k (blindStep k st rnd).1.1 (blindStep k st rnd).1.2 ∧
    PairOk k (blindStep k st rnd).2.blinder (blindStep k st rnd).2.unblinder := by
  unfold blindStep
  by_cases h0 : st.blinder = 0
  · simp only [h0, if_true]
    have := PairOk.init (k := k) hn (hrnd h0)
    exact ⟨this, this.square⟩
  · simp only [h0, if_false]
    rcases hst with h | h
    · exact absurd h h0
    · exact ⟨h, h.square⟩

theorem rawPrivateKeyOp_root {k : PrivKey} (vk : ValidKey k) {st : Blind} {rnd : ℕ}
    (hst : BlindOk k st) (hrnd : st.blinder = 0 → invMod rnd k.pub.n * rnd % k.pub.n = 1) (m : ℕ) :
    (rawPrivateKeyOp k st rnd m).1 < k.pub.n ∧
    (rawPrivateKeyOp k st rnd m).1 ^ k.pub.e ≡ m [MOD k.pub.n] := by
  obtain ⟨hpair, _⟩ := blindStep_spec vk.n_gt_one hst hrnd
  unfold rawPrivateKeyOp rawPrivateKeyOpWith
  generalize blindStep k st rnd = r at hpair ⊢
  obtain ⟨⟨b, u⟩, st'⟩ := r
  simp only at hpair ⊢
  obtain ⟨c0, cn, cr⟩ := rawPrivateKeyOpHelper_spec vk (m * b % k.pub.n)
  generalize rawPrivateKeyOpHelper k (m * b % k.pub.n) = c at c0 cn cr
  obtain ⟨a, rfl⟩ := Int.eq_ofNat_of_zero_le c0
  rw [Int.toNat_natCast] at cn cr
  rw [← Int.natCast_mul, ← Int.natCast_mod, Int.toNat_natCast]
  refine ⟨Nat.mod_lt _ (Nat.zero_lt_of_lt vk.n_gt_one), ?_⟩
  have h1 : (a * u % k.pub.n) ^ k.pub.e ≡ (a * u) ^ k.pub.e [MOD k.pub.n] :=
    (Nat.mod_modEq _ _).pow _
  refine h1.trans ?_
  rw [mul_pow]
  have h2 : a ^ k.pub.e * u ^ k.pub.e ≡ (m * b) * u ^ k.pub.e [MOD k.pub.n] :=
    (cr.trans (Nat.mod_modEq _ _)).mul_right _
  refine h2.trans ?_
  rw [mul_assoc]
  simpa using (Nat.ModEq.refl m).mul hpair

theorem blindStep_state (k : PrivKey) (st : Blind) (rnd m : ℕ) :
    (rawPrivateKeyOp k st rnd m).2 = (blindStep k st rnd).2 := by
  unfold rawPrivateKeyOp rawPrivateKeyOpWith
  rfl

theorem rawPrivateKeyOp_blindOk {k : PrivKey} (vk : ValidKey k) {st : Blind} {rnd : ℕ} (hst : BlindOk k st)
    (hrnd : st.blinder = 0 → invMod rnd k.pub.n * rnd % k.pub.n = 1) (m : ℕ) :
    BlindOk k (rawPrivateKeyOp k st rnd m).2 := by
  rw [blindStep_state]
  exact Or.inr (blindStep_spec vk.n_gt_one hst hrnd).2

/-- a call: (`getRandomNumber(2, n)` used if the pair is still unset, message) -/
abbrev Call := Nat × Nat

def CallOk (k : PrivKey) (o : Call) : Prop := invMod o.1 k.pub.n * o.1 % k.pub.n = 1

def callStep (k : PrivKey) (o : Call) (st : Blind) : Blind × Nat :=
  ((rawPrivateKeyOp k st o.1 o.2).2, (rawPrivateKeyOp k st o.1 o.2).1)

def callCorrect (k : PrivKey) (o : Call) : Nat := o.2 ^ k.d % k.pub.n

theorem callStep_good {k : PrivKey} (vk : ValidKey k) (o : Call) (st : Blind) (ho : CallOk k o)
    (hst : BlindOk k st) :
    BlindOk k (callStep k o st).1 ∧ (callStep k o st).2 = callCorrect k o := by
  obtain ⟨h1, h2⟩ := rawPrivateKeyOp_root vk hst (fun _ => ho) o.2
  exact ⟨rawPrivateKeyOp_blindOk vk hst (fun _ => ho) o.2, vk.root_unique h1 h2⟩

/-- for non-vacuity: p = 5, q = 7, e = d = 5 (5·5 ≡ 1 mod lcm(4,6)) -/
def toyKey : PrivKey :=
  { pub := { n := 35, e := 5 }, d := 5, p := 5, q := 7, dP := 1, dQ := 5, qInv := 3 }

theorem toyKey_valid : ValidKey toyKey :=
  ValidKey.of_lcm toyKey Nat.prime_five Nat.prime_seven (by decide) (by decide) (by decide)
    (by decide) (by decide) (by decide) (by decide) (by decide)

end Tls.Rsa
