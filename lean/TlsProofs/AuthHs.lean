import TlsProofs.AuthSites
/-
  C05, handshake level: a proof accepted on a message the key's owner never signed reduces to the bad events
  (`Forgery`, `EncCollision`, `TranscriptCollision`); what the PSK loop has established of the choice it returns
  (`PskChoiceProof`); the ticket-less loop and handshake as instances of the ones with tickets; the Checker: when
  `checkerOk` holds, and that `wrapperR` is `wrapper` where the skip does not apply.
-/
namespace Tls.Auth
open Gen

theorem fail_not_completed (sess : Option Session) (r : Reject) : (Outcome.fail sess r).completed = false := rfl

theorem done_session (sess : Session) :
    (Outcome.done sess).session = some { sess with resumable := true } := rfl

theorem tbs13_inj {tag1 tag2 h1 h2 : Bytes} (hl : tag1.length = tag2.length)
    (h : tbs13 tag1 h1 = tbs13 tag2 h2) : tag1 = tag2 ∧ h1 = h2 := by
  unfold tbs13 at h
  simp only [List.append_assoc] at h
  have h' := List.append_cancel_left (List.append_cancel_left h)
  obtain ⟨ht, hrest⟩ := List.append_inj h' hl
  exact ⟨ht, List.append_cancel_left (List.append_cancel_left hrest)⟩

/-- two different messages with the same signed encoding (hash collision, also truncated or
    across encodings) -/
def EncCollision (C : Crypto) : Prop :=
  ∃ f f' x y, EncFn C f ∧ EncFn C f' ∧ x ≠ y ∧ f x = f' y

/-- `sig` verifies under `key` on bytes that are not the encoding of any message the key's owner
    signed -/
def Forgery (C : Crypto) (key : Nat) (sig : Bytes) (ownerSigned : Bytes → Prop) : Prop :=
  ∃ alg d, C.verify key alg d sig = true ∧ ∀ m f, ownerSigned m → EncFn C f → f m ≠ d

theorem proved_foreign_message (C : Crypto) (key : Nat) (m sig : Bytes) (ownerSigned : Bytes → Prop)
    (hp : Proved C key m sig) (hother : ∀ m', ownerSigned m' → m' ≠ m) :
    Forgery C key sig ownerSigned ∨ EncCollision C := by
  obtain ⟨alg, f, hf, hv⟩ := hp
  by_cases hex : ∃ m' f', ownerSigned m' ∧ EncFn C f' ∧ f' m' = f m
  · obtain ⟨m', f', hs, hf', heq⟩ := hex
    exact Or.inr ⟨f', f, m', m, hf', hf, hother m' hs, heq⟩
  · refine Or.inl ⟨alg, f m, hv, ?_⟩
    intro m' f' hs hf' heq
    exact hex ⟨m', f', hs, hf', heq⟩

def TranscriptCollision (C : Crypto) : Prop := ∃ h x y, x ≠ y ∧ C.hash h x = C.hash h y

theorem tbs13_binds_transcript (C : Crypto) (prf : HashName) (tag tag' : Bytes) (t t' : Transcript)
    (hl : tag.length = tag'.length) (hne : (tag, t) ≠ (tag', t')) :
    tbs13 tag (digest C prf t) ≠ tbs13 tag' (digest C prf t') ∨ TranscriptCollision C := by
  by_cases heq : tbs13 tag (digest C prf t) = tbs13 tag' (digest C prf t')
  · obtain ⟨h1, h2⟩ := tbs13_inj hl heq
    right
    refine ⟨prf, t, t', ?_, h2⟩
    intro htt
    exact hne (by rw [h1, htt])
  · exact Or.inl heq

theorem checkerOk_iff (fpf : Cert → Bytes) (fp : Bytes) (isClient : Bool) (sess : Session) :
    checkerOk fpf fp isClient sess = true ↔
      ∃ c rest, (if isClient then sess.serverCertChain else sess.clientCertChain) = c :: rest ∧ fpf c = fp := by
  unfold checkerOk
  cases h : (if isClient = true then sess.serverCertChain else sess.clientCertChain) with
  | nil => simp
  | cons c rest => simp

theorem checkerOk_no_chain {certFp : Cert → Bytes} {fp : Bytes} {isClient : Bool} {sess : Session}
    (hnone : (if isClient then sess.serverCertChain else sess.clientCertChain) = []) :
    checkerOk certFp fp isClient sess = false := by
  unfold checkerOk
  simp only
  rw [hnone]

def PskChoiceProof (C : Crypto) (configs : List PskConfig) (dec : Bytes → Option Ticket) (lifetime now ver : Nat)
    (prf : HashName) (tr : Transcript) (psks : List (Bytes × Bytes)) (c : PskChoice) : Prop :=
  ∃ binder, psks[c.index]? = some (c.identity, binder) ∧
    ((c.external = true ∧ c.resumedChain = [] ∧ ∃ cfg, cfg ∈ configs ∧ cfg.identity = c.identity ∧
        cfg.hash = prf ∧ binder = calcBinder C prf cfg.secret tr true) ∨
     (c.external = false ∧ ∃ tk, dec c.identity = some tk ∧ c.resumedChain = tk.clientChain ∧
        tk.version = ver ∧ ¬ (tk.creation + lifetime < now) ∧ tk.hash = prf ∧
        binder = calcBinder C prf tk.psk tr false))

theorem pskSelectT_ok (C : Crypto) (configs : List PskConfig) (dec : Bytes → Option Ticket)
    (lifetime now ver : Nat) (prf : HashName) (tr : Transcript) (last : Bool) (psks : List (Bytes × Bytes)) :
    ∀ (offered : List (Bytes × Bytes)) (i : Nat) (c : PskChoice), psks.drop i = offered →
      pskSelectT C configs dec lifetime now ver prf tr last offered i = .ok (some c) →
      PskChoiceProof C configs dec lifetime now ver prf tr psks c := by
  intro offered i c hd
  fun_induction pskSelectT C configs dec lifetime now ver prf tr last offered i
  -- arms in the order of the definition: 4 selects an external PSK, 11 a ticket; 2, 6–9 `continue`; the others abort,
  -- or the list has ended
  case case4 hf hh _ =>
    rintro ⟨⟩
    have hid := List.find?_some hf
    simp only [decide_eq_true_eq] at hid
    exact ⟨_, (drop_eq_cons hd).1, .inl ⟨rfl, rfl, _, List.mem_of_find?_eq_some hf, hid, Decidable.not_not.mp hh, rfl⟩⟩
  case case11 tk hdec hv hexp hh _ =>
    rintro ⟨⟩
    exact ⟨_, (drop_eq_cons hd).1, .inr ⟨rfl, tk, hdec, rfl, (Decidable.not_not.mp hv).symm, hexp,
      Decidable.not_not.mp hh, rfl⟩⟩
  case case2 ih | case6 ih | case7 ih | case8 ih | case9 ih => exact ih (drop_eq_cons hd).2
  all_goals nofun

theorem pskSelectT_noTickets (C : Crypto) (configs : List PskConfig) (lt now ver : Nat) (prf : HashName)
    (tr : Transcript) (last : Bool) (psks : List (Bytes × Bytes)) (i : Nat) :
    pskSelectT C configs (fun _ => none) lt now ver prf tr last psks i =
      (pskSelect C configs prf tr last psks i).map
        (Option.map fun p => { index := p.1, identity := p.2.identity, external := true, resumedChain := [] }) := by
  fun_induction pskSelect C configs prf tr last psks i <;> rw [pskSelectT]
  case case1 => rfl
  case case2 hf ih => simp only [hf]; exact ih
  case case3 hf hh ih => simp only [hf, if_pos hh]; exact ih
  case case4 hf hh hl => simp only [hf, if_neg hh, if_pos hl]; rfl
  case case5 hf hh hl =>
    -- the identity recorded is the offered one, which is the configured one
    have hid := List.find?_some hf
    simp only [decide_eq_true_eq] at hid
    simp only [hf, if_neg hh, if_neg hl, if_true]
    rw [← hid]; rfl
  case case6 hf hh hl hb => simp only [hf, if_neg hh, if_neg hl, if_neg hb]; rfl

theorem hsServer13_eq_T (C : Crypto) (s : Settings) (own : Chain) (configs : List PskConfig) (prf : HashName)
    (trCH : Transcript) (last : Bool) (psks : List (Bytes × Bytes)) (reqCert : Bool) (offered : List SchemeId)
    (chain : Chain) (tCV : Transcript) (ownScheme : Option SchemeId) (cv : CertVerify) (sec : Bytes)
    (tFin : Transcript) (fin : Bytes) :
    hsServer13 C s own configs prf trCH last psks reqCert offered chain tCV ownScheme cv sec tFin fin =
      hsServer13T C s own configs (fun _ => none) 0 0 prf trCH last psks reqCert offered chain tCV ownScheme cv sec
        tFin fin := by
  unfold hsServer13 hsServer13T
  rw [pskSelectT_noTickets]
  cases pskSelect C configs prf trCH last psks 0 with
  | error e => rfl
  | ok sel =>
    cases sel with
    | some p => simp [Except.map]
    | none =>
      simp only [Except.map, Option.map_none]
      cases (if reqCert = true then verifyCV13Server C s offered chain tCV prf ownScheme cv else .ok []) with
      | error e => rfl
      | ok ch => by_cases hc : ch = [] <;> simp [hc]

theorem wrapperR_not_skipped {cr resumed : Bool} (h : checkerSkips cr resumed = false) (certFp : Cert → Bytes)
    (fp : Bytes) (isClient : Bool) (o : Outcome) :
    wrapperR certFp (some (fp, cr)) isClient resumed o = wrapper certFp (some fp) isClient o := by
  show (if checkerSkips cr resumed = true then o else _) = _
  rw [h]
  rfl

end Tls.Auth
