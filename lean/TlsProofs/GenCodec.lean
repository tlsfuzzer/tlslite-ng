import TlsModel.Gen.Codec
import TlsModel.Fmt
import TlsProofs.Codec
import TlsProofs.PyRt
/-
  The methods of tlslite/utils/codec.py as regenerated from the source (TlsModel/Gen/Codec.lean,
  translate/gen_codec.py) compute the hand-written model TlsModel/Codec.lean: for every state and
  every natural-number argument, `Gen.<method> (object of the state) args = lift (<hand method> state args)`.

  What each `PyO` primitive does on casts of naturals is tagged `pyrt`, so that a method is unfolded and rewritten by
  `simp only [Gen.<method>, pyrt, <equalities of the methods it calls>]`.  Trap: `pyrt` turns the integer literals
  from 1 on into casts, so a callee's equality instantiated at a literal width (`gen_Writer_add_eq … 1` and `… 3` in
  `gen_postWrite_eq`) no longer matches under it; there the primitives are named instead.
-/
namespace Tls.Codec
open Tls.Fmt

theorem toBytesBig_nat (x n : Nat) :
    PyO.toBytesBig (x : Int) (n : Int) = if x < 256 ^ n then .ok (beEncode n x) else .error .overflowError := by
  unfold PyO.toBytesBig
  have h1 : ¬ ((n : Int) < 0) := by omega
  have h2 : ¬ ((x : Int) < 0) := by omega
  simp [h1, h2]

theorem packItem_nat (k v : Nat) :
    PyO.packItem k (v : Int) = if v < 256 ^ k then .ok (beEncode k v) else .error .structError := by
  unfold PyO.packItem
  have h : (0 : Int) ≤ (v : Int) := by omega
  by_cases hv : v < 256 ^ k <;> simp [h, hv]

theorem appendByte_nat (w : Bytes) (x : Nat) :
    PyO.appendByte w (x : Int) = if x < 256 ^ 1 then .ok (w ++ beEncode 1 x) else .error .valueError := by
  unfold PyO.appendByte
  have hc : (0 : Int) ≤ x ∧ (x : Int) < 256 ↔ x < 256 ^ 1 := by omega
  simp only [hc, Int.toNat_natCast]
  split
  next h => rw [beEncode, beEncode, Nat.pow_zero, Nat.div_one, Nat.mod_eq_of_lt h]
  · rfl

/-- `pack('>BH', a, b)` with a low part that always fits: only the high byte can overflow -/
theorem packBH_nat (a b : Nat) (hb : b < 256 ^ 2) :
    PyO.packBH a b = if a < 256 ^ 1 then .ok (beEncode 1 a ++ beEncode 2 b) else .error .structError := by
  simp only [PyO.packBH, packItem_nat, if_pos hb]
  split <;> rfl

theorem listSet_length (pre post : List Int) (a v : Int) :
    PyO.listSet (pre ++ a :: post) pre.length v = .ok (pre ++ v :: post) := by
  simp [PyO.listSet]

theorem pyMod_nat (a b : Nat) : PyO.pyMod (a : Int) (b : Int) =
    if b = 0 then .error .zeroDivision else pure ((a % b : Nat) : Int) := by
  simp only [PyO.pyMod, Int.natCast_eq_zero, Int.fmod_eq_emod_of_nonneg _ (Int.natCast_nonneg b), Int.natCast_emod]
  rfl

theorem pyFloorDiv_nat (a b : Nat) : PyO.pyFloorDiv (a : Int) (b : Int) =
    if b = 0 then .error .zeroDivision else pure ((a / b : Nat) : Int) := by
  simp only [PyO.pyFloorDiv, Int.natCast_eq_zero, Int.fdiv_eq_ediv_of_nonneg _ (Int.natCast_nonneg b), Int.natCast_ediv]
  rfl

attribute [pyrt] toBytesBig_nat packItem_nat appendByte_nat pyMod_nat pyFloorDiv_nat PyO.packH PyO.packI PyO.lenB PyO.lenL

/-- every `Writer` error of the hand model is a Python ValueError -/
def excOfW : WErr → PyO.Exc
  | _ => .valueError

def excOfP : PErr → PyO.Exc
  | .zeroDiv => .zeroDivision
  | _ => .decodeError

def liftW (r : Except WErr Writer) : PyO.M PyO.Writer :=
  match r with
  | .ok w => .ok ⟨w⟩
  | .error e => .error (excOfW e)

def toGen (p : Parser) : PyO.Parser := ⟨p.bytes, p.index, p.indexCheck, p.lengthCheck⟩

def liftP {α β : Type} (f : α → β) (r : Except PErr (α × Parser)) : PyO.M (β × PyO.Parser) :=
  match r with
  | .ok (a, p) => .ok (f a, toGen p)
  | .error e => .error (excOfP e)

theorem liftW_eq_ok {r : Except WErr Writer} {b : Bytes} : liftW r = .ok ⟨b⟩ ↔ r = .ok b := by
  cases r <;> simp [liftW]

theorem liftW_eq_error {r : Except WErr Writer} : liftW r = .error .valueError ↔ ∃ e, r = .error e := by
  cases r <;> simp [liftW, excOfW]

/-- the shape of `add`, `addTwo`, `addFour` in the source: a `try` around one conversion that raises `E`,
    re-raised as ValueError -/
theorem tryWrite (c : Prop) [Decidable c] (w y : Bytes) (E : PyO.Exc) :
    PyO.tryExcept (do let b ← (if c then .ok y else .error E : PyO.M Bytes); pure (⟨w ++ b⟩ : PyO.Writer))
      E (PyO.raise .valueError) = liftW (if c then .ok (w ++ y) else .error .overflow) := by
  by_cases h : c <;> simp [h, PyO.tryExcept, PyO.raise, liftW, excOfW, bind, Except.bind, pure, Except.pure]

theorem gen_Writer_add_eq (w : Writer) (x n : Nat) :
    Gen.Writer_add ⟨w⟩ x n = liftW (Writer.add w x n) := by
  simp only [Gen.Writer_add, pyrt]
  exact tryWrite _ w _ _

theorem gen_Writer_addOne_eq (w : Writer) (x : Nat) :
    Gen.Writer_addOne ⟨w⟩ x = liftW (Writer.addOne w x) := by
  rw [Writer.addOne_eq_add]
  simp only [Gen.Writer_addOne, pyrt, Writer.add, liftW]
  split <;> rfl

theorem gen_Writer_addTwo_eq (w : Writer) (x : Nat) :
    Gen.Writer_addTwo ⟨w⟩ x = liftW (Writer.addTwo w x) := by
  rw [Writer.addTwo_eq_add]
  simp only [Gen.Writer_addTwo, pyrt]
  exact tryWrite _ w _ _

theorem gen_Writer_addFour_eq (w : Writer) (x : Nat) :
    Gen.Writer_addFour ⟨w⟩ x = liftW (Writer.addFour w x) := by
  rw [Writer.addFour_eq_add]
  simp only [Gen.Writer_addFour, pyrt]
  exact tryWrite _ w _ _

theorem gen_Writer_addThree_eq (w : Writer) (x : Nat) :
    Gen.Writer_addThree ⟨w⟩ x = liftW (Writer.addThree w x) := by
  have hb : Py.band (x : Int) (65535 : Int) = ((x % 2 ^ 16 : Nat) : Int) :=
    (Py.band_nat x 65535).trans (congrArg Nat.cast (Nat.and_two_pow_sub_one_eq_mod x 16))
  have hc : x / 65536 ≤ 0xff ↔ x / 2 ^ 16 < 256 ^ 1 := by omega
  simp only [Gen.Writer_addThree, Writer.addThree, hb, Py.shr_nat, Nat.shiftRight_eq_div_pow, packBH_nat _ _ (Nat.mod_lt x (by decide)), hc,
    List.append_assoc]
  exact tryWrite _ w _ _

theorem liftW_bind {r : Except WErr Writer} {k : PyO.Writer → PyO.M PyO.Writer}
    {k' : Writer → Except WErr Writer} (h : ∀ w, k ⟨w⟩ = liftW (k' w)) :
    liftW r >>= k = liftW (r >>= k') := by
  cases r with
  | error e => rfl  -- trap: `excOfW e` reduces to `.valueError` for a variable `e` (its one arm is `| _`)
  | ok w => exact h w

theorem gen_Writer_add_var_bytes_eq (w : Writer) (d : Bytes) (ll : Nat) :
    Gen.Writer_add_var_bytes ⟨w⟩ d ll = liftW (Writer.addVarBytes w d ll) := by
  simp only [Gen.Writer_add_var_bytes, pyrt, gen_Writer_add_eq]
  exact liftW_bind fun _ => rfl

/-- The three loops of the source that append every item of a sequence on `n` bytes (`add` per item,
    `bytearray.extend`, `pack('>' + 'H' * k)`) are folds of a step that appends `beEncode n x` or raises
    `E`; `mk` is how the loop state holds the buffer. -/
theorem foldlM_addFixSeq {σ : Type} (n : Nat) (mk : Writer → σ) (E : PyO.Exc) (step : σ → Int → PyO.M σ)
    (hstep : ∀ w (x : Nat), step (mk w) x = if x < 256 ^ n then .ok (mk (w ++ beEncode n x)) else .error E)
    (seq : List Nat) (w : Writer) :
    (seq.map fun (k : Nat) => (k : Int)).foldlM step (mk w) =
      (match Writer.addFixSeq w seq n with | .ok w' => .ok (mk w') | .error _ => .error E) := by
  induction seq generalizing w with
  | nil => rfl
  | cons x xs ih =>
    rw [List.map_cons, List.foldlM_cons, hstep, Writer.addFixSeq_cons]
    split
    · exact ih _
    · rfl

theorem forM_addFixSeq (n : Nat) (seq : List Nat) (w : Writer) :
    PyO.forM (seq.map fun (k : Nat) => (k : Int)) (⟨w⟩ : PyO.Writer) (fun e st => Gen.Writer_add st e n)
      = liftW (Writer.addFixSeq w seq n) :=
  foldlM_addFixSeq n PyO.Writer.mk .valueError _
    (fun w x => by simp only [gen_Writer_add_eq, Writer.add]; split <;> rfl) seq w

theorem gen_Writer_addFixSeq_eq (w : Writer) (seq : List Nat) (n : Nat) :
    Gen.Writer_addFixSeq ⟨w⟩ (seq.map fun (k : Nat) => (k : Int)) n = liftW (Writer.addFixSeq w seq n) := by
  simp only [Gen.Writer_addFixSeq, bind_pure]
  exact forM_addFixSeq n seq w

theorem gen_Parser_getFixBytes_eq (p : Parser) (n : Nat) :
    Gen.Parser_getFixBytes (toGen p) n = liftP id (Parser.getFixBytes p n) := by
  simp only [Gen.Parser_getFixBytes, toGen, Parser.getFixBytes, pyrt, decide_eq_true_eq, Nat.add_sub_cancel_left]
  split <;> rfl

theorem liftP_bind {α β γ δ : Type} {f : α → β} {g : γ → δ} (r : Except PErr (α × Parser))
    {k : β × PyO.Parser → PyO.M (δ × PyO.Parser)} {k' : α × Parser → Except PErr (γ × Parser)}
    (h : ∀ a p, k (f a, toGen p) = liftP g (k' (a, p))) : liftP f r >>= k = liftP g (r >>= k') := by
  cases r with
  | error e => rfl
  | ok q => exact h q.1 q.2

theorem gen_Parser_get_eq (p : Parser) (n : Nat) :
    Gen.Parser_get (toGen p) n = liftP (fun (x : Nat) => (x : Int)) (Parser.get p n) := by
  simp only [Gen.Parser_get, gen_Parser_getFixBytes_eq]
  exact liftP_bind _ fun _ _ => rfl

theorem gen_Parser_skip_bytes_eq (p : Parser) (n : Nat) :
    Gen.Parser_skip_bytes (toGen p) n =
      (match Parser.skipBytes p n with | .ok p' => .ok (toGen p') | .error e => .error (excOfP e)) := by
  simp only [Gen.Parser_skip_bytes, toGen, Parser.skipBytes, pyrt, decide_eq_true_eq]
  split <;> rfl

theorem gen_Parser_getVarBytes_eq (p : Parser) (ll : Nat) :
    Gen.Parser_getVarBytes (toGen p) ll = liftP id (Parser.getVarBytes p ll) := by
  simp only [Gen.Parser_getVarBytes, gen_Parser_get_eq]
  refine liftP_bind _ fun x p1 => ?_
  simp only [gen_Parser_getFixBytes_eq]
  exact bind_pure _

theorem gen_Parser_startLengthCheck_eq (p : Parser) (ll : Nat) :
    Gen.Parser_startLengthCheck (toGen p) ll =
      (match Parser.startLengthCheck p ll with | .ok p' => .ok (toGen p') | .error e => .error (excOfP e)) := by
  simp only [Gen.Parser_startLengthCheck, gen_Parser_get_eq, Parser.startLengthCheck]
  cases Parser.get p ll <;> rfl

theorem gen_Parser_setLengthCheck_eq (p : Parser) (n : Nat) :
    Gen.Parser_setLengthCheck (toGen p) n = .ok (toGen (Parser.setLengthCheck p n)) := rfl

theorem gen_Parser_stopLengthCheck_eq (p : Parser) :
    Gen.Parser_stopLengthCheck (toGen p) =
      (match Parser.stopLengthCheck p with | .ok () => .ok (toGen p) | .error e => .error (excOfP e)) := by
  simp only [Gen.Parser_stopLengthCheck, toGen, Parser.stopLengthCheck, PyO.raise, pure, Except.pure]
  by_cases h : (p.index : Int) - p.indexCheck ≠ p.lengthCheck
  · simp [h, excOfP]
  · simp [h]

theorem gen_Parser_atLengthCheck_eq (p : Parser) :
    Gen.Parser_atLengthCheck (toGen p) =
      (match Parser.atLengthCheck p with | .ok b => .ok (b, toGen p) | .error e => .error (excOfP e)) := by
  simp only [Gen.Parser_atLengthCheck, toGen, Parser.atLengthCheck, PyO.raise, pure, Except.pure]
  by_cases h1 : (p.index : Int) - p.indexCheck < p.lengthCheck
  · simp [h1]
  · by_cases h2 : (p.index : Int) - p.indexCheck = p.lengthCheck
    · simp [h2]
    · simp [h1, h2, excOfP]

theorem gen_Parser_getRemainingLength_eq (p : Parser) (hinv : p.inv) :
    Gen.Parser_getRemainingLength (toGen p) = .ok ((Parser.getRemainingLength p : Int), toGen p) := by
  unfold Parser.inv at hinv
  simp only [Gen.Parser_getRemainingLength, toGen, Parser.getRemainingLength, pyrt, pure, Except.pure]
  congr 2
  omega

/-- body of `for x in range(k): l[x] = self.get(n)` as generated -/
def fixStep (n : Nat) (s : List Int × PyO.Parser) (x : Int) : PyO.M (List Int × PyO.Parser) := do
  let r1 ← Gen.Parser_get s.snd ↑n
  let l ← PyO.listSet s.fst x r1.fst
  pure (l, r1.snd)

/-- the loop started at position `pre.length` of a list whose remaining `m` cells are still zero -/
theorem fixList_loop (n m : Nat) (pre : List Int) (p : Parser) :
    List.foldlM (fixStep n) (pre ++ List.replicate m 0, toGen p)
        (List.map (fun (k : Nat) => (k : Int)) (List.range' pre.length m)) =
      liftP (fun xs => pre ++ xs.map fun (x : Nat) => (x : Int)) (Parser.getFixList p n m) := by
  induction m generalizing pre p with
  | zero => simp [Parser.getFixList, liftP, pure, Except.pure]
  | succ m ih =>
    rw [List.range'_succ, List.map_cons, List.foldlM_cons, fixStep, gen_Parser_get_eq, Parser.getFixList, bind_assoc]
    refine liftP_bind _ fun x p1 => ?_
    simp only [List.replicate_succ, listSet_length]
    have := ih (pre ++ [(x : Int)]) p1
    simp only [List.length_append, List.append_assoc] at this
    refine this.trans ?_
    cases Parser.getFixList p1 n m <;> rfl

theorem gen_Parser_getFixList_eq (p : Parser) (n k : Nat) :
    Gen.Parser_getFixList (toGen p) n k =
      liftP (fun (xs : List Nat) => xs.map fun (x : Nat) => (x : Int)) (Parser.getFixList p n k) := by
  simp only [Gen.Parser_getFixList, PyO.forM, PyO.zeros, PyO.range, Int.toNat_natCast, List.range_eq_range']
  exact (bind_pure _).trans (fixList_loop n k [] p)

theorem gen_Parser_getVarList_eq (p : Parser) (n ll : Nat) :
    Gen.Parser_getVarList (toGen p) n ll =
      liftP (fun (xs : List Nat) => xs.map fun (x : Nat) => (x : Int)) (Parser.getVarList p n ll) := by
  simp only [Gen.Parser_getVarList, gen_Parser_get_eq]
  refine liftP_bind _ fun len p1 => ?_
  simp only [pyrt]
  by_cases hn : n = 0
  · simp only [if_pos hn]; rfl
  · simp only [if_neg hn, pure_bind, ne_eq, Int.natCast_eq_zero]
    by_cases hm : len % n = 0
    · simp only [hm, not_true_eq_false, decide_false, Bool.false_eq_true, if_false]
      exact gen_Parser_getFixList_eq p1 n (len / n)
    · simp only [hm, not_false_eq_true, decide_true, if_true]; rfl

/-- `HandshakeMsg.postWrite`: ValueError when the type does not fit a byte or the body the 24-bit length, never a
    wrapped header -/
theorem gen_postWrite_eq (t : Nat) (body : Bytes) :
    Gen.HandshakeMsg_postWrite t ⟨body⟩ =
      if t < 256 then
        (match encode (.lenPref 3 .rest) 0 (.bytes body) with
         | some b => .ok (beEncode 1 t ++ b)
         | none => .error .valueError)
      else .error .valueError := by
  have h1 : Gen.Writer_add ⟨[]⟩ t 1 = _ := gen_Writer_add_eq [] t 1
  have h2 (w) : Gen.Writer_add ⟨w⟩ body.length 3 = _ := gen_Writer_add_eq w body.length 3
  simp only [Gen.HandshakeMsg_postWrite, PyO.lenB, h1, Writer.add, Nat.pow_one, List.nil_append]
  split
  · simp only [liftW, bind, Except.bind, h2, Writer.add, encode, Option.bind]
    by_cases hl : body.length < 256 ^ 3
    · simp only [if_pos hl, List.append_assoc]; rfl
    · simp only [if_neg hl]; rfl
  · rfl

theorem extendInts_eq (seq : List Nat) (w : Writer) :
    PyO.extendInts w (seq.map fun (k : Nat) => (k : Int)) =
      (match Writer.addFixSeq w seq 1 with | .ok w' => .ok w' | .error _ => .error .valueError) :=
  foldlM_addFixSeq 1 id .valueError _ appendByte_nat seq w

theorem packHs_fold (seq : List Nat) (a : Bytes) :
    (seq.map fun (k : Nat) => (k : Int)).foldlM (fun acc v => do let b ← PyO.packItem 2 v; pure (acc ++ b)) a =
      (match Writer.addFixSeq a seq 2 with | .ok w' => .ok w' | .error _ => .error .structError) :=
  foldlM_addFixSeq 2 id .structError _ (fun a x => by simp only [pyrt, id]; split <;> rfl) seq a

theorem gen_Writer_addVarSeq_eq (w : Writer) (seq : List Nat) (n ll : Nat) :
    Gen.Writer_addVarSeq ⟨w⟩ (seq.map fun (k : Nat) => (k : Int)) n ll = liftW (Writer.addVarSeq w seq n ll) := by
  simp only [Gen.Writer_addVarSeq, pyrt, List.length_map, bind_pure, gen_Writer_add_eq, decide_eq_true_eq]
  refine liftW_bind fun w1 => ?_
  split
  next h =>
    subst h
    rw [extendInts_eq]
    cases Writer.addFixSeq w1 seq 1 <;> rfl
  next =>
    split
    next h =>
      subst h
      simp only [PyO.packHs, List.length_map, ne_eq, not_true_eq_false, if_false, packHs_fold]
      conv => rhs; rw [← List.append_nil w1, addFixSeq_prefix]
      cases Writer.addFixSeq [] seq 2 <;> rfl
    next => exact forM_addFixSeq n seq w1

end Tls.Codec
