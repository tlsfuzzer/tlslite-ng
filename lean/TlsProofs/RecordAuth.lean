import TlsProofs.Record
/- What is authenticated: injectivity of the MAC input encoding, the sender's trace and logs, and
   the forgery events (property C02). -/
namespace Tls.Rec
open Tls.CT

theorem macHeader_length (seq : Bytes) (t : UInt8) (vmaj vmin len : Nat) :
    (macHeader seq t vmaj vmin len).length = seq.length + 1 + (if isSsl3 vmaj vmin then 0 else 2) + 2 := by
  unfold macHeader
  cases isSsl3 vmaj vmin <;> simp

theorem macInput_inj (c : Cfg) (s1 s2 : Nat) (t1 t2 : UInt8) (d1 d2 : Bytes)
    (h1 : s1 < 2 ^ 64) (h2 : s2 < 2 ^ 64)
    (h : macInput s1 t1 c d1 = macInput s2 t2 c d2) : s1 = s2 ∧ t1 = t2 ∧ d1 = d2 := by
  unfold macInput at h
  have hl : (macHeader (seqBytes s1) t1 c.vmaj c.vmin d1.length).length =
      (macHeader (seqBytes s2) t2 c.vmaj c.vmin d2.length).length := by
    rw [macHeader_length, macHeader_length, seqBytes_length, seqBytes_length]
  obtain ⟨hh, hd⟩ := List.append_inj h hl
  unfold macHeader at hh
  simp only [List.append_assoc] at hh
  obtain ⟨hs, ht⟩ := List.append_inj hh (by rw [seqBytes_length, seqBytes_length])
  refine ⟨seqBytes_inj s1 s2 h1 h2 hs, ?_, hd⟩
  simp at ht
  exact ht.1

def trace {S} (send : St S → UInt8 → Bytes → St S × Bytes) : St S → List (UInt8 × Bytes) → List (St S × UInt8 × Bytes)
  | _, [] => []
  | s, (t, p) :: rest => (s, t, p) :: trace send (send s t p).1 rest

def runState {S} (send : St S → UInt8 → Bytes → St S × Bytes) (s0 : St S) (l : List (UInt8 × Bytes)) : St S :=
  l.foldl (fun s x => (send s x.1 x.2).1) s0

theorem runState_seq {S} (send : St S → UInt8 → Bytes → St S × Bytes)
    (hseq : ∀ s t p, (send s t p).1.seq = s.seq + 1) (l : List (UInt8 × Bytes)) (s0 : St S) :
    (runState send s0 l).seq = s0.seq + l.length := by
  induction l generalizing s0 with
  | nil => simp [runState]
  | cons x xs ih =>
    unfold runState at ih ⊢
    simp only [List.foldl_cons, List.length_cons]
    rw [ih, hseq]; omega

theorem index_of_mem_trace {S} (send : St S → UInt8 → Bytes → St S × Bytes) :
    ∀ (sent : List (UInt8 × Bytes)) (s0 : St S) (x : St S × UInt8 × Bytes), x ∈ trace send s0 sent →
      ∃ j, ∃ h : j < sent.length, x = (runState send s0 (sent.take j), sent[j].1, sent[j].2)
  | [], _, _, h => by simp [trace] at h
  | (t, p) :: rest, s0, x, h => by
    simp only [trace, List.mem_cons] at h
    rcases h with h | h
    · exact ⟨0, by simp, by simp [h, runState]⟩
    · obtain ⟨j, hj, hx⟩ := index_of_mem_trace send rest _ x h
      refine ⟨j + 1, by simp; omega, ?_⟩
      simp only [List.take_succ_cons, List.getElem_cons_succ]
      rw [hx]
      simp [runState]

theorem trace_mem {S} (send : St S → UInt8 → Bytes → St S × Bytes) :
    ∀ (sent : List (UInt8 × Bytes)) (s0 : St S) (j : Nat) (h : j < sent.length),
      (runState send s0 (sent.take j), sent[j].1, sent[j].2) ∈ trace send s0 sent
  | [], _, _, h => by simp at h
  | (t, p) :: rest, s0, 0, _ => by simp [trace, runState]
  | (t, p) :: rest, s0, j + 1, h => by
    simp only [trace, List.mem_cons, List.take_succ_cons, List.getElem_cons_succ]
    right
    have := trace_mem send rest (send s0 t p).1 j (by simpa using h)
    simpa [runState] using this

def MacForgery {S} (P : Prims S) (log : List Bytes) (x tag : Bytes) : Prop :=
  P.mac.digest x = tag ∧ x ∉ log

def AeadForgery {S} (P : Prims S) (log : List (Bytes × Bytes × Bytes)) (n a ct : Bytes) : Prop :=
  (P.aeadOpen n ct a).isSome = true ∧ (n, a, ct) ∉ log

def logMte {S} (c : Cfg) (tr : List (St S × UInt8 × Bytes)) : List Bytes :=
  tr.map fun x => macInput x.1.seq x.2.1 c x.2.2

def logEtm {S} (P : Prims S) (c : Cfg) (tr : List (St S × UInt8 × Bytes)) : List Bytes :=
  tr.map fun x => macInput x.1.seq x.2.1 c (P.enc x.1.cs (etmPlain P c x.2.2)).2

def logAead12 {S} (P : Prims S) (c : Cfg) (tr : List (St S × UInt8 × Bytes)) : List (Bytes × Bytes × Bytes) :=
  tr.map fun x =>
    (nonce c x.1.seq, aad12 x.1.seq x.2.1 c.vmaj c.vmin x.2.2.length,
     P.aeadSeal (nonce c x.1.seq) x.2.2 (aad12 x.1.seq x.2.1 c.vmaj c.vmin x.2.2.length))

/-- for a trace that holds the inner plaintexts; the TLS 1.3 theorem of Props/C02.lean has a trace of (type,
    fragment) and the log `log13` -/
def logAead13 {S} (P : Prims S) (c : Cfg) (tr : List (St S × UInt8 × Bytes)) : List (Bytes × Bytes × Bytes) :=
  tr.map fun x =>
    (nonce c x.1.seq, aad13 23 3 3 (x.2.2.length + P.tagLen),
     P.aeadSeal (nonce c x.1.seq) x.2.2 (aad13 23 3 3 (x.2.2.length + P.tagLen)))

theorem seq_mteStream {S} (P : Prims S) (c : Cfg) (hmac : c.hasMac = true) (u : Bool) (s : St S) (t : UInt8) (p : Bytes) :
    (protMteStream P c u s t p).1.seq = s.seq + 1 := by
  unfold protMteStream; cases u <;> simp [hmac]

theorem seq_mteCbc {S} (P : Prims S) (c : Cfg) (hmac : c.hasMac = true) (s : St S) (t : UInt8) (p : Bytes) :
    (protMteCbc P c s t p).1.seq = s.seq + 1 := by
  unfold protMteCbc; simp [hmac]

theorem seq_etm {S} (P : Prims S) (c : Cfg) (hmac : c.hasMac = true) (u : Bool) (s : St S) (t : UInt8) (p : Bytes) :
    (protEtm P c u s t p).1.seq = s.seq + 1 := by
  unfold protEtm; simp [hmac]

theorem seq_aead {S} (P : Prims S) (c : Cfg) (s : St S) (t : UInt8) (p : Bytes) :
    (protAead P c s t p).1.seq = s.seq + 1 := by
  unfold protAead; simp

/-- an item in the log of a sender whose sequence numbers are `s0.seq + j` pins the index `j`
    when the item determines the sequence number -/
theorem log_index {S} (send : St S → UInt8 → Bytes → St S × Bytes)
    (hseq : ∀ s t p, (send s t p).1.seq = s.seq + 1) {α} (item : St S × UInt8 × Bytes → α)
    (s0 : St S) (sent : List (UInt8 × Bytes)) (a : α) (h : a ∈ (trace send s0 sent).map item) :
    ∃ j, ∃ hj : j < sent.length,
      a = item (runState send s0 (sent.take j), sent[j].1, sent[j].2) ∧
      (runState send s0 (sent.take j)).seq = s0.seq + j := by
  obtain ⟨x, hx, rfl⟩ := List.mem_map.mp h
  obtain ⟨j, hj, rfl⟩ := index_of_mem_trace send sent s0 x hx
  refine ⟨j, hj, rfl, ?_⟩
  rw [runState_seq send hseq]
  simp; omega

end Tls.Rec
