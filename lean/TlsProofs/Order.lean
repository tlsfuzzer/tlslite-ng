import TlsModel.Order
/-
  C06: the handshake run on message kinds, `hsRunK` (epochs, pieces and alignment left out), which the simulation of
  OrderSim speaks of.  `checkFrom_sound` is the induction over the only cycles (dropped transparent records) as a
  bounded exploration that the kernel could evaluate for one configuration at a time; nothing evaluates it:
  `accepted_in_grammar` goes through `hsRunK_takes` (OrderSim), where the rest of the grammar at each position
  stands in place of the exploration.
-/

namespace Tls.Order

def hsRunK (c : Cfg) : St → List MsgKind → Bool
  | _, [] => false
  | s, k :: ks =>
    if s == .dead || s.isPost then false
    else match stepK c s 0 k false with
      | .next s' _ => if s' == .done then ks.isEmpty else hsRunK c s' ks
      | .ignore => hsRunK c s ks
      | _ => false

/-- not transparent: the kinds the grammar counts -/
def nt (c : Cfg) (k : MsgKind) : Bool := !transparent c k

/-- explore from state `s` with `pre` = the non-transparent kinds accepted so far -/
def checkFrom (c : Cfg) : Nat → St → List MsgKind → Bool
  | 0, _, _ => false
  | fuel + 1, s, pre =>
    MsgKind.all.all fun k =>
      match stepK c s 0 k false with
      | .next s' _ =>
          nt c k &&
          (if s' == .done then lang c (pre ++ [k])
           else checkFrom c fuel s' (pre ++ [k]))
      | .ignore => transparent c k && !pre.isEmpty
      | _ => true

theorem MsgKind.mem_all (k : MsgKind) : k ∈ MsgKind.all := by
  cases k <;> decide +kernel

theorem filter_all_id {α} (p : α → Bool) (l : List α) (h : l.all p = true) : l.filter p = l :=
  List.filter_eq_self.2 (List.all_eq_true.1 h)

theorem checkFrom_sound (c : Cfg) :
    ∀ (ks : List MsgKind) (fuel : Nat) (s : St) (pre : List MsgKind),
      pre.all (nt c) = true → checkFrom c fuel s pre = true → hsRunK c s ks = true →
      lang c (pre ++ ks.filter (nt c)) = true ∧
      (pre = [] → ∃ k ks', ks = k :: ks' ∧ nt c k = true) := by
  intro ks
  induction ks with
  | nil => intro fuel s pre _ _ h; simp [hsRunK] at h
  | cons k ks ih =>
    intro fuel s pre hpre hchk hrun
    cases fuel with
    | zero => simp [checkFrom] at hchk
    | succ fuel =>
      have hk := (List.all_eq_true.mp hchk) k (MsgKind.mem_all k)
      unfold hsRunK at hrun
      split at hrun
      · cases hrun
      · revert hk hrun
        cases hst : stepK c s 0 k false with
        | next s' b =>
          intro hk hrun
          simp only [Bool.and_eq_true] at hk
          obtain ⟨hnt, hrest⟩ := hk
          have hpre' : (pre ++ [k]).all (nt c) = true := by simp [List.all_append, hpre, hnt]
          by_cases hd : (s' == St.done) = true
          · simp only [hd, if_true] at hrest hrun
            have : ks = [] := by simpa using hrun
            subst this
            refine ⟨?_, fun _ => ⟨k, [], rfl, hnt⟩⟩
            simp [hnt, hrest]
          · simp only [hd] at hrest hrun
            refine ⟨?_, fun _ => ⟨k, ks, rfl, hnt⟩⟩
            simp only [List.filter_cons, hnt, if_true]
            simpa [List.append_assoc] using (ih fuel s' (pre ++ [k]) hpre' hrest hrun).1
        | ignore =>
          intro hk hrun
          simp only [Bool.and_eq_true] at hk
          obtain ⟨htr, hne⟩ := hk
          have hnt : nt c k = false := by simp [nt, htr]
          have := ih (fuel + 1) s pre hpre hchk hrun
          refine ⟨?_, fun hp => ?_⟩
          · simp only [List.filter_cons, hnt]
            exact this.1
          · subst hp; simp at hne
        | _ => intro _ h; cases h

end Tls.Order
