import TlsModel.Dsa
import TlsProofs.RsaBasic
/-
  DER (python-ecdsa `der.py` as transliterated in TlsModel/Der.lean): what `encode_integer` /
  `encode_sequence` produce is read back by `remove_integer` / `remove_sequence`, for contents
  shorter than 128 bytes (short-form lengths: every DSA signature with q up to 480 bits, since each
  INTEGER takes at most `numBytes q + 3` bytes and 2 · 63 < 128).  At the end, in `Tls.Dsa`: `verify_of_der`, which
  puts the three parsing steps of `Dsa.verify` back together.
-/
namespace Tls.Der
open Tls.Rsa

theorem short_bits : ∀ l < 128, (UInt8.ofNat l).toNat &&& 0x80 = 0 ∧ (UInt8.ofNat l).toNat &&& 0x7F = l := by
  decide +kernel

theorem readLength_short (l : Nat) (hl : l < 0x80) (t : Bytes) :
    readLength (encodeLength l ++ t) = .ok (l, 1) := by
  have hb := short_bits l hl
  unfold encodeLength
  rw [if_pos hl]
  simp only [List.singleton_append, readLength]
  rw [if_pos hb.1, hb.2]

theorem encodeLength_short (l : Nat) (h : l < 0x80) : encodeLength l = [UInt8.ofNat l] := if_pos h

theorem readLength_cons (l : Nat) (hl : l < 0x80) (t : Bytes) : readLength (UInt8.ofNat l :: t) = .ok (l, 1) := by
  have := readLength_short l hl t
  rwa [encodeLength_short l hl] at this

theorem hexBytes_ne_nil (n : Nat) : hexBytes n ≠ [] := by
  unfold hexBytes
  split
  · simp
  · rename_i h
    intro hc
    have := congrArg List.length hc
    rw [length_beEncode] at this
    have h1 := numBits_pos n h
    unfold numBytes at this
    simp at this
    omega

theorem beDecode_hexBytes (n : Nat) : beDecode (hexBytes n) = n := beDecode_minimal n

theorem hexBytes_head_ne_zero (n : Nat) (b : UInt8) (t : Bytes) (h : hexBytes n = b :: t) (ht : t ≠ []) :
    b.toNat ≠ 0 := by
  unfold hexBytes at h
  split at h
  · simp at h; exact absurd h.2.symm (fun hc => ht hc.symm)
  · rename_i hn
    intro hb
    have hlen : (b :: t).length = numBytes n := by rw [← h, length_beEncode]
    have hd : beDecode (b :: t) = n := by rw [← h]; exact beDecode_beEncode_of_lt _ _ (lt_pow_numBytes n)
    have hlt := (beDecode_cons_bounds b t).2
    rw [hd, hb] at hlt
    have hge := pow_numBytes_pred_le n hn
    have : numBytes n - 1 = t.length := by simp at hlen; omega
    rw [this] at hge
    omega

theorem tlv_cut (x y : UInt8) (c t : Bytes) :
    ((x :: y :: (c ++ t)).take (1 + 1 + c.length)).drop (1 + 1) = c ∧
    (x :: y :: (c ++ t)).drop (1 + 1 + c.length) = t := by
  rw [show 1 + 1 + c.length = c.length + 1 + 1 by omega]
  simp

theorem removeInteger_tlv (msb : UInt8) (more tail : Bytes) (hl : (msb :: more).length < 0x80)
    (h1 : msb.toNat < 0x80)
    (h2 : ¬ ((msb :: more).length > 1 ∧ msb.toNat = 0 ∧
        (more.head?.map (fun smsb => decide (smsb.toNat < 0x80))).getD false = true)) :
    removeInteger (0x02 :: UInt8.ofNat (msb :: more).length :: msb :: (more ++ tail)) =
      .ok (beDecode (msb :: more), tail) := by
  simp only [removeInteger, ne_eq, not_true_eq_false, if_false, readLength_cons _ hl]
  have c0 : ¬ (msb :: more).length > (0x02 :: UInt8.ofNat (msb :: more).length :: msb :: (more ++ tail)).length - 1 - 1 := by
    simp
  rw [if_neg c0]
  have c00 : ¬ (msb :: more).length = 0 := by simp
  rw [if_neg c00]
  obtain ⟨e1, e2⟩ := tlv_cut 0x02 (UInt8.ofNat (msb :: more).length) (msb :: more) tail
  rw [List.cons_append] at e1 e2
  rw [e1, e2]
  simp only
  have c1 : ¬ ¬ msb.toNat < 0x80 := by omega
  rw [if_neg c1, if_neg h2]

theorem hexBytes_length (r : Nat) : (hexBytes r).length = if r = 0 then 1 else numBytes r := by
  unfold hexBytes; split
  · simp
  · rw [length_beEncode]

/-- `encode_integer(r)`: a short-form INTEGER whose content `msb :: more` is `hexBytes r`, preceded by `00` when its
    leading bit is set -/
theorem encodeInteger_shape (r : Nat) (hsz : numBytes r + 2 < 0x80) :
    ∃ msb more, encodeInteger r = 0x02 :: UInt8.ofNat (msb :: more).length :: msb :: more ∧
      (msb :: more).length ≤ numBytes r + 1 ∧ beDecode (msb :: more) = r ∧ msb.toNat < 0x80 ∧
      ¬ ((msb :: more).length > 1 ∧ msb.toNat = 0 ∧
        (more.head?.map (fun smsb => decide (smsb.toNat < 0x80))).getD false = true) := by
  have hdec := beDecode_hexBytes r
  have hlen := hexBytes_length r
  unfold encodeInteger
  cases hs : hexBytes r with
  | nil => exact absurd hs (hexBytes_ne_nil r)
  | cons b t =>
    rw [hs] at hdec hlen
    simp only
    by_cases hb : b.toNat ≤ 0x7F
    · have hl : (b :: t).length ≤ numBytes r + 1 := by split at hlen <;> omega
      rw [if_pos hb, encodeLength_short _ (by omega)]
      refine ⟨b, t, rfl, hl, hdec, by omega, fun ⟨h1, h2, _⟩ => ?_⟩
      exact hexBytes_head_ne_zero r b t hs (fun hc => by rw [hc] at h1; exact Nat.lt_irrefl _ h1) h2
    · have hr : r ≠ 0 := fun h0 => hb (by
        subst h0
        have : [0] = b :: t := hs
        cases this
        decide)
      rw [if_neg hr] at hlen
      rw [if_neg hb, encodeLength_short _ (by omega)]
      refine ⟨0, b :: t, rfl, by rw [List.length_cons, hlen]; exact Nat.le_refl _, ?_, by decide, fun ⟨_, _, h3⟩ => ?_⟩
      · rw [beDecode_zero_cons, hdec]
      · exact hb (Nat.le_of_lt_succ (of_decide_eq_true h3))

theorem encodeInteger_length_le (r : Nat) (h : numBytes r + 2 < 0x80) : (encodeInteger r).length ≤ numBytes r + 3 := by
  obtain ⟨msb, more, he, hl, _⟩ := encodeInteger_shape r h
  rw [he]
  exact Nat.add_le_add_right hl 2

theorem removeSequence_encodeSequence (a b : Bytes) (h : a.length + b.length < 0x80) :
    removeSequence (encodeSequence [a, b]) = .ok (a ++ b, []) := by
  unfold encodeSequence
  simp only [List.map_cons, List.map_nil, List.foldl_cons, List.foldl_nil, Nat.zero_add,
    List.flatten_cons, List.flatten_nil, List.append_nil]
  rw [encodeLength_short _ h]
  generalize hc : a ++ b = c at *
  have hcl : c.length = a.length + b.length := by rw [← hc]; simp
  rw [← hcl] at h ⊢
  simp only [List.singleton_append, removeSequence, ne_eq, not_true_eq_false, if_false, readLength_cons _ h]
  have c0 : ¬ c.length > (0x30 :: UInt8.ofNat c.length :: c).length - 1 - 1 := by simp
  rw [if_neg c0]
  obtain ⟨e1, e2⟩ := tlv_cut 0x30 (UInt8.ofNat c.length) c []
  rw [List.append_nil] at e1 e2
  rw [e1, e2]

end Tls.Der

namespace Tls.Dsa
open Tls.Rsa Tls.Der

/-- converse of `dsa_verify_bytes_accept` -/
theorem verify_of_der (key : Key) (sig data body : Bytes) (r s : Nat) (rest1 : Bytes)
    (h1 : Der.removeSequence sig = .ok (body, [])) (h2 : Der.removeInteger body = .ok (r, rest1))
    (h3 : Der.removeInteger rest1 = .ok (s, [])) (h4 : verifyRS key r s data = true) :
    verify key sig data = true := by
  have hne : sig.isEmpty = false := by
    cases sig with
    | nil => cases h1
    | cons _ _ => rfl
  unfold verify
  simp only [hne, h1, h2, h3, h4, Bool.false_eq_true, if_false, List.isEmpty_nil, not_true_eq_false]

end Tls.Dsa
