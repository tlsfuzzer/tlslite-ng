import TlsProofs.CT
import TlsProofs.Guards
/- `cbcCheck` (property C12): the constant-time check computes the specification `wellFormed` (`cbcCheck_spec`, from what
   each masked loop computes); both accept a body of the sender's form fragment ++ MAC ++ padding (for the record
   layer's round trip); in a well-formed body the MAC of the fragment `stripPadMac` returns stands right after it
   (`wellFormed_mac`, for C02's MAC-then-encrypt reduction). -/
namespace Tls.CT

theorem xor_eq_zero_iff {a b : Nat} : a ^^^ b = 0 ↔ a = b :=
  ⟨fun h => by rw [← Nat.zero_xor b, ← Nat.xor_self a, Nat.xor_assoc, h, Nat.xor_zero],
   fun h => h ▸ Nat.xor_self a⟩

theorem orFold_eq_zero (l : List Nat) (f : Nat → Nat) :
    orFold l f = 0 ↔ ∀ i ∈ l, f i = 0 :=
  (foldl_or_eq_zero l f 0).trans (and_iff_right rfl)

theorem masked_cmp (a b : Nat) (c : Prop) [Decidable c] (ha : a < 256) (hb : b < 256) :
    (a ^^^ b) &&& (if c then 255 else 0) = 0 ↔ (c → a = b) := by
  by_cases h : c
  · simp only [h, if_true, true_imp_iff]
    rw [show (a ^^^ b) &&& 255 = (a ^^^ b) % 2^8 from Nat.and_two_pow_sub_one_eq_mod _ 8,
      Nat.mod_eq_of_lt (Nat.xor_lt_two_pow (n := 8) ha hb), xor_eq_zero_iff]
  · simp [h]

theorem all_drop_iff (d : Bytes) (k p : Nat) :
    ((d.drop k).all fun b => b.toNat == p) = true ↔
      ∀ i, k ≤ i → i < d.length → byteAt d i = p := by
  simp only [List.all_eq_true, List.mem_drop_iff_getElem, beq_iff_eq]
  constructor
  · intro h i hk hi
    rw [byteAt_eq_getElem d i hi]
    exact h _ ⟨i - k, by omega, by simp only [Nat.add_sub_cancel' hk]⟩
  · rintro h x ⟨j, hj, rfl⟩
    rw [← byteAt_eq_getElem]
    exact h _ (Nat.le_add_right k j) (Nat.add_comm j k ▸ hj)

theorem take_split (d : Bytes) (sp i : Nat) (h : sp ≤ i) :
    d.take sp ++ (d.drop sp).take (i - sp) = d.take i := by
  have : i = sp + (i - sp) := by omega
  conv => rhs; rw [this, List.take_add]

theorem window_eq_iff (d mc : Bytes) (s n : Nat) (hmc : mc.length = n) (hs : s + n ≤ d.length) :
    (∀ j, j < n → byteAt d (s + j) = byteAt mc j) ↔ (d.drop s).take n = mc := by
  constructor
  · intro h
    apply List.ext_getElem
    · simp [hmc]; omega
    · intro j h1 h2
      rw [List.getElem_take, List.getElem_drop]
      have hj : j < n := by omega
      have := h j hj
      rw [byteAt_eq_getElem d _ (by omega), byteAt_eq_getElem mc _ h2] at this
      exact UInt8.toNat_inj.mp this
  · intro h j hj
    have hj2 : j < mc.length := by omega
    rw [byteAt_eq_getElem d _ (by omega), byteAt_eq_getElem mc _ hj2]
    congr 1
    subst h
    rw [List.getElem_take, List.getElem_drop]

theorem mask_lt (a b : Nat) (ha : a < 2^32) (hb : b < 2^32) :
    ctLsbPropU8 (ctLtU32 a b) = if a < b then 255 else 0 := by
  rw [ctLtU32_spec, Nat.mod_eq_of_lt ha, Nat.mod_eq_of_lt hb]
  split <;> rfl

theorem mask_le (a b : Nat) (ha : a < 2^32) (hb : b < 2^32) :
    ctLsbPropU8 (ctLeU32 a b) = if a ≤ b then 255 else 0 := by
  rw [ctLeU32_spec, Nat.mod_eq_of_lt ha, Nat.mod_eq_of_lt hb]
  split <;> rfl

theorem mask_eq (a b : Nat) (ha : a < 2^32) (hb : b < 2^32) :
    ctLsbPropU8 (ctEqU32 a b) = if a = b then 255 else 0 := by
  rw [ctEqU32_spec, Nat.mod_eq_of_lt ha, Nat.mod_eq_of_lt hb]
  split <;> rfl

/-- the padding loop over the last (at most) 256 bytes: a byte is compared with `p` exactly when it lies at or after
    `pad_start` -/
theorem padLoop_eq_zero (data : Bytes) (p : Nat) (hp : p < 256) (hL : data.length < 2^32) :
    (orFold (List.range' (data.length - 256) (data.length - (data.length - 256))) fun i =>
        (byteAt data i ^^^ p) &&& ctLsbPropU8 (ctLeU32 (data.length - p - 1) i)) = 0 ↔
      ((data.drop (data.length - (p + 1))).all fun b => b.toNat == p) = true := by
  have ha : data.length - p - 1 < 2^32 :=
    Nat.lt_of_le_of_lt (Nat.le_trans (Nat.sub_le _ _) (Nat.sub_le _ _)) hL
  rw [orFold_eq_zero, all_drop_iff, ← Nat.sub_sub]
  simp only [List.mem_range'_1]
  constructor
  · intro h i hk hi
    have := h i (by omega)
    rw [mask_le _ _ ha (Nat.lt_trans hi hL), masked_cmp _ _ _ (byteAt_lt _ _) hp] at this
    exact this hk
  · intro h i hi
    have hi' : i < data.length := by omega
    rw [mask_le _ _ ha (Nat.lt_trans hi' hL), masked_cmp _ _ _ (byteAt_lt _ _) hp]
    exact fun hk => h i hk hi'

/-- the MAC loop over the candidate positions from `sp`: only position `n` is unmasked -/
theorem macLoop_eq_zero (m : MacAlg) (data hdr : Bytes) (sp n : Nat)
    (hd : ∀ x, (m.digest x).length = m.dlen) (hsp : sp ≤ n) (hn : n + m.dlen < data.length)
    (hL : data.length < 2^32) :
    (orFold (List.range' sp (data.length - m.dlen - sp)) fun i =>
        orFold (List.range m.dlen) fun j =>
          (byteAt data (i + j) ^^^ byteAt (m.digest (hdr ++ data.take sp ++ (data.drop sp).take (i - sp))) j)
            &&& ctLsbPropU8 (ctEqU32 i n)) = 0 ↔
      (data.drop n).take m.dlen = m.digest (hdr ++ data.take n) := by
  have hn32 : n < 2^32 := Nat.lt_trans (Nat.lt_of_le_of_lt (Nat.le_add_right _ _) hn) hL
  rw [← window_eq_iff data _ n m.dlen (hd _) (Nat.le_of_lt hn), orFold_eq_zero]
  simp only [orFold_eq_zero, List.mem_range'_1, List.mem_range]
  constructor
  · intro h j hj
    have := h n (by omega) j hj
    rw [mask_eq _ _ hn32 hn32, masked_cmp _ _ _ (byteAt_lt _ _) (byteAt_lt _ _),
      List.append_assoc, take_split _ _ _ hsp] at this
    exact this rfl
  · intro h i hi j hj
    rw [mask_eq _ _ (by omega) hn32, masked_cmp _ _ _ (byteAt_lt _ _) (byteAt_lt _ _)]
    rintro rfl
    rw [List.append_assoc, take_split _ _ _ hsp]
    exact h j hj

/-- The block size of the MAC plays no part.  `hL`: below 2^31 neither `L` nor `p + 1 + dlen` (where `dlen < L`) wraps
    in the 32-bit comparisons. -/
theorem cbcCheck_spec (m : MacAlg) (data seq : Bytes) (ct : UInt8) (vmaj vmin bs : Nat)
    (hd : ∀ x, (m.digest x).length = m.dlen)
    (hL : data.length < 2^31) (hbs : bs < 2^32) :
    cbcCheck m data seq ct vmaj vmin bs = wellFormed m data seq ct vmaj vmin bs := by
  simp only [cbcCheck, wellFormed]
  by_cases h0 : m.dlen + 1 > data.length
  · -- publicly too short: both false
    rw [if_pos h0]
    by_cases hz : data.length = 0
    · rw [if_pos hz]
    · rw [if_neg hz, if_pos (by omega)]
  · rw [if_neg h0, if_neg (show ¬ data.length = 0 by omega)]
    generalize hp : byteAt data (data.length - 1) = p
    have hp256 : p < 256 := hp ▸ byteAt_lt _ _
    rw [mask_lt data.length (p + 1 + m.dlen) (by omega) (by omega)]
    by_cases hfit : data.length < p + 1 + m.dlen
    · -- padding + MAC do not fit: the r0 term is non-zero
      simp only [hfit, if_true, beq_eq_false_iff_ne, ne_eq, Nat.or_eq_zero_iff, Nat.reduceEqDiff, false_and,
        not_false_eq_true]
    · have hsp := Nat.div_mul_le_self (data.length - (256 + m.dlen)) m.blockSize
      rw [if_neg hfit, if_neg hfit, Nat.zero_or, Bool.eq_iff_iff]
      simp only [beq_iff_eq, Nat.or_eq_zero_iff, Bool.and_eq_true]
      rw [show data.length - p - 1 - m.dlen = data.length - (p + 1 + m.dlen) by omega,
        macLoop_eq_zero m data _ _ _ hd (by omega) (by omega) (by omega)]
      cases isSsl3 vmaj vmin
      · simp only [Bool.false_eq_true, if_false, padLoop_eq_zero data p hp256 (by omega)]
      · simp only [if_true, mask_lt bs p hbs (by omega), decide_eq_true_eq]
        have : (if bs < p then 255 else 0) = 0 ↔ p ≤ bs := by split <;> omega
        rw [this]

theorem length_append_padding (x : Bytes) (p : Nat) :
    (x ++ List.replicate (p + 1) (UInt8.ofNat p)).length = x.length + p + 1 := by
  rw [List.length_append, List.length_replicate, Nat.add_assoc]

theorem byteAt_last_padding (x : Bytes) (p : Nat) (hp : p < 256) :
    byteAt (x ++ List.replicate (p + 1) (UInt8.ofNat p)) (x.length + p) = p := by
  rw [byteAt, List.getD_eq_getElem?_getD, List.getElem?_append_right (Nat.le_add_right _ _),
    Nat.add_sub_cancel_left, List.getElem?_replicate, if_pos (Nat.lt_succ_self p)]
  exact Nat.mod_eq_of_lt hp

theorem stripPadMac_append (m : MacAlg) (frag tag : Bytes) (p : Nat) (hp : p < 256)
    (ht : tag.length = m.dlen) :
    stripPadMac m (frag ++ (tag ++ List.replicate (p + 1) (UInt8.ofNat p))) = frag := by
  rw [stripPadMac, ← List.append_assoc, length_append_padding, Nat.add_sub_cancel,
    byteAt_last_padding _ _ hp, List.length_append, ht,
    show frag.length + m.dlen + p + 1 - (p + 1 + m.dlen) = frag.length by omega, List.append_assoc,
    List.take_left]

theorem wellFormed_append (m : MacAlg) (frag tag seq : Bytes) (ct : UInt8) (vmaj vmin bs p : Nat)
    (hp : p < 256) (hpb : isSsl3 vmaj vmin = true → p ≤ bs)
    (htag : m.digest (macHeader seq ct vmaj vmin frag.length ++ frag) = tag) (ht : tag.length = m.dlen) :
    wellFormed m (frag ++ (tag ++ List.replicate (p + 1) (UInt8.ofNat p))) seq ct vmaj vmin bs = true := by
  simp only [wellFormed]
  -- the last byte is `p`, so the padding starts after fragment ++ tag and the MAC after the fragment
  rw [← List.append_assoc, length_append_padding, if_neg (by omega), Nat.add_sub_cancel,
    byteAt_last_padding _ _ hp, Nat.add_assoc, Nat.add_sub_cancel, List.drop_left, List.length_append, ht,
    if_neg (by omega), show frag.length + m.dlen + (p + 1) - (p + 1 + m.dlen) = frag.length by omega,
    List.append_assoc, List.take_left, List.drop_left, ← ht, List.take_left, htag, beq_self_eq_true,
    Bool.and_true]
  split
  · exact decide_eq_true (hpb ‹_›)
  · rw [List.all_replicate]
    simp [Nat.mod_eq_of_lt hp]

/-- 2^29 each for fragment and MAC: with at most 256 bytes of padding the body stays below the 2^31 of `cbcCheck_spec` -/
theorem cbcCheck_append (m : MacAlg) (frag tag seq : Bytes) (ct : UInt8) (vmaj vmin bs p : Nat)
    (hp : p < 256) (hpb : isSsl3 vmaj vmin = true → p ≤ bs)
    (htag : m.digest (macHeader seq ct vmaj vmin frag.length ++ frag) = tag)
    (hd : ∀ x, (m.digest x).length = m.dlen) (hdl : m.dlen < 2^29) (hfl : frag.length < 2^29) (hbs : bs < 2^32) :
    cbcCheck m (frag ++ (tag ++ List.replicate (p + 1) (UInt8.ofNat p))) seq ct vmaj vmin bs = true := by
  have ht : tag.length = m.dlen := htag ▸ hd _
  rw [cbcCheck_spec m _ seq ct vmaj vmin bs hd ?_ hbs]
  · exact wellFormed_append m frag tag seq ct vmaj vmin bs p hp hpb htag ht
  · rw [← List.append_assoc, length_append_padding, List.length_append, ht]
    omega

theorem length_macThenPad_le (m : MacAlg) (frag seq : Bytes) (ct : UInt8) (vmaj vmin bs : Nat)
    (hd : ∀ x, (m.digest x).length = m.dlen) (hbs : 0 < bs) :
    (macThenPad m frag seq ct vmaj vmin bs).length ≤ frag.length + m.dlen + bs := by
  rw [macThenPad, addPadding, length_append_padding, List.length_append, hd]
  omega

theorem wellFormed_mac (m : MacAlg) (data seq : Bytes) (ct : UInt8) (vmaj vmin bs : Nat)
    (hacc : wellFormed m data seq ct vmaj vmin bs = true) :
    (data.drop (stripPadMac m data).length).take m.dlen =
      m.digest (macHeader seq ct vmaj vmin (stripPadMac m data).length ++ stripPadMac m data) ∧
    (stripPadMac m data).length + m.dlen + (byteAt data (data.length - 1) + 1) = data.length := by
  unfold wellFormed at hacc
  by_cases hz : data.length = 0
  · simp [hz] at hacc
  · simp only [hz, if_false] at hacc
    generalize hp : byteAt data (data.length - 1) = p at hacc ⊢
    by_cases hfit : data.length < p + 1 + m.dlen
    · simp [hfit] at hacc
    · simp only [hfit, if_false, Bool.and_eq_true, beq_iff_eq] at hacc
      unfold stripPadMac
      rw [hp, List.length_take_of_le (Nat.sub_le _ _)]
      exact ⟨hacc.2, by omega⟩

/-- the third part is the last `p + 1` bytes as they stand (that they are all `p` in TLS is in `wellFormed`, not here) -/
theorem wellFormed_decomp (m : MacAlg) (data seq : Bytes) (ct : UInt8) (vmaj vmin bs : Nat)
    (hacc : wellFormed m data seq ct vmaj vmin bs = true) :
    data = stripPadMac m data
        ++ m.digest (macHeader seq ct vmaj vmin (stripPadMac m data).length ++ stripPadMac m data)
        ++ data.drop (data.length - (byteAt data (data.length - 1) + 1)) ∧
    (stripPadMac m data).length + m.dlen + (byteAt data (data.length - 1) + 1) = data.length := by
  obtain ⟨hmac, hlen⟩ := wellFormed_mac m data seq ct vmaj vmin bs hacc
  have hs : stripPadMac m data = data.take (stripPadMac m data).length := by
    unfold stripPadMac; rw [List.length_take_of_le (Nat.sub_le _ _)]
  generalize (stripPadMac m data).length = n at hmac hlen hs ⊢
  refine ⟨?_, hlen⟩
  rw [← hmac, hs, show data.length - (byteAt data (data.length - 1) + 1) = n + m.dlen by omega,
    ← List.drop_drop, List.append_assoc, List.take_append_drop, List.take_append_drop]

end Tls.CT
