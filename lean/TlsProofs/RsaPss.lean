import TlsProofs.RsaBasic
import TlsProofs.Guards
/-
  EMSA-PSS (rsakey.py `EMSA_PSS_encode` / `EMSA_PSS_verify`): verifier and encoder as chains of guarded steps
  (`emsaPssVerify_eq`, `emsaPssEncode_eq`), and the lemmas by which Props/C10.lean shows that what the encoder
  produces is accepted.  At the end `RSASSA_PSS_verify` at the key level, for every modulus length, including bit
  lengths that are 1 mod 8, where EM is one byte shorter than the modulus.  Core Lean only.
-/
namespace Tls.Rsa

/-- the only thing assumed about the hash: fixed, non-zero output length -/
structure HashOk (H : HashAlg) : Prop where
  pos : 0 < H.hLen
  len : ∀ x, (H.hash x).length = H.hLen

theorem divceil8_bounds (a : Nat) : a ≤ 8 * divceil a 8 ∧ 8 * divceil a 8 < a + 8 := by
  unfold divceil; split <;> omega

theorem divceil_mul_ge (a h : Nat) (hh : 0 < h) : a ≤ divceil a h * h :=
  Nat.mul_comm h _ ▸ le_mul_div_ceil a h hh

theorem foldl_append_length {α β} (f : β → List α) (l : List β) (init : List α) (n : Nat)
    (hf : ∀ x, (f x).length = n) :
    (l.foldl (fun acc x => acc ++ f x) init).length = init.length + l.length * n := by
  induction l generalizing init with
  | nil => simp
  | cons a t ih =>
    simp only [List.foldl_cons, List.length_cons]
    rw [ih, List.length_append, hf, Nat.add_mul]; omega

theorem mgf1_length {H : HashAlg} (hH : HashOk H) (seed : Bytes) (L : Nat) (m : Bytes)
    (h : mgf1 H seed L = .ok m) : m.length = L := by
  unfold mgf1 at h
  rw [if_neg (Nat.ne_of_gt hH.pos)] at h
  split at h
  · cases h
  · cases h
    rw [List.length_take, foldl_append_length _ _ _ H.hLen (fun x => hH.len _)]
    simp only [List.length_nil, List.length_range, Nat.zero_add]
    exact Nat.min_eq_left (divceil_mul_ge L H.hLen hH.pos)

theorem xorBytes_length (a b : Bytes) : (xorBytes a b).length = min a.length b.length := by
  unfold xorBytes; exact List.length_zipWith

theorem xorBytes_cancel (a k : Bytes) (h : a.length ≤ k.length) : xorBytes (xorBytes a k) k = a :=
  zipWith_xor_cancel a k h

theorem and_mask (x k : Nat) : x &&& ((1 <<< k) - 1) = x % 2 ^ k := by
  rw [Nat.one_shiftLeft, Nat.and_two_pow_sub_one_eq_mod]

theorem toNat_ofNat_and (x : UInt8) (m : Nat) : (UInt8.ofNat (x.toNat &&& m)).toNat = x.toNat &&& m := by
  rw [UInt8.toNat_ofNat']
  exact Nat.mod_eq_of_lt (Nat.lt_of_le_of_lt Nat.and_le_left x.toNat_lt)

theorem mask_unmask (d k m : Nat) : (((d ^^^ k) &&& m) ^^^ k) &&& m = d &&& m := by
  rw [Nat.and_xor_distrib_right, Nat.and_assoc, Nat.and_self, ← Nat.and_xor_distrib_right,
    Nat.xor_assoc, Nat.xor_self, Nat.xor_zero]

/-- `255 - ((1 <<< k) - 1) % 256` is `pssTopMask emLen emBits` unfolded, at `k = 8 - (8 * emLen - emBits)` -/
theorem and_topMask_eq_zero (k y : Nat) (hk : k ≤ 8) (hy : y < 2 ^ k) :
    y &&& (255 - ((1 <<< k) - 1) % 256) = 0 := by
  have h256 : 256 = 2 ^ k * 2 ^ (8 - k) := by rw [← Nat.pow_add, Nat.add_sub_cancel' hk]
  have hle : 2 ^ k ≤ 256 := h256 ▸ Nat.le_mul_of_pos_right _ (Nat.two_pow_pos _)
  have hm : 255 - ((1 <<< k) - 1) % 256 = 2 ^ k * (2 ^ (8 - k) - 1) := by
    rw [Nat.one_shiftLeft, Nat.mod_eq_of_lt (by omega), Nat.mul_sub_one, ← h256]; omega
  rw [hm, ← Nat.mod_eq_of_lt (Nat.lt_of_le_of_lt Nat.and_le_left hy), Nat.and_mod_two_pow,
    Nat.mul_mod_right, Nat.and_zero]

/-- Clearing the leftmost bits of the first byte of `db ⊕ mask`, xor-ing with `mask` again and
    clearing the same bits gives `db` back when its first byte had none of them set. -/
theorem maskHead_xor_cancel (k : Nat) (d : UInt8) (t mask xs : Bytes) (x : UInt8)
    (hd : d.toNat < 2 ^ k) (hlen : t.length < mask.length) (hx : xorBytes (d :: t) mask = x :: xs) :
    maskHead ((1 <<< k) - 1) (xorBytes (UInt8.ofNat (x.toNat &&& ((1 <<< k) - 1)) :: xs) mask)
      = .ok (d :: t) := by
  cases mask with
  | nil => cases hx
  | cons m mt =>
    simp only [xorBytes, List.zipWith_cons_cons, List.cons.injEq] at hx
    obtain ⟨rfl, rfl⟩ := hx
    simp only [xorBytes, List.zipWith_cons_cons, maskHead]
    congr 2
    · apply UInt8.toNat_inj.mp
      rw [toNat_ofNat_and, UInt8.toNat_xor, toNat_ofNat_and, UInt8.toNat_xor, mask_unmask, and_mask,
        Nat.mod_eq_of_lt hd]
    · exact xorBytes_cancel t mt (Nat.le_of_lt_succ hlen)

/-! The step lemmas of `Guards` in the spelling of `emsaPssVerify_eq` / `emsaPssEncode_eq` (`.error e`, `Option.elim`,
  `x.bind f`: the normal form of the regenerated source), where `Guards` has `throw` and `>>=`.  Inside `Tls.Rsa`,
  `bind_eq_ok_iff` is the one stated here. -/
theorem ite_error_eq_ok {ε α : Type} {c : Prop} [Decidable c] {e : ε} {x : Except ε α} {a : α} :
    (if c then .error e else x) = .ok a ↔ ¬ c ∧ x = .ok a := by
  split <;> simp [*]
theorem elim_error_eq_ok {ε α β : Type} {o : Option β} {e : ε} {f : β → Except ε α} {a : α} :
    o.elim (.error e) f = .ok a ↔ ∃ b, o = some b ∧ f b = .ok a := by
  cases o <;> simp
theorem bind_eq_ok_iff {ε α β : Type} {x : Except ε β} {f : β → Except ε α} {a : α} :
    x.bind f = .ok a ↔ ∃ b, x = .ok b ∧ f b = .ok a :=
  Tls.bind_eq_ok_iff

theorem pssRecoverDB_eq (H : HashAlg) (m h : Bytes) (emLen emBits : Nat) :
    pssRecoverDB H m h emLen emBits =
      (mgf1 H h (emLen - H.hLen - 1)).bind fun dbMask =>
        maskHead ((1 <<< (8 - (emLen * 8 - emBits))) - 1) (xorBytes m dbMask) := by
  unfold pssRecoverDB
  cases mgf1 H h (emLen - H.hLen - 1) <;> rfl

theorem emsaPssVerify_eq (H : HashAlg) (mHash em : Bytes) (emBits sLen : Nat) :
    emsaPssVerify H mHash em emBits sLen =
      if divceil emBits 8 < H.hLen + sLen + 2 then .error .invalidSignature else
      em.getLast?.elim (.error .indexError) fun last =>
      if last ≠ 0xbc then .error .invalidSignature else
      (em.take (divceil emBits 8 - H.hLen - 1)).head?.elim (.error .indexError) fun b0 =>
      if b0.toNat &&& pssTopMask (divceil emBits 8) emBits ≠ 0 then .error .invalidSignature else
      (pssRecoverDB H (em.take (divceil emBits 8 - H.hLen - 1))
        ((em.drop (divceil emBits 8 - H.hLen - 1)).take H.hLen) (divceil emBits 8) emBits).bind fun db =>
      if (db.take (divceil emBits 8 - H.hLen - sLen - 2)).any (· ≠ 0) then .error .invalidSignature else
      db[divceil emBits 8 - H.hLen - sLen - 2]?.elim (.error .indexError) fun sep =>
      if sep ≠ 1 then .error .invalidSignature else
      if (em.drop (divceil emBits 8 - H.hLen - 1)).take H.hLen =
          H.hash (List.replicate 8 (0 : UInt8) ++ mHash ++ if sLen ≠ 0 then db.drop (db.length - sLen) else [])
      then .ok () else .error .invalidSignature := by
  unfold emsaPssVerify
  simp only
  cases em.getLast? <;> cases (em.take (divceil emBits 8 - H.hLen - 1)).head? <;>
    cases pssRecoverDB H (em.take (divceil emBits 8 - H.hLen - 1))
        ((em.drop (divceil emBits 8 - H.hLen - 1)).take H.hLen) (divceil emBits 8) emBits <;> try rfl
  rename_i db
  dsimp only [Option.elim, Except.bind]
  cases db[divceil emBits 8 - H.hLen - sLen - 2]? <;> rfl

/-- `DB = PS ++ 01 ++ salt` -/
def pssDBOf (emLen hLen : Nat) (salt : Bytes) : Bytes :=
  List.replicate (emLen - hLen - salt.length - 2) (0 : UInt8) ++ [1] ++ salt

theorem pssDBOf_length (emLen hLen : Nat) (salt : Bytes) (h : hLen + salt.length + 2 ≤ emLen) :
    (pssDBOf emLen hLen salt).length = emLen - hLen - 1 := by
  simp only [pssDBOf, List.length_append, List.length_replicate, List.length_cons, List.length_nil]
  omega

/-- the first byte of `DB` is `00` (of PS) or the separator `01` -/
theorem pssDBOf_head (emLen hLen : Nat) (salt : Bytes) :
    ∃ d t, pssDBOf emLen hLen salt = d :: t ∧ d.toNat < 2 := by
  unfold pssDBOf
  cases emLen - hLen - salt.length - 2 with
  | zero => exact ⟨1, salt, rfl, by decide⟩
  | succ a => exact ⟨0, List.replicate a 0 ++ [1] ++ salt, rfl, by decide⟩

theorem pssDBOf_take (emLen hLen : Nat) (salt : Bytes) :
    (pssDBOf emLen hLen salt).take (emLen - hLen - salt.length - 2) =
      List.replicate (emLen - hLen - salt.length - 2) 0 := by
  unfold pssDBOf
  rw [List.append_assoc]
  exact List.take_left' List.length_replicate

theorem pssDBOf_sep (emLen hLen : Nat) (salt : Bytes) :
    (pssDBOf emLen hLen salt)[emLen - hLen - salt.length - 2]? = some 1 := by
  unfold pssDBOf
  rw [List.append_assoc, List.getElem?_append_right (Nat.le_of_eq List.length_replicate),
    List.length_replicate, Nat.sub_self]
  rfl

/-- the verifier's `DB[-sLen:]`, with its special case `sLen = 0` -/
theorem pssDBOf_salt (emLen hLen : Nat) (salt : Bytes) :
    (if salt.length ≠ 0 then
      (pssDBOf emLen hLen salt).drop ((pssDBOf emLen hLen salt).length - salt.length) else []) = salt := by
  split
  · refine List.drop_left' ?_
    simp only [pssDBOf, List.length_append, List.length_cons, List.length_nil]
    omega
  · rename_i h
    exact (List.eq_nil_of_length_eq_zero (Decidable.not_not.mp h)).symm

theorem emsaPssEncode_eq (H : HashAlg) (mHash salt : Bytes) (emBits : Nat) :
    emsaPssEncode H mHash emBits salt =
      if divceil emBits 8 < H.hLen + salt.length + 2 then .error .encodingError else
      (mgf1 H (H.hash (List.replicate 8 (0 : UInt8) ++ mHash ++ salt)) (divceil emBits 8 - H.hLen - 1)).bind fun dbMask =>
      (maskHead ((1 <<< (8 - (divceil emBits 8 * 8 - emBits))) - 1)
        (xorBytes (List.replicate (divceil emBits 8 - salt.length - H.hLen - 2) (0 : UInt8) ++ [1] ++ salt) dbMask)).bind fun m =>
      .ok (m ++ H.hash (List.replicate 8 (0 : UInt8) ++ mHash ++ salt) ++ [0xbc]) := by
  unfold emsaPssEncode
  simp only
  split
  · rfl
  · cases mgf1 H (H.hash (List.replicate 8 (0 : UInt8) ++ mHash ++ salt)) (divceil emBits 8 - H.hLen - 1) with
    | error e => rfl
    | ok dbMask =>
      dsimp only [Except.bind]
      cases maskHead ((1 <<< (8 - (divceil emBits 8 * 8 - emBits))) - 1)
        (xorBytes (List.replicate (divceil emBits 8 - salt.length - H.hLen - 2) (0 : UInt8) ++ [1] ++ salt) dbMask) <;> rfl

theorem maskHead_eq_ok (mask : Nat) (l m : Bytes) :
    maskHead mask l = .ok m ↔ ∃ x xs, l = x :: xs ∧ m = UInt8.ofNat (x.toNat &&& mask) :: xs := by
  cases l with
  | nil => exact iff_of_false nofun nofun
  | cons x xs =>
    simp only [maskHead, Except.ok.injEq, List.cons.injEq]
    exact ⟨fun h => ⟨x, xs, ⟨rfl, rfl⟩, h.symm⟩, fun ⟨_, _, ⟨rfl, rfl⟩, h⟩ => h.symm⟩

theorem emsaPssEncode_ok {H : HashAlg} (mHash salt : Bytes) (emBits : Nat) (em : Bytes)
    (h : emsaPssEncode H mHash emBits salt = .ok em) :
    let emLen := divceil emBits 8
    let hh := H.hash (List.replicate 8 (0 : UInt8) ++ mHash ++ salt)
    H.hLen + salt.length + 2 ≤ emLen ∧
    ∃ dbMask x xs, mgf1 H hh (emLen - H.hLen - 1) = .ok dbMask ∧
      xorBytes (pssDBOf emLen H.hLen salt) dbMask = x :: xs ∧
      em = (UInt8.ofNat (x.toNat &&& ((1 <<< (8 - (emLen * 8 - emBits))) - 1)) :: xs) ++ hh ++ [0xbc] := by
  rw [emsaPssEncode_eq] at h
  simp only [ite_error_eq_ok, bind_eq_ok_iff, maskHead_eq_ok, Nat.not_lt, Except.ok.injEq] at h
  obtain ⟨hlen, dbMask, hm, _, ⟨x, xs, hx, rfl⟩, rfl⟩ := h
  rw [Nat.sub_right_comm _ salt.length] at hx
  exact ⟨hlen, dbMask, x, xs, hm, hx, rfl⟩

theorem emsaPssEncode_length {H : HashAlg} (hH : HashOk H) (mHash salt : Bytes) (emBits : Nat) (em : Bytes)
    (h : emsaPssEncode H mHash emBits salt = .ok em) : em.length = divceil emBits 8 := by
  obtain ⟨hlen, dbMask, x, xs, hm, hx, rfl⟩ := emsaPssEncode_ok mHash salt emBits em h
  have h2 := congrArg List.length hx
  rw [xorBytes_length, pssDBOf_length _ _ _ hlen, mgf1_length hH _ _ _ hm] at h2
  simp only [List.length_cons, Nat.min_self] at h2
  simp only [List.length_append, List.length_cons, List.length_nil, hH.len]
  omega

theorem beDecode_lt_of_head (x : UInt8) (t : Bytes) (k : Nat) (hx : x.toNat < 2 ^ k) :
    beDecode (x :: t) < 2 ^ (k + 8 * t.length) := by
  rw [Nat.pow_add, ← pow256]
  exact Nat.lt_of_lt_of_le (beDecode_cons_bounds x t).2 (Nat.mul_le_mul_right _ hx)

theorem emsaPssEncode_lt {H : HashAlg} (hH : HashOk H) (mHash salt : Bytes) (emBits : Nat) (em : Bytes)
    (h : emsaPssEncode H mHash emBits salt = .ok em) : beDecode em < 2 ^ emBits := by
  have hl := emsaPssEncode_length hH mHash salt emBits em h
  obtain ⟨_, dbMask, x, xs, _, _, rfl⟩ := emsaPssEncode_ok mHash salt emBits em h
  obtain ⟨hb1, hb2⟩ := divceil8_bounds emBits
  rw [List.cons_append, List.cons_append] at hl ⊢
  generalize xs ++ H.hash (List.replicate 8 0 ++ mHash ++ salt) ++ [0xbc] = rest at hl ⊢
  rw [List.length_cons] at hl
  refine Nat.lt_of_lt_of_eq (beDecode_lt_of_head _ rest (8 - (divceil emBits 8 * 8 - emBits)) ?_)
    (congrArg (2 ^ ·) (by omega))
  rw [toNat_ofNat_and, and_mask]
  exact Nat.mod_lt _ (Nat.two_pow_pos _)

theorem emLen_le_numBytes (n : Nat) : divceil (numBits n - 1) 8 ≤ numBytes n := by
  have := (divceil8_bounds (numBits n - 1)).2
  unfold numBytes
  omega

theorem rsassaPssVerify_of_em (H : HashAlg) (k : PubKey) (mHash sig em : Bytes) (sLen : Nat)
    (hpub : rawPublicKeyOpBytes k sig =
      .ok (List.replicate (numBytes k.n - em.length) (0 : UInt8) ++ em))
    (hlen : em.length = divceil (numBits k.n - 1) 8)
    (hv : emsaPssVerify H mHash em (numBits k.n - 1) sLen = .ok ()) :
    rsassaPssVerify H k mHash sig sLen = .ok () := by
  unfold rsassaPssVerify
  rw [hpub]
  simp only
  have hle := emLen_le_numBytes k.n
  by_cases hgt : numBytes k.n > divceil (numBits k.n - 1) 8
  · have hl : (List.replicate (numBytes k.n - em.length) (0 : UInt8) ++ em).length = numBytes k.n := by
      simp; omega
    rw [hl, if_pos hgt]
    have e1 : numBytes k.n - divceil (numBits k.n - 1) 8 = numBytes k.n - em.length := by rw [hlen]
    rw [e1, List.take_left' (by simp), List.drop_left' (by simp)]
    have : ¬ ((List.replicate (numBytes k.n - em.length) (0 : UInt8)).any (· ≠ 0)) = true := by
      simp [List.any_replicate]
    rw [if_neg this]; exact hv
  · have hz : numBytes k.n - em.length = 0 := by omega
    rw [hz]
    simp only [List.replicate_zero, List.nil_append]
    have : ¬ em.length > divceil (numBits k.n - 1) 8 := by omega
    rw [if_neg this]; exact hv

end Tls.Rsa
