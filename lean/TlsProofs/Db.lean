import TlsModel.Db
import TlsProofs.Assoc
import TlsProofs.ConcLin
import TlsModel.Gen.Locks
/-
  C18 — BaseDB model refines its specification: the user view of the mapping (internal records
  filtered out) is all a caller can observe.  At the end what Props/C18.lean puts under the linearizability
  theorem (`lock_gives_linearizability`, over `linHist_run` of TlsProofs/ConcLin.lean): which generated method shape each
  verifier-database call has, and the runs of the database model and of its specification as `Tls.Conc.runSeq`.
-/
namespace Tls.Db
open Tls.Cache (alookup aerase ainsert)

def userView (E : Env) (m : List (Name × Val)) : List (Name × Val) := m.filter (fun p => !E.resv p.1)

theorem alookup_userView (E : Env) (k : Name) (m : List (Name × Val)) (hk : E.resv k = false) :
    alookup k (userView E m) = alookup k m := by
  rw [userView, Tls.Cache.alookup_filter (fun a => !E.resv a), hk]
  rfl

theorem aerase_userView (E : Env) (k : Name) (m : List (Name × Val)) :
    userView E (aerase k m) = aerase k (userView E m) := by
  simp only [userView, Tls.Cache.aerase_eq_filter, List.filter_filter, Bool.and_comm]

theorem ainsert_userView (E : Env) (k : Name) (v : Val) (m : List (Name × Val))
    (hk : E.resv k = false) : userView E (ainsert k v m) = ainsert k v (userView E m) := by
  unfold ainsert
  have := aerase_userView E k m
  unfold userView at *
  simp [hk, this]

theorem keys_userView (E : Env) (m : List (Name × Val)) :
    (m.map (·.1)).filter (fun u => !E.resv u) = (userView E m).map (·.1) :=
  List.filter_map

def Sim (E : Env) (d : DB) (s : Spec) : Prop :=
  match d.db with
  | none => s.opened = false
  | some m => s.opened = true ∧ s.users = userView E m

theorem sim_new (E : Env) (onDisk : Bool) : Sim E (DB.new onDisk) (Spec.new onDisk) := by
  cases onDisk <;> simp [Sim, DB.new, Spec.new, userView]

theorem step_sim (E : Env) (hT : E.resv E.typeKey = true) (d : DB) (s : Spec) (op : Op)
    (h : Sim E d s) (hw : userWrite E op = true) :
    (d.step E op).2 = (s.step E op).2 ∧ Sim E (d.step E op).1 (s.step E op).1 := by
  cases hd : d.db with
  | none =>
    have ho : s.opened = false := by simpa [Sim, hd] using h
    cases op <;> simp [DB.step, DB.getitem, Spec.step, hd, ho, Sim, userView, hT] <;>
      (try (cases d.onDisk <;> simp [hT]))
  | some m =>
    obtain ⟨ho, hu⟩ : s.opened = true ∧ s.users = userView E m := by simpa [Sim, hd] using h
    have hl : ∀ k, E.resv k = false → alookup k s.users = alookup k m :=
      fun k hk => hu ▸ alookup_userView E k m hk
    cases op <;> simp only [DB.step, DB.getitem, Spec.step, Spec.stepOpen, hd, ho, reduceCtorEq, if_false,
      Bool.true_eq_false, if_true]
    case create =>
      refine ⟨trivial, ?_⟩
      cases d.onDisk <;> simp [Sim, userView, hT]
    case get k =>
      cases hk : E.resv k
      · rw [hl k hk]; cases alookup k m <;> simp [Sim, hd, ho, hu]
      · simp [Sim, hd, ho, hu]
    case set k v =>
      have hk : E.resv k = false := by simpa [userWrite] using hw
      simp [Sim, hu, ainsert_userView E k v m hk]
    case del k =>
      have hk : E.resv k = false := by simpa [userWrite] using hw
      rw [hl k hk]
      cases alookup k m with
      | none => simp [Sim, hd, ho, hu]
      | some v => simp [Sim, hu, aerase_userView E k m]
    case contains k =>
      cases hk : E.resv k
      · rw [hl k hk]; simp [Sim, hd, ho, hu]
      · simp [Sim, hd, ho, hu]
    case keys =>
      rw [keys_userView, hu]
      simp [Sim, hd, ho, hu]
    case check k param =>
      cases hk : E.resv k
      · rw [hl k hk]; cases alookup k m <;> simp [Sim, hd, ho, hu]
      · simp [Sim, hd, ho, hu]

theorem run_sim (E : Env) (hT : E.resv E.typeKey = true) (ops : List Op) :
    ∀ (d : DB) (s : Spec), Sim E d s → (∀ op ∈ ops, userWrite E op = true) →
      (runFrom E d ops).2 = (specFrom E s ops).2 ∧ Sim E (runFrom E d ops).1 (specFrom E s ops).1 := by
  induction ops with
  | nil => intro d s h _; exact ⟨rfl, h⟩
  | cons op ops ih =>
    intro d s h hw
    obtain ⟨h1, h2⟩ := step_sim E hT d s op h (hw op (by simp))
    obtain ⟨h3, h4⟩ := ih _ _ h2 (fun o ho => hw o (by simp [ho]))
    simp only [runFrom, specFrom]
    exact ⟨by rw [h1, h3], h4⟩

section
open Tls.Conc Tls.Locks Tls.Gen.Locks

/-- action kinds of the method a call runs (generated from tlslite/basedb.py + verifierdb.py);
    `create` is a setup method and must not run concurrently with the others -/
def callShape : Op → List Kind
  | .create => [Kind.bad]
  | .get _ => shapeOf verifierDB verifierDB_BaseDB_getitem
  | .set _ _ => shapeOf verifierDB verifierDB_VerifierDB_setitem
  | .del _ => shapeOf verifierDB verifierDB_BaseDB_delitem
  | .contains _ => shapeOf verifierDB verifierDB_BaseDB_contains
  | .keys => shapeOf verifierDB verifierDB_BaseDB_keys
  | .check _ _ => shapeOf verifierDB verifierDB_BaseDB_check

theorem specFrom_eq_runSeq (E : Env) (s : Spec) (ops : List Op) :
    specFrom E s ops = runSeq (fun o x => Spec.step E x o) s ops := by
  induction ops generalizing s with
  | nil => rfl
  | cons o ops ih => simp only [specFrom, runSeq]; rw [ih]

theorem runFrom_eq_runSeq (E : Env) (d : DB) (ops : List Op) :
    runFrom E d ops = runSeq (fun o x => DB.step E x o) d ops := by
  induction ops generalizing d with
  | nil => rfl
  | cons o ops ih => simp only [runFrom, runSeq]; rw [ih]

end

end Tls.Db
