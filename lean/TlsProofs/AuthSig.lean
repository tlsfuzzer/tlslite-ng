import TlsModel.Auth
import TlsProofs.Guards
/-
  C05, on `_sigHashesToList`: every member of the certificate-filtered list is `compatible` with the certificate
  (the specification, from RFC 8446 §4.2.3 / RFC 5246 / RFC 8422 / RFC 8734) and, at version (3,3), is in the list
  computed without a certificate, which is the CertificateRequest / ClientHello list (`sigHashes_cert_subset_v3`;
  nothing is stated for (3,4)).
-/
namespace Tls.Auth
open Gen

/-- RFC view: may a peer whose end-entity key is `c` sign with scheme `sid` in version (3, ver)? -/
def compatible (c : Cert) (ver : Nat) (sid : SchemeId) : Bool :=
  match c.alg with
  | .rsa => sid == (8, 4) || sid == (8, 5) || sid == (8, 6) || (sid.2 == 1 && decide (ver ≤ 3))
  | .rsaPss => sid == (8, 9) || sid == (8, 10) || sid == (8, 11)
  | .ed25519 => sid == (8, 7) && decide (3 ≤ ver)
  | .ed448 => sid == (8, 8) && decide (3 ≤ ver)
  | .dsa => sid.2 == 2 && decide (ver ≤ 3)
  | .ecdsa =>
    if ver ≤ 3 then sid.2 == 3
    else match c.curve with
      | .nist256 => sid == (4, 3)
      | .nist384 => sid == (5, 3)
      | .nist521 => sid == (6, 3)
      | .bp256 => sid == (8, 26)
      | .bp384 => sid == (8, 27)
      | .bp512 => sid == (8, 28)
      | .other => false

theorem mapM_ok_mem {α β : Type} {f : α → Except Reject β} {l : List α} {r : List β}
    (h : l.mapM f = .ok r) {y : β} : y ∈ r ↔ ∃ x ∈ l, f x = .ok y := by
  induction l generalizing r with
  | nil => cases h; simp
  | cons a t ih =>
    rw [List.mapM_cons] at h
    obtain ⟨b, hb, h⟩ := bind_eq_ok h
    obtain ⟨r', ht, h⟩ := bind_eq_ok h
    cases h
    simp only [List.mem_cons, ih ht]
    constructor
    · rintro (rfl | ⟨x, hx, hfx⟩)
      · exact ⟨a, .inl rfl, hb⟩
      · exact ⟨x, .inr hx, hfx⟩
    · rintro ⟨x, rfl | hx, hfx⟩
      · exact .inl (Except.ok.inj (hfx.symm.trans hb))
      · exact .inr ⟨x, hx, hfx⟩

/-- lets the 32 runs of the inner RSA loop body be evaluated in one `decide` (one per run pays for the instance search
    32 times) -/
theorem forall_rsaInner_args {P : Bool → RsaPad → HashName → Prop}
    (all : ∀ small ∈ [true, false], ∀ p ∈ [RsaPad.pkcs1, .pss],
      ∀ h ∈ [HashName.none, .md5, .sha1, .sha224, .sha256, .sha384, .sha512, .intrinsic], P small p h)
    (small : Bool) (p : RsaPad) (h : HashName) : P small p h :=
  all small (by cases small <;> decide) p (by cases p <;> decide) h (by cases h <;> decide)

theorem rsaInner_cert (small : Bool) (p : RsaPad) (h : HashName) :
    (∀ sid ∈ rsaInner (some .rsa) small p h, sid ∈ rsaInner none small p h ∧
      ((p = .pss ∧ (sid = (8, 4) ∨ sid = (8, 5) ∨ sid = (8, 6))) ∨ (p = .pkcs1 ∧ sid.2 = 1))) ∧
    (∀ sid ∈ rsaInner (some .rsaPss) small p h, sid ∈ rsaInner none small p h ∧
      (sid = (8, 9) ∨ sid = (8, 10) ∨ sid = (8, 11))) := by
  revert small p h
  refine forall_rsaInner_args ?_
  decide +kernel

theorem rsaLoop_mem {s : Settings} {ct : Option CertAlg} {small : Bool} {ver : Nat} {sid : SchemeId}
    (hm : sid ∈ rsaLoop s ct small ver) :
    ∃ p h, p ∈ s.rsaSchemes ∧ h ∈ s.rsaSigHashes ∧ ¬ (ver > 3 ∧ p = .pkcs1) ∧ sid ∈ rsaInner ct small p h := by
  unfold rsaLoop at hm
  simp only [List.mem_flatMap, List.mem_filter] at hm
  obtain ⟨p, ⟨hp, hf⟩, h, hh, hin⟩ := hm
  refine ⟨p, h, hp, hh, ?_, hin⟩
  intro ⟨hv, hpk⟩
  subst hpk
  simp [hv] at hf

theorem sigHashesToList_cons (s : Settings) (small : Bool) (c : Cert) (rest : Chain) (ver : Nat) :
    sigHashesToList s small (c :: rest) ver =
      match c.alg with
      | .rsa | .rsaPss => .ok (rsaLoop s (some c.alg) small ver)
      | .ecdsa => ecdsaLoop s (some c) ver
      | .ed25519 | .ed448 => moreLoop s (some c.alg) ver
      | .dsa => .ok ((s.dsaSigHashes.filter fun _ => !(ver > 3)).map fun h => (hashId h, sigDsa)) := by
  unfold sigHashesToList
  cases hc : c.alg <;> simp [hc] <;> rfl

theorem sigHashesToList_nil {s : Settings} {small : Bool} {ver : Nat} {l0 : List SchemeId}
    (h : sigHashesToList s small [] ver = .ok l0) :
    ∃ a1 a2, moreLoop s none ver = .ok a1 ∧ ecdsaLoop s none ver = .ok a2 ∧
      l0 = a1 ++ a2 ++ ((s.dsaSigHashes.filter fun _ => !(ver > 3)).map fun h => (hashId h, sigDsa)) ++
        rsaLoop s none small ver := by
  unfold sigHashesToList at h
  obtain ⟨a1, h1, h⟩ := bind_eq_ok h
  obtain ⟨a2, h2, h⟩ := bind_eq_ok h
  exact ⟨a1, a2, h1, h2, (Except.ok.inj h).symm⟩

theorem compatible_ecdsa13 {c : Cert} {ver : Nat} {sid : SchemeId} (halg : c.alg = .ecdsa) (hv : 3 < ver) :
    compatible c ver sid =
      match c.curve with
      | .nist256 => sid == (4, 3)
      | .nist384 => sid == (5, 3)
      | .nist521 => sid == (6, 3)
      | .bp256 => sid == (8, 26)
      | .bp384 => sid == (8, 27)
      | .bp512 => sid == (8, 28)
      | .other => false := by
  unfold compatible
  rw [halg]
  exact if_neg (Nat.not_le.mpr hv)

theorem ecdsaLoop_cert_compatible {s : Settings} {c : Cert} {ver : Nat} {l : List SchemeId} {sid : SchemeId}
    (halg : c.alg = .ecdsa) (he : ecdsaLoop s (some c) ver = .ok l) (hm : sid ∈ l) :
    compatible c ver sid = true := by
  unfold ecdsaLoop at he
  obtain ⟨hb, he⟩ | ⟨hb, he⟩ := ite_eq_cases he
  · -- TLS 1.3, brainpool curve: the one scheme derived from the curve
    obtain ⟨hv, hb⟩ := Bool.and_eq_true_iff.mp hb
    obtain ⟨x, hx, he⟩ := bind_eq_ok he
    cases he
    cases List.mem_singleton.mp hm
    rw [compatible_ecdsa13 halg (of_decide_eq_true hv)]
    revert hb hx
    cases c.curve <;> intro hb hx <;> cases hb <;> cases hx <;> rfl
  obtain ⟨hv, he⟩ | ⟨hv, he⟩ := ite_eq_cases he
  · -- TLS 1.3, NIST curve: the hash must be the curve's
    have hb : isBrainpoolCurve c.curve = false := by simpa [hv] using hb
    rw [compatible_ecdsa13 halg hv]
    generalize s.ecdsaSigHashes.filter (fun h => !(h == .sha1 || h == .sha224)) = hs at he
    cases hs with
    | nil => cases he; cases hm
    | cons h0 hs =>
      revert hb he
      cases c.curve <;> intro hb he <;> cases hb <;> cases he
      all_goals
        obtain ⟨h, hh, rfl⟩ := List.mem_map.mp hm
        cases eq_of_beq (List.mem_filter.mp hh).2
        rfl
  · cases he
    obtain ⟨h, _, rfl⟩ := List.mem_map.mp hm
    simp [compatible, halg, Nat.le_of_not_gt hv, sigEcdsa]

theorem moreMatchesCert_true {m : MoreScheme} {a : CertAlg} :
    moreMatchesCert m a = true → m = .ed25519 ∧ a = .ed25519 ∨ m = .ed448 ∧ a = .ed448 := by
  fun_cases moreMatchesCert m a
  · exact fun _ => .inl ⟨rfl, rfl⟩
  · exact fun _ => .inr ⟨rfl, rfl⟩
  · nofun

theorem moreLoop_cert_compatible {s : Settings} {c : Cert} {ver : Nat} {l : List SchemeId} {sid : SchemeId}
    (hmo : moreLoop s (some c.alg) ver = .ok l) (hm : sid ∈ l) : compatible c ver sid = true := by
  unfold moreLoop at hmo
  obtain ⟨m, hmem, hf⟩ := (mapM_ok_mem hmo).mp hm
  have hk := (List.mem_filter.mp hmem).2
  simp only [Bool.and_eq_true, Bool.not_eq_true', decide_eq_false_iff_not, Nat.not_lt] at hk
  -- only the scheme named like the certificate's algorithm passes the filter, and only from TLS 1.2 on
  obtain ⟨rfl, ha⟩ | ⟨rfl, ha⟩ := moreMatchesCert_true hk.1.2 <;> cases hf <;> simp [compatible, ha, hk.1.1.2]

theorem sigHashes_cert_compatible {s : Settings} {small : Bool} {c : Cert} {rest : Chain} {ver : Nat}
    {l : List SchemeId} (hl : sigHashesToList s small (c :: rest) ver = .ok l) {sid : SchemeId}
    (hm : sid ∈ l) : compatible c ver sid = true := by
  rw [sigHashesToList_cons] at hl
  cases halg : c.alg <;> simp only [halg] at hl
  · cases hl
    obtain ⟨p, h, _, _, hnv, hin⟩ := rsaLoop_mem hm
    rcases ((rsaInner_cert small p h).1 sid hin).2 with ⟨_, h1⟩ | ⟨hp, h1⟩
    · rcases h1 with h1 | h1 | h1 <;> simp [compatible, halg, h1]
    · have : ver ≤ 3 := Nat.le_of_not_gt fun hv => hnv ⟨hv, hp⟩
      simp [compatible, halg, h1, this]
  · cases hl
    obtain ⟨p, h, _, _, _, hin⟩ := rsaLoop_mem hm
    rcases ((rsaInner_cert small p h).2 sid hin).2 with h1 | h1 | h1 <;> simp [compatible, halg, h1]
  · exact ecdsaLoop_cert_compatible halg hl hm
  · exact moreLoop_cert_compatible (halg ▸ hl) hm
  · exact moreLoop_cert_compatible (halg ▸ hl) hm
  · cases hl
    obtain ⟨h, hh, rfl⟩ := List.mem_map.mp hm
    have : ver ≤ 3 := by simpa using (List.mem_filter.mp hh).2
    simp [compatible, halg, sigDsa, this]

theorem rsaLoop_subset_none {s : Settings} {ct : Option CertAlg} (hct : ct = some .rsa ∨ ct = some .rsaPss)
    {small : Bool} {ver : Nat} {sid : SchemeId} (hm : sid ∈ rsaLoop s ct small ver) :
    sid ∈ rsaLoop s none small ver := by
  unfold rsaLoop at hm ⊢
  simp only [List.mem_flatMap] at hm ⊢
  obtain ⟨p, hp, h, hh, hin⟩ := hm
  rcases hct with rfl | rfl
  · exact ⟨p, hp, h, hh, ((rsaInner_cert small p h).1 sid hin).1⟩
  · exact ⟨p, hp, h, hh, ((rsaInner_cert small p h).2 sid hin).1⟩

theorem moreLoop_subset_none {s : Settings} {ct : Option CertAlg} {ver : Nat} {l a1 : List SchemeId}
    {sid : SchemeId} (hmo : moreLoop s ct ver = .ok l) (h0 : moreLoop s none ver = .ok a1)
    (hm : sid ∈ l) : sid ∈ a1 := by
  unfold moreLoop at hmo h0
  obtain ⟨m, hmem, hf⟩ := (mapM_ok_mem hmo).mp hm
  refine (mapM_ok_mem h0).mpr ⟨m, ?_, hf⟩
  obtain ⟨hm1, hk⟩ := List.mem_filter.mp hmem
  refine List.mem_filter.mpr ⟨hm1, ?_⟩
  simp only [Bool.and_eq_true] at hk ⊢
  exact ⟨⟨hk.1.1, trivial⟩, hk.2⟩

theorem sigHashes_cert_subset_v3 {s : Settings} {small : Bool} {c : Cert} {rest : Chain}
    {l l0 : List SchemeId} (hl : sigHashesToList s small (c :: rest) 3 = .ok l)
    (h0 : sigHashesToList s small [] 3 = .ok l0) {sid : SchemeId} (hm : sid ∈ l) : sid ∈ l0 := by
  obtain ⟨a1, a2, hm0, he0, rfl⟩ := sigHashesToList_nil h0
  rw [sigHashesToList_cons] at hl
  simp only [List.mem_append]
  cases halg : c.alg <;> simp only [halg] at hl
  · cases hl
    exact .inr (rsaLoop_subset_none (.inl rfl) hm)
  · cases hl
    exact .inr (rsaLoop_subset_none (.inr rfl) hm)
  · simp [ecdsaLoop, pure, Except.pure] at hl he0
    subst hl he0
    exact .inl (.inl (.inr (by simpa using hm)))
  · exact .inl (.inl (.inl (moreLoop_subset_none hl hm0 hm)))
  · exact .inl (.inl (.inl (moreLoop_subset_none hl hm0 hm)))
  · cases hl
    exact .inl (.inr hm)

end Tls.Auth
