import TlsProofs.OrderCfg
import TlsModel.OrderGenEval
/-
  C06, tie by regeneration: the evaluator's verdicts on the regenerated transcripts for every valid
  configuration.  The handshake flows cannot tell `c` from `c.core`, so they are run on the
  representatives `coreCfgs`; `readAsync`'s dispatch looks at nothing but role, compression,
  heartbeat and key pair.
-/
namespace Tls.Order.Gen

theorem evalG_core (c : Cfg) (d : Dyn) (g : G) : evalG c.core d g = evalG c d g := by
  induction g with
  | atom a => rcases c with ⟨_, _, _|_|_|_|_|_|_⟩ <;> rfl
  | tt | «opaque» => rfl
  | not g ih => simp only [evalG, ih]
  | and a b iha ihb | or a b iha ihb => simp only [evalG, iha, ihb]

theorem runToks_core (c : Cfg) (fuel : Nat) :
    ∀ toks d, runToks c.core fuel toks d = runToks c fuel toks d := by
  induction fuel with
  | zero => intros; rfl
  | succ n ih =>
    intro toks d
    cases toks with
    | nil => rfl
    | cons t rest => cases t <;> simp only [runToks, evalG_core, ih] <;> rfl

theorem genRun_core (c : Cfg) : genRun c.core = genRun c := runToks_core c _ _ _

def flowsOk (c : Cfg) : Bool := matchesGrammar c && noExtraType c && keyChangesGuarded c

theorem flowsOk_core (c : Cfg) : flowsOk c.core = flowsOk c := by
  simp only [flowsOk, matchesGrammar, noExtraType, keyChangesGuarded, genRun_core]
  -- left: the grammar side (`lang`, `sentences`, `stricter`), which reads `kx` through tests that do not tell
  -- ECDHE from DHE and never reads `hb`, `compat`, `keypair`
  rcases c with ⟨_, _, _|_|_|_|_|_|_⟩ <;> rfl

theorem flowsOk_core_sweep (role : Role) (ver : Ver) : (coreCfgs role ver).all flowsOk = true := by
  cases role <;> cases ver <;> decide +kernel

theorem postDispatchMatches_tls13 (role : Role) (compCert hb keypair : Bool) :
    postDispatchMatches
      { role, ver := .tls13, kx := .dhe, reqCert := false, clientCert := false, tickets := false,
        npn := false, hrr := false, resume := .none, compCert, hb, compat := false, keypair } = true := by
  cases role <;> cases compCert <;> cases hb <;> cases keypair <;> decide +kernel

theorem postDispatchMatches_all (c : Cfg) : postDispatchMatches c = true := by
  obtain ⟨role, ver, kx, reqCert, clientCert, tickets, npn, hrr, resume, compCert, hb, compat, keypair⟩ := c
  cases ver
  case tls13 => exact postDispatchMatches_tls13 role compCert hb keypair
  all_goals rfl

theorem flows_of_valid (c : Cfg) (h : c.valid = true) :
    matchesGrammar c = true ∧ noExtraType c = true ∧ keyChangesGuarded c = true := by
  have := List.all_eq_true.mp (flowsOk_core_sweep c.role c.ver) _ (core_mem_coreCfgs c h)
  rwa [flowsOk_core, flowsOk, Bool.and_eq_true, Bool.and_eq_true, and_assoc] at this

end Tls.Order.Gen
