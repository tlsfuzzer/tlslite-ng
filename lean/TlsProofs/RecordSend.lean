import TlsProofs.RecordRoundtrip
import TlsProofs.RecordRecv
/- The dispatch of `sendRecord` read backwards (`sendRecord_some`), `decrypt (sendRecord x) = x` path by
   path for the configurations the library can be in (`Cfg.WF`), the body length of each protect function and
   the bound on it that the wire-length caps of `recvRecord` are compared with (property C01). -/
namespace Tls.Rec
open Tls.CT

/-- configurations the library can be in; each clause names the code that establishes it -/
structure Cfg.WF {S} (c : Cfg) (P : Prims S) : Prop where
  /-- `TLSRecordLayer.version` setter -/
  v13 : c.tls13record = c.verGt 3 3
  /-- TLS 1.3 suites are AEAD; before the keys are installed there is no cipher and no MAC -/
  c13 : c.is13 = true → (c.cipher = .null ∧ c.hasMac = false) ∨ c.cipher = .aead
  /-- `_decryptThenMAC` asserts it -/
  blockMac : c.cipher = .block → c.hasMac = true
  /-- `calcPendingStates`: `fixedIVBlock = getRandomBytes(ivLength)` with `ivLength` = block size -/
  iv : c.cipher = .block → c.verGe 3 2 = true → c.fixedIV.length = P.bs
  /-- "aes" is not a substring of "chacha20-poly1305" -/
  names : c.nameHasAes = true → c.nameIsChacha = false

/-- (type, data) after the TLS 1.3 wrap at the top of `sendRecord`: what the protect function is applied to -/
def sendPlain (c : Cfg) (padCb : Option PadCb) (sendLimit : Nat) (t : UInt8) (data : Bytes) : UInt8 × Bytes :=
  if c.is13 && c.cipher != .null && t != 20 then (23, innerPlain padCb sendLimit t data) else (t, data)

theorem sendPlain_fst (c : Cfg) (padCb : Option PadCb) (sendLimit : Nat) (t : UInt8) (data : Bytes) :
    (sendPlain c padCb sendLimit t data).1 = if c.is13 && c.cipher != .null && t != 20 then 23 else t := by
  unfold sendPlain; split <;> rfl

theorem sendPlain_snd (c : Cfg) (padCb : Option PadCb) (sendLimit : Nat) (t : UInt8) (data : Bytes) :
    (sendPlain c padCb sendLimit t data).2 =
      if c.is13 && c.cipher != .null && t != 20 then innerPlain padCb sendLimit t data else data := by
  unfold sendPlain; split <;> rfl

theorem sendPlain_of_not13 (c : Cfg) (h13 : c.is13 = false) (padCb : Option PadCb) (sendLimit : Nat) (t : UInt8)
    (data : Bytes) : sendPlain c padCb sendLimit t data = (t, data) := by
  simp [sendPlain, h13]

theorem Cfg.WF.sendPlain_of_ne_aead {S} {P : Prims S} {c : Cfg} (hc : c.WF P) (hci : c.cipher ≠ .aead)
    (padCb : Option PadCb) (sendLimit : Nat) (t : UInt8) (data : Bytes) :
    sendPlain c padCb sendLimit t data = (t, data) := by
  cases h13 : c.is13
  · exact sendPlain_of_not13 c h13 ..
  · rcases hc.c13 h13 with ⟨hn, _⟩ | ha
    · simp [sendPlain, hn]
    · exact absurd ha hci

theorem Cfg.WF.verGt_eq_is13 {S} {P : Prims S} {c : Cfg} (hc : c.WF P) : c.verGt 3 3 = c.is13 := by
  rw [Cfg.is13, hc.v13, Bool.and_self]

/-- without a cipher the encrypt-then-MAC flag makes no difference to what is sent (`protEtm_null`),
    so that case is one -/
theorem sendRecord_some {S} {P : Prims S} {c : Cfg} {padCb : Option PadCb} {sendLimit : Nat}
    {st st' : St S} {t : UInt8} {data : Bytes} {r : Rec}
    (h : sendRecord P c padCb sendLimit st t data = some (st', r)) :
    let x := sendPlain c padCb sendLimit t data
    ∃ y : St S × Bytes, st' = y.1 ∧ r = ⟨x.1, c.recVer.1, c.recVer.2, y.2⟩ ∧
    ((c.vmaj == 0 && c.vmin == 2) || (c.vmaj == 2 && c.vmin == 0)) = false ∧
    ((c.verGt 3 3 && x.1 == 20) = true ∧ y = (st, x.2) ∨
     (c.verGt 3 3 && x.1 == 20) = false ∧
      (c.cipher = .aead ∧ y = protAead P c st x.1 x.2 ∨
       c.cipher = .null ∧ y = protMteStream P c false st x.1 x.2 ∨
       c.cipher = .block ∧ c.etm = true ∧ y = protEtm P c true st x.1 x.2 ∨
       c.cipher = .stream ∧ c.etm = false ∧ y = protMteStream P c true st x.1 x.2 ∨
       c.cipher = .block ∧ c.etm = false ∧ y = protMteCbc P c st x.1 x.2)) := by
  unfold sendRecord at h
  simp only [← sendPlain_fst c padCb sendLimit t data, ← sendPlain_snd c padCb sendLimit t data] at h
  generalize sendPlain c padCb sendLimit t data = x at h ⊢
  cases hssl : ((c.vmaj == 0 && c.vmin == 2) || (c.vmaj == 2 && c.vmin == 0))
  · cases hccs : (c.verGt 3 3 && x.1 == 20)
    · cases hci : c.cipher <;> cases hetm : c.etm <;> simp [hssl, hccs, hci, hetm] at h <;>
        obtain ⟨rfl, rfl⟩ := h <;> exact ⟨_, rfl, rfl, rfl, by simp [hccs, protEtm_null]⟩
    · simp [hssl, hccs] at h
      obtain ⟨rfl, rfl⟩ := h
      exact ⟨(st, x.2), rfl, rfl, rfl, by simp [hccs]⟩
  · simp [hssl] at h

theorem decrypt_sendRecord {S} (P : Prims S) (c : Cfg) (hc : c.WF P)
    (hm : c.hasMac = true → MacLaw P) (hs : c.cipher = .stream → StreamLaw P)
    (hb : c.cipher = .block → BlockLaw P) (ha : c.cipher = .aead → AeadLaw P)
    (padCb : Option PadCb) (sendLimit : Nat) (st st' : St S) (t : UInt8) (data : Bytes) (r : Rec)
    (rv : Recv S) (hsync : rv.st = st) (hearly : rv.earlyOk = false)
    (hlen : data.length < 2 ^ 29)
    (h : sendRecord P c padCb sendLimit st t data = some (st', r)) :
    decrypt P c rv r = .ok (st', (sendPlain c padCb sendLimit t data).2) := by
  obtain ⟨y, rfl, rfl, -, hcase⟩ := sendRecord_some h
  subst hsync
  have hnoearly : rv.earlyOk = true → c.cipher ≠ .null := fun he => by rw [hearly] at he; cases he
  rcases hcase with ⟨hccs, rfl⟩ | ⟨hccs, hpath⟩
  · -- ChangeCipherSpec in TLS 1.3 travels unprotected
    rw [hc.verGt_eq_is13] at hccs
    simp only [Bool.and_eq_true, beq_iff_eq] at hccs
    simp [decrypt, hccs.1, hccs.2, hearly]
  · rw [hc.verGt_eq_is13] at hccs
    have hpass : c.is13 = true → (sendPlain c padCb sendLimit t data).1 ≠ 20 ∧
        ((sendPlain c padCb sendLimit t data).1 = 21 → c.cipher = .null) := by
      intro h13
      refine ⟨by simpa [h13] using hccs, ?_⟩
      unfold sendPlain
      split
      · intro h21; cases h21
      · rename_i hw
        intro h21
        simp only at h21
        subst h21
        simpa [h13] using hw
    rw [decrypt_eq P c rv _ hpass hnoearly]
    rcases hpath with ⟨hci, rfl⟩ | ⟨hci, rfl⟩ | ⟨hci, hetm, rfl⟩ | ⟨hci, hetm, rfl⟩ | ⟨hci, hetm, rfl⟩
    · simp only [hci, beq_self_eq_true, if_true]
      cases h13 : c.is13
      · rw [sendPlain_of_not13 c h13]
        exact rt_aead12 P (ha hci) c h13 hc.names rv.st t data c.recVer
      · have hw : (c.is13 && c.cipher != .null && t != 20) = true := by
          have := (hpass h13).1
          unfold sendPlain at this
          split at this
          · assumption
          · rename_i hw
            simp [h13, hci] at hw
            exact absurd hw this
        simp only [sendPlain, hw, if_true]
        exact rt_aead13 P (ha hci) c h13 rv.st _
    all_goals rw [hc.sendPlain_of_ne_aead (by simp [hci])]
    · simp only [hci, reduceCtorEq, beq_iff_eq, if_false]
      cases hetm : c.etm
      · exact rt_mteStream P c hm false (fun h => by cases h) rv.st t data
      · exact rt_etm_null P c hm rv.st t data
    · simp only [hci, hetm, if_true, if_false, reduceCtorEq, beq_iff_eq]
      exact rt_etm P (hm (hc.blockMac hci)) (hb hci) c (hc.iv hci) rv.st t data
    · simp only [hci, hetm, Bool.false_eq_true, if_false, reduceCtorEq, beq_iff_eq]
      exact rt_mteStream P c hm true (fun _ => hs hci) rv.st t data
    · simp only [hci, hetm, Bool.false_eq_true, if_false, reduceCtorEq, beq_iff_eq]
      exact rt_mteCbc P (hm (hc.blockMac hci)) (hb hci) c (hc.blockMac hci) (hc.iv hci) rv.st t data hlen

theorem len_mteStream {S} (P : Prims S) (c : Cfg) (hm : c.hasMac = true → MacLaw P) (useEnc : Bool)
    (hs : useEnc = true → StreamLaw P) (st : St S) (t : UInt8) (data : Bytes) :
    (protMteStream P c useEnc st t data).2.length = data.length + (if c.hasMac then P.mac.dlen else 0) := by
  unfold protMteStream
  cases hmac : c.hasMac
  · cases hu : useEnc
    · simp
    · simp [(hs hu).len]
  · cases hu : useEnc
    · simp [(hm hmac).len]
    · simp [(hs hu).len, (hm hmac).len]

theorem len_mteCbc {S} (P : Prims S) (c : Cfg) (hm : c.hasMac = true → MacLaw P) (hb : BlockLaw P)
    (st : St S) (t : UInt8) (data : Bytes) :
    (protMteCbc P c st t data).2.length =
      paddedLen P.bs ((if c.verGe 3 2 then c.fixedIV.length else 0) + data.length + (if c.hasMac then P.mac.dlen else 0)) := by
  unfold protMteCbc mteCbcPlain
  simp only [hb.len, addPadding_length]
  cases hmac : c.hasMac <;> cases hv : c.verGe 3 2 <;> simp [Nat.add_assoc]
  · rw [(hm hmac).len]
  · rw [(hm hmac).len]

theorem len_etm {S} (P : Prims S) (c : Cfg) (hm : c.hasMac = true → MacLaw P) (hb : BlockLaw P)
    (st : St S) (t : UInt8) (data : Bytes) :
    (protEtm P c true st t data).2.length =
      paddedLen P.bs ((if c.verGe 3 2 then c.fixedIV.length else 0) + data.length) + (if c.hasMac then P.mac.dlen else 0) := by
  unfold protEtm etmPlain
  cases hmac : c.hasMac <;> cases hv : c.verGe 3 2 <;> simp [hb.len, addPadding_length]
  · rw [(hm hmac).len]
  · rw [(hm hmac).len]

theorem len_aead {S} (P : Prims S) (c : Cfg) (ha : AeadLaw P) (st : St S) (t : UInt8) (data : Bytes) :
    (protAead P c st t data).2.length = (if c.explicitNonce then 8 else 0) + data.length + P.tagLen := by
  unfold protAead
  cases he : c.explicitNonce <;> simp [ha.len, seqBytes_length] <;> omega

/-- `wireLen` sees the plaintext only through its length -/
theorem sendPlain_snd_length (c : Cfg) (padCb : Option PadCb) (sendLimit : Nat) (t : UInt8) (data : Bytes) :
    (sendPlain c padCb sendLimit t data).2.length =
      if c.is13 && c.cipher != .null && t != 20 then (innerPlain padCb sendLimit t (zeros data.length)).length
      else data.length := by
  unfold sendPlain
  split
  · rw [innerPlain_length, innerPlain_length]; simp [zeros]
  · rfl

/-- how much longer than what it protects the body of a record is: explicit nonce and tag (AEAD), or
    the MAC and, for a block cipher, IV block and padding -/
theorem sendRecord_body_le {S} (P : Prims S) (c : Cfg)
    (hm : c.hasMac = true → MacLaw P) (hs : c.cipher = .stream → StreamLaw P)
    (hb : c.cipher = .block → BlockLaw P) (ha : c.cipher = .aead → AeadLaw P)
    (hivl : c.fixedIV.length ≤ P.bs)
    (padCb : Option PadCb) (sendLimit : Nat) (st st' : St S) (t : UInt8) (data : Bytes) (r : Rec)
    (h : sendRecord P c padCb sendLimit st t data = some (st', r)) :
    r.body.length ≤ (sendPlain c padCb sendLimit t data).2.length +
      (if c.cipher = .aead then (if c.explicitNonce then 8 else 0) + P.tagLen
       else (if c.hasMac then P.mac.dlen else 0) + (if c.cipher = .block then 2 * P.bs else 0)) := by
  obtain ⟨y, -, rfl, -, hcase⟩ := sendRecord_some h
  generalize sendPlain c padCb sendLimit t data = x at hcase ⊢
  have e2 : (if c.verGe 3 2 = true then c.fixedIV.length else 0) ≤ P.bs := by split <;> omega
  have hp := fun hci m => paddedLen_le P.bs m (hb hci).bs_pos
  rcases hcase with ⟨-, rfl⟩ | ⟨-, ⟨hci, rfl⟩ | ⟨hci, rfl⟩ | ⟨hci, -, rfl⟩ | ⟨hci, -, rfl⟩ | ⟨hci, -, rfl⟩⟩
  · exact Nat.le_add_right _ _
  · rw [len_aead P c (ha hci), if_pos hci]; omega
  · rw [len_mteStream P c hm false (fun h => by cases h), hci]; simp
  · have := hp hci ((if c.verGe 3 2 = true then c.fixedIV.length else 0) + x.2.length)
    rw [len_etm P c hm (hb hci), hci]; simp; omega
  · rw [len_mteStream P c hm true (fun _ => hs hci), hci]; simp
  · have := hp hci ((if c.verGe 3 2 = true then c.fixedIV.length else 0) + x.2.length + (if c.hasMac = true then P.mac.dlen else 0))
    rw [len_mteCbc P c hm (hb hci), hci]; simp; omega

end Tls.Rec
