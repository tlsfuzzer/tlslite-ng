import TlsProofs.SettingsValidate
/-
  C19 — a successful `validate` implies the documented domains for the input (`validate_inDomain`) and
  "only what this installation supports" for the result (`validate_supported_only`, Props/C19.lean).  Both are
  read off `Passes` (`TlsProofs/SettingsValidate.lean`) by field name; what is added here are the facts about
  the generated tables.
-/
namespace Tls.Settings

theorem subset_of_all {α : Type} [BEq α] [LawfulBEq α] (L D : List α)
    (h : L.all (fun a => D.contains a) = true) : ∀ a ∈ L, a ∈ D :=
  fun a ha => by simpa using List.all_eq_true.mp h a ha

theorem disjoint_of_all {α : Type} [BEq α] [LawfulBEq α] (L D : List α)
    (h : L.all (fun a => !D.contains a) = true) : ∀ a ∈ L, a ∉ D :=
  fun a ha => by simpa using List.all_eq_true.mp h a ha

theorem verLe_of_not_verLt (a b : Ver) (h : verLt b a = false) : verLe a b = true := by
  obtain ⟨a1, a2⟩ := a
  obtain ⟨b1, b2⟩ := b
  simp only [verLt, verLe, Bool.or_eq_false_iff, Bool.and_eq_false_iff, decide_eq_false_iff_not,
    Bool.or_eq_true, Bool.and_eq_true, decide_eq_true_eq, beq_iff_eq, beq_eq_false_iff_ne, ne_eq] at h ⊢
  omega

/-! Facts about fixed tables: after the `Env` argument is gone (unused, or fixed by a case split) the
kernel evaluates them. -/

theorem gen_allCipherNames_doc (env : Env) : ∀ a ∈ Gen.allCipherNames env, a ∈ docCipherNames :=
  subset_of_all _ _ (by unfold Gen.allCipherNames; decide +kernel)
theorem gen_allMacNames_doc (env : Env) : ∀ a ∈ Gen.allMacNames env, a ∈ docMacNames :=
  subset_of_all _ _ (by unfold Gen.allMacNames; decide +kernel)
theorem gen_keyExchangeNames_doc (env : Env) : ∀ a ∈ Gen.keyExchangeNames env, a ∈ docKeyExchangeNames :=
  subset_of_all _ _ (by unfold Gen.keyExchangeNames; decide +kernel)
theorem gen_cipherImplementations_doc (env : Env) :
    ∀ a ∈ Gen.cipherImplementations env, a ∈ docImplementations :=
  subset_of_all _ _ (by unfold Gen.cipherImplementations; decide +kernel)
theorem gen_certificateTypes_doc (env : Env) : ∀ a ∈ Gen.certificateTypes env, a ∈ docCertificateTypes :=
  subset_of_all _ _ (by unfold Gen.certificateTypes; decide +kernel)
theorem gen_allRsaSignatureHashes_doc (env : Env) :
    ∀ a ∈ Gen.allRsaSignatureHashes env, a ∈ docRsaSigHashes :=
  subset_of_all _ _ (by unfold Gen.allRsaSignatureHashes; decide +kernel)
theorem gen_dsaSignatureHashes_doc (env : Env) : ∀ a ∈ Gen.dsaSignatureHashes env, a ∈ docSigHashes :=
  subset_of_all _ _ (by unfold Gen.dsaSignatureHashes; decide +kernel)
theorem gen_ecdsaSignatureHashes_doc (env : Env) : ∀ a ∈ Gen.ecdsaSignatureHashes env, a ∈ docSigHashes :=
  subset_of_all _ _ (by unfold Gen.ecdsaSignatureHashes; decide +kernel)
theorem gen_rsaSchemes_doc (env : Env) : ∀ a ∈ Gen.rsaSchemes env, a ∈ docRsaSchemes :=
  subset_of_all _ _ (by unfold Gen.rsaSchemes; decide +kernel)
theorem gen_allDhGroupNames_doc (env : Env) : ∀ a ∈ Gen.allDhGroupNames env, a ∈ docDhGroups :=
  subset_of_all _ _ (by unfold Gen.allDhGroupNames; decide +kernel)
theorem gen_ticketCiphers_doc (env : Env) : ∀ a ∈ Gen.ticketCiphers env, a ∈ docTicketCiphers :=
  subset_of_all _ _ (by unfold Gen.ticketCiphers; decide +kernel)
theorem gen_pskModes_doc (env : Env) : ∀ a ∈ Gen.pskModes env, a ∈ docPskModes :=
  subset_of_all _ _ (by unfold Gen.pskModes; decide +kernel)
theorem gen_knownVersions_doc (env : Env) : ∀ v ∈ Gen.knownVersions env, v ∈ docVersions :=
  subset_of_all _ _ (by unfold Gen.knownVersions; decide +kernel)

/-! A table that depends on the installation does so through one or two flags of `env`: evaluate it
for all their values at once (one evaluation shares the string comparisons between the cases). -/

theorem gen_signatureSchemes_doc (env : Env) : ∀ a ∈ Gen.signatureSchemes env, a ∈ docMoreSigSchemes env := by
  apply subset_of_all
  unfold Gen.signatureSchemes docMoreSigSchemes
  generalize env.mlDsa = d
  revert d
  decide +kernel

theorem gen_allCurveNames_doc (env : Env) : ∀ a ∈ Gen.allCurveNames env, a ∈ docCurves env := by
  apply subset_of_all
  unfold Gen.allCurveNames docCurves
  generalize env.mlKem = k, env.ecdsaAllCurves = c
  revert k c
  decide +kernel

theorem gen_compressionSend_doc (env : Env) : ∀ a ∈ Gen.allCompressionAlgosSend env, a ∈ docCompression := by
  apply subset_of_all
  unfold Gen.allCompressionAlgosSend
  generalize env.brotliCompress = b, env.zstdCompress = z
  revert b z
  decide +kernel

theorem gen_compressionReceive_doc (env : Env) :
    ∀ a ∈ Gen.allCompressionAlgosReceive env, a ∈ docCompression := by
  apply subset_of_all
  unfold Gen.allCompressionAlgosReceive
  generalize env.brotliDecompress = b, env.zstdDecompress = z
  revert b z
  decide +kernel

theorem gen_mlKem_absent (env : Env) (h : env.mlKem = false) :
    ∀ a ∈ Gen.allCurveNames env ++ Gen.allDhGroupNames env,
      a ∉ ["secp256r1mlkem768", "x25519mlkem768", "secp384r1mlkem1024"] := by
  apply disjoint_of_all
  unfold Gen.allCurveNames Gen.allDhGroupNames
  rw [h]
  generalize env.ecdsaAllCurves = c
  revert c
  decide +kernel

theorem gen_mlDsa_absent (env : Env) (h : env.mlDsa = false) :
    ∀ a ∈ Gen.signatureSchemes env, a ∉ ["mldsa87", "mldsa65", "mldsa44"] := by
  apply disjoint_of_all
  unfold Gen.signatureSchemes
  rw [h]
  decide +kernel

theorem gen_compressionSend_flags (env : Env) :
    ("brotli" ∈ Gen.allCompressionAlgosSend env → env.brotliCompress = true) ∧
    ("zstd" ∈ Gen.allCompressionAlgosSend env → env.zstdCompress = true) := by
  unfold Gen.allCompressionAlgosSend
  generalize env.brotliCompress = b, env.zstdCompress = z
  revert b z
  decide +kernel

theorem gen_compressionReceive_flags (env : Env) :
    ("brotli" ∈ Gen.allCompressionAlgosReceive env → env.brotliDecompress = true) ∧
    ("zstd" ∈ Gen.allCompressionAlgosReceive env → env.zstdDecompress = true) := by
  unfold Gen.allCompressionAlgosReceive
  generalize env.brotliDecompress = b, env.zstdDecompress = z
  revert b z
  decide +kernel

theorem known_sub {α : Type} {l S D : List α} (h : ∀ a ∈ l, a ∈ S) (hS : ∀ a ∈ S, a ∈ D) : ∀ a ∈ l, a ∈ D :=
  fun a ha => hS a (h a ha)

theorem validate_inDomain (env : Env) (s o : Settings) (h : validate env s = .ok o) : InDomain env s := by
  obtain ⟨p, _⟩ := (validate_ok_iff env s o).mp h
  exact {
    keySizes := ⟨p.minKeyLo, p.keyOrder, p.maxKeyHi⟩
    virtualHosts := p.virtualHosts
    cipherNames := by
      refine ⟨fun hc => p.someCipher ?_, known_sub p.cipherNames (gen_allCipherNames_doc env)⟩
      rw [normalize_cipherNames, hc]
      cases env.tripleDES <;> rfl
    macNames := known_sub p.macNames (gen_allMacNames_doc env)
    keyExchangeNames := known_sub p.keyExchangeNames (gen_keyExchangeNames_doc env)
    cipherImplementations := known_sub p.cipherImplementations (gen_cipherImplementations_doc env)
    certificateTypes := ⟨p.someCertificateType, known_sub p.certificateTypes (gen_certificateTypes_doc env)⟩
    versions := ⟨gen_knownVersions_doc env _ p.minVersion, gen_knownVersions_doc env _ p.maxVersion,
      verLe_of_not_verLt _ _ p.versionOrder⟩
    rsaSigHashes := known_sub p.rsaSigHashes (gen_allRsaSignatureHashes_doc env)
    dsaSigHashes := known_sub p.dsaSigHashes (gen_dsaSignatureHashes_doc env)
    ecdsaSigHashes := known_sub p.ecdsaSigHashes (gen_ecdsaSignatureHashes_doc env)
    rsaSchemes := known_sub p.rsaSchemes (gen_rsaSchemes_doc env)
    moreSigSchemes := known_sub p.moreSigSchemes (gen_signatureSchemes_doc env)
    sigAlgsForTls12 := fun hv => Classical.byContradiction fun hn => by
      simp only [not_or, Classical.not_not] at hn
      have := p.sigAlgsForTls12 ⟨⟨⟨hn.1, hn.2.1⟩, hn.2.2.1⟩, hn.2.2.2⟩
      rw [hv] at this
      cases this
    eccCurves := known_sub p.eccCurves (gen_allCurveNames_doc env)
    defaultCurve := gen_allCurveNames_doc env _ p.defaultCurve
    dhGroups := known_sub p.dhGroups (gen_allDhGroupNames_doc env)
    keyShares := p.keySharesEnabled
    dhParams := p.dhParams
    flags := ⟨p.encryptThenMAC, p.paddingExtension, p.heartbeatExtension, p.extendedMasterSecret,
      p.requireEMSFlag⟩
    requireEMS := p.requireEMS
    heartbeatCallback := p.heartbeatCallback
    recordSizeLimit := fun v hv => by have := p.recordSizeLimit v hv; omega
    ecPointFormats := by
      refine ⟨fun r hr => ?_, by simpa [Gen.ecPointUncompressed] using p.ecPointUncompressed⟩
      have := p.ecPointFormats r hr
      simp only [Gen.ecPointFormats, List.mem_cons, List.not_mem_nil, or_false] at this
      exact this.symm
    dcValidTime := p.dcValidTime
    compressionSend := known_sub p.compressionSend (gen_compressionSend_doc env)
    compressionReceive := known_sub p.compressionReceive (gen_compressionReceive_doc env)
    pskConfigs := fun q hq => (p.pskLen q hq).imp id fun h3 => ⟨h3, p.pskHash q hq h3⟩
    pskModes := known_sub p.pskModes (gen_pskModes_doc env)
    ticketCipher := gen_ticketCiphers_doc env _ p.ticketCipher
    ticketKeys := p.ticketKeys
    ticketLifetime := by have := p.ticketLifetime; omega
    maxEarlyData := by have := p.maxEarlyData; omega
    ticketCount := by have := p.ticketCount; omega }

end Tls.Settings
