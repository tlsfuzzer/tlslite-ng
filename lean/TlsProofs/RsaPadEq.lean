import TlsProofs.PyRt
import TlsModel.Gen.RsaPad
/-
  rsakey.py as regenerated (TlsModel/Gen/RsaPad.lean), where a function has no hand model to be compared with:
  `_addPKCS1Padding` with block type 2 (random non-zero padding), in closed form.
-/
namespace Tls.RsaPad.Gen
open Tls Tls.Py Tls.RsaDec Tls.PyE

/-- Block type 2 in closed form: the runtime model's `getRandomBytes` is a function of the requested length, so every
    iteration makes the same draw and the loop is decided by its first two tests. -/
theorem _addPKCS1Padding2_eq (self : PyE.RsaSelf) (bytes : Bytes) (fuel : Nat) (padLength : Int)
    (hpl : PyE.numBytes self.n - ((bytes.length : Int) + 3) = padLength) :
    _addPKCS1Padding fuel self bytes 2 =
      let draw := (PyE.filterNonZero (self.random (padLength * 2))).take padLength.toNat
      if padLength ≤ 0 then .ok ([0, 2] ++ [0] ++ bytes)
      else if fuel = 0 ∨ (draw.length : Int) < padLength then .error .fuel
      else .ok ([0, 2] ++ draw.map (fun v => UInt8.ofNat v.toNat) ++ [0] ++ bytes) := by
  unfold _addPKCS1Padding
  have h21 : (decide ((2 : Int) = 1) = true) = False := by simp
  have hdt : (decide True = true) = True := by simp
  have hz : PyE.zeros 0 = .ok [] := zeros_nat 0
  simp only [bind, pure, h21, if_false, if_true, len_eq, hz, ok_bind', hdt, hpl]
  rw [show PyE.iterBytes [] = [] from rfl, whileLoop_const]
  have hc0 : decide (PyE.lenL ([] : List Int) < padLength) = false ↔ padLength ≤ 0 := by
    show decide ((0 : Int) < padLength) = false ↔ _
    rw [decide_eq_false_iff_not, Int.not_lt]
  by_cases hp0 : padLength ≤ 0
  · rw [if_pos (hc0.mpr hp0), ok_bind', pad2_bytes [] (fun v hv => nomatch hv), lift_some', ok_bind']
    simp only [hp0, if_true]
    rfl
  rw [if_neg (mt hc0.mp hp0)]
  have hs1 : PyE.listTake (PyE.filterNonZero (self.random (padLength * 2))) padLength =
      (PyE.filterNonZero (self.random (padLength * 2))).take padLength.toNat := by
    unfold PyE.listTake; rw [if_neg (by omega)]
  simp only [hs1, hp0, if_false, PyE.lenL, decide_eq_true_eq]
  split
  · rfl
  · rw [ok_bind',
      pad2_bytes _ (fun v hv => filterNonZero_range _ v (List.mem_of_mem_take hv)), lift_some', ok_bind']
    rfl

end Tls.RsaPad.Gen
