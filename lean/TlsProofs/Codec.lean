import TlsModel.Codec
import TlsProofs.Crypto.BE
import TlsProofs.Guards
/-
  The `Writer` / `Parser` model of tlslite/utils/codec.py, method by method: when a method succeeds and with what, when
  it raises and what; what `add` / `add_var_bytes` wrote read back by `get` / `getVarBytes`.  Nothing here mentions
  the generic codec of TlsModel/Fmt.lean: Props/C15.lean sets the two side by side.
-/
namespace Tls.Codec

namespace Writer

theorem add_ok_iff (w : Writer) (x n : Nat) (w' : Writer) :
    add w x n = .ok w' ↔ x < 256 ^ n ∧ w' = w ++ beEncode n x := by
  rw [add, ok_or_throw_eq_ok]

theorem add_error_iff (w : Writer) (x n : Nat) (e : WErr) :
    add w x n = .error e ↔ 256 ^ n ≤ x ∧ e = .overflow := by
  rw [add, ok_or_throw_eq_error, Nat.not_lt]

theorem add_reads_back (w : Writer) (x n : Nat) (w' : Writer) (h : add w x n = .ok w') :
    w'.length = w.length + n ∧ beDecode (w'.drop w.length) = x := by
  obtain ⟨hx, rfl⟩ := (add_ok_iff _ _ _ _).mp h
  simp [length_beEncode, beDecode_beEncode_of_lt n x hx]

theorem addOne_eq_add (w : Writer) (x : Nat) : addOne w x = add w x 1 := by
  unfold addOne add
  by_cases h : x < 256
  · have : x % 256 = x := Nat.mod_eq_of_lt h
    simp [h, beEncode, this]
  · simp [h]

theorem addTwo_eq_add (w : Writer) (x : Nat) : addTwo w x = add w x 2 := by
  have hc : x ≤ 0xffff ↔ x < 256 ^ 2 := by omega
  simp only [addTwo, add, hc]

theorem addThree_eq_add (w : Writer) (x : Nat) : addThree w x = add w x 3 := by
  have hc : x / 65536 ≤ 0xff ↔ x < 256 ^ 3 := by omega
  have he : beEncode 1 (x / 65536) ++ beEncode 2 (x % 65536) = beEncode 3 x := by
    rw [show (65536 : Nat) = 256 ^ 2 from rfl, beEncode_mod]
    exact beEncode_append 1 2 x
  simp only [addThree, add, hc, List.append_assoc, he]

theorem addFour_eq_add (w : Writer) (x : Nat) : addFour w x = add w x 4 := by
  have hc : x ≤ 0xffffffff ↔ x < 256 ^ 4 := by omega
  simp only [addFour, add, hc]

theorem addVarBytes_eq (w : Writer) (data : Bytes) (ll : Nat) :
    addVarBytes w data ll =
      if data.length < 256 ^ ll then .ok (w ++ beEncode ll data.length ++ data) else .error .overflow := by
  rw [addVarBytes, add]
  split <;> rfl

theorem addVarBytes_ok_iff (w : Writer) (data : Bytes) (ll : Nat) (w' : Writer) :
    addVarBytes w data ll = .ok w' ↔ data.length < 256 ^ ll ∧ w' = w ++ beEncode ll data.length ++ data := by
  rw [addVarBytes_eq, ok_or_throw_eq_ok]

theorem addFixSeq_nil (w : Writer) (n : Nat) : addFixSeq w [] n = .ok w := rfl

theorem addFixSeq_cons (w : Writer) (x : Nat) (xs : List Nat) (n : Nat) :
    addFixSeq w (x :: xs) n =
      if x < 256 ^ n then addFixSeq (w ++ beEncode n x) xs n else .error .overflow := by
  simp only [addFixSeq, List.foldlM_cons, add]
  split <;> rfl

theorem addFixSeq_ok_length (seq : List Nat) (n : Nat) :
    ∀ (w w' : Writer), addFixSeq w seq n = .ok w' → w'.length = w.length + seq.length * n := by
  induction seq with
  | nil => intro w w' h; cases h; simp
  | cons x xs ih =>
    intro w w' h
    rw [addFixSeq_cons] at h
    split at h
    · rw [ih _ _ h, List.length_append, length_beEncode, List.length_cons, Nat.succ_mul]; omega
    · cases h

end Writer

theorem addFixSeq_prefix (n : Nat) (seq : List Nat) (w a : Writer) :
    Writer.addFixSeq (w ++ a) seq n = (Writer.addFixSeq a seq n).map (w ++ ·) := by
  induction seq generalizing a with
  | nil => rfl
  | cons x xs ih =>
    rw [Writer.addFixSeq_cons, Writer.addFixSeq_cons, List.append_assoc]
    split
    · exact ih _
    · rfl

namespace Parser

theorem get_eq (p : Parser) (n : Nat) :
    get p n =
      if p.bytes.length < p.index + n then .error .readPast
      else .ok (beDecode ((p.bytes.drop p.index).take n), { p with index := p.index + n }) := by
  unfold get getFixBytes
  dsimp only
  by_cases h : p.bytes.length < p.index + n
  · rw [if_pos h, if_pos h]; rfl
  · rw [if_neg h, if_neg h]; rfl

theorem getVarBytes_eq (p : Parser) (ll : Nat) :
    getVarBytes p ll =
      if p.bytes.length < p.index + ll then .error .readPast
      else if p.bytes.length < p.index + ll + beDecode ((p.bytes.drop p.index).take ll) then
        .error .readPast
      else .ok ((p.bytes.drop (p.index + ll)).take (beDecode ((p.bytes.drop p.index).take ll)),
        { p with index := p.index + ll + beDecode ((p.bytes.drop p.index).take ll) }) := by
  unfold getVarBytes
  rw [get_eq]
  split <;> rfl

theorem getFixBytes_ok_iff (p : Parser) (n : Nat) (b : Bytes) (p' : Parser) :
    getFixBytes p n = .ok (b, p') ↔
      p.index + n ≤ p.bytes.length ∧ b = (p.bytes.drop p.index).take n ∧
      p' = { p with index := p.index + n } := by
  simp only [getFixBytes, throw_or_ok_eq_ok, Prod.mk.injEq, gt_iff_lt, Nat.not_lt]

theorem getFixBytes_error_iff (p : Parser) (n : Nat) (e : PErr) :
    getFixBytes p n = .error e ↔ p.bytes.length < p.index + n ∧ e = .readPast := by
  simp only [getFixBytes, throw_or_ok_eq_error, gt_iff_lt]

theorem get_ok_iff (p : Parser) (n : Nat) (x : Nat) (p' : Parser) :
    get p n = .ok (x, p') ↔
      p.index + n ≤ p.bytes.length ∧ x = beDecode ((p.bytes.drop p.index).take n) ∧
      p' = { p with index := p.index + n } := by
  rw [get_eq, throw_or_ok_eq_ok, Prod.mk.injEq, Nat.not_lt]

theorem get_error_iff (p : Parser) (n : Nat) (e : PErr) :
    get p n = .error e ↔ p.bytes.length < p.index + n ∧ e = .readPast := by
  rw [get_eq, throw_or_ok_eq_error]

theorem get_bounds (p : Parser) (n x : Nat) (p' : Parser) (h : get p n = .ok (x, p')) :
    p'.index = p.index + n ∧ p'.index ≤ p.bytes.length ∧ p'.bytes = p.bytes ∧
    p'.indexCheck = p.indexCheck ∧ p'.lengthCheck = p.lengthCheck ∧ x < 256 ^ n ∧ p'.inv := by
  obtain ⟨h1, rfl, rfl⟩ := (get_ok_iff _ _ _ _).mp h
  refine ⟨rfl, h1, rfl, rfl, rfl, ?_, h1⟩
  have := beDecode_lt ((p.bytes.drop p.index).take n)
  rwa [List.length_take_of_le (by rw [List.length_drop]; omega)] at this

theorem get_append (x : Nat) (r : Bytes) (n : Nat) (h : x < 256 ^ n) :
    get (new (beEncode n x ++ r)) n = .ok (x, ⟨beEncode n x ++ r, n, 0, 0⟩) := by
  obtain ⟨h1, h2, _⟩ := beField n x r h
  rw [get_eq]
  simp only [new, List.drop_zero, Nat.zero_add, h2, if_neg h1]

theorem getVarBytes_append (d r : Bytes) (ll : Nat) (h : d.length < 256 ^ ll) :
    getVarBytes (new (beEncode ll d.length ++ d ++ r)) ll =
      .ok (d, ⟨beEncode ll d.length ++ d ++ r, (beEncode ll d.length ++ d).length, 0, 0⟩) := by
  obtain ⟨h1, h2, h3⟩ := beField ll d.length (d ++ r) h
  rw [getVarBytes_eq]
  simp only [new, List.drop_zero, Nat.zero_add, List.append_assoc, if_neg h1, h2, h3, List.take_left]
  simp only [List.length_append, length_beEncode]
  exact if_neg (by omega)

theorem getVarBytes_error (p : Parser) (ll : Nat) (e : PErr) (h : getVarBytes p ll = .error e) :
    e = .readPast := by
  rw [getVarBytes_eq] at h
  split at h
  · cases h; rfl
  · split at h <;> cases h
    rfl

theorem skipBytes_bounds (p p' : Parser) (n : Nat) (h : skipBytes p n = .ok p') :
    p'.index = p.index + n ∧ p'.inv := by
  obtain ⟨hh, rfl⟩ := throw_or_ok_eq_ok.mp h
  exact ⟨rfl, Nat.not_lt.mp hh⟩

theorem getFixList_bounds (n : Nat) : ∀ (k : Nat) (p : Parser) (l : List Nat) (p' : Parser),
    p.inv → getFixList p n k = .ok (l, p') →
      p' = { p with index := p.index + k * n } ∧ p.index + k * n ≤ p.bytes.length ∧
      l.length = k ∧ ∀ x ∈ l, x < 256 ^ n := by
  intro k
  induction k with
  | zero =>
    intro p l p' hinv h
    cases h
    exact ⟨by rw [Nat.zero_mul]; rfl, by rw [Nat.zero_mul]; exact hinv, rfl, nofun⟩
  | succ k ih =>
    intro p l p' hinv h
    obtain ⟨⟨x, p1⟩, hg, h⟩ := bind_eq_ok h
    obtain ⟨⟨xs, p2⟩, hr, h⟩ := bind_eq_ok h
    cases h
    obtain ⟨_, _, _, _, _, hx, hinv1⟩ := get_bounds _ _ _ _ hg
    obtain ⟨_, _, rfl⟩ := (get_ok_iff _ _ _ _).mp hg
    obtain ⟨rfl, b2, b3, b4⟩ := ih _ _ _ hinv1 hr
    have e : p.index + n + k * n = p.index + (k + 1) * n := by rw [Nat.succ_mul]; omega
    exact ⟨by dsimp only; rw [e], e ▸ b2, congrArg (· + 1) b3, List.forall_mem_cons.mpr ⟨hx, b4⟩⟩

theorem stopLengthCheck_ok_iff (p : Parser) :
    stopLengthCheck p = .ok () ↔ (p.index : Int) - p.indexCheck = p.lengthCheck := by
  unfold stopLengthCheck
  by_cases h : (p.index : Int) - p.indexCheck ≠ p.lengthCheck
  · simp [h]
  · simp only [h, if_false, true_iff]; simpa using h

theorem atLengthCheck_cases (p : Parser) :
    (atLengthCheck p = .ok false ∧ (p.index : Int) - p.indexCheck < p.lengthCheck) ∨
    (atLengthCheck p = .ok true ∧ (p.index : Int) - p.indexCheck = p.lengthCheck) ∨
    (atLengthCheck p = .error .readPast ∧ (p.index : Int) - p.indexCheck > p.lengthCheck) := by
  unfold atLengthCheck
  by_cases h1 : (p.index : Int) - p.indexCheck < p.lengthCheck
  · simp [h1]
  · by_cases h2 : (p.index : Int) - p.indexCheck = p.lengthCheck
    · simp [h2]
    · simp [h1, h2]; omega

theorem getRemainingLength_eq (p : Parser) : getRemainingLength p = p.remaining.length := by
  simp [getRemainingLength, remaining]

end Parser

end Tls.Codec
