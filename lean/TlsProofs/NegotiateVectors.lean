import TlsProofs.NegotiateEval
/-
  The concrete negotiations Props/C03 quotes (non-vacuity examples, regressions, counterexamples), evaluated
  together: the kernel shares the work on the tables and on the default settings only within one declaration,
  so they are one conjunction under one `decide +kernel`.  Grouped as the sections of
  Props/C03; each example there is the projection of its conjunct.
-/
namespace Tls.Neg
open Tls.Gen.Neg

/-- the defaults without TLS 1.3 in `versions` (as `validate()` leaves them for a lower maxVersion), up to (3, n);
    the examples of Props/C03 write the record update out, and agree with the conjuncts below by unfolding this -/
def dfltUpTo (n : Nat) : Settings := { dflt with maxVersion := n, versions := [3, 2, 1] }

theorem negotiate_vectors :
    ((okWith (negotiate dflt dflt certClient (certServer rsaCred))
         (fun p => p.version == 4 && p.suite == 0x1302 && p.group == 23 && p.sigScheme == 2054) = true) ∧
    (okWith (negotiate (dfltUpTo 3) dflt certClient (certServer ecdsaCred))
         (fun p => p.version == 3 && ecdheEcdsaSuites.contains p.suite && p.group != 0 && p.sigScheme != 0) = true) ∧
    (negotiate { dfltUpTo 3 with cipherNames := ["aes128"] }
         { dflt with cipherNames := ["aes256"] } certClient (certServer rsaCred) = .alert .server "insufficient_security") ∧
    (negotiate { dfltUpTo 3 with minKeySize := 3072, dhGroups := [], keyExchangeNames := ["dh_anon"] }
                         { dfltUpTo 3 with keyExchangeNames := ["dh_anon"] }
                         anonClient anonServer = .alert .client "insufficient_security") ∧
    (negotiate dflt { dflt with minKeySize := 2048 } { certClient with cred := some rsa1024Cred }
                   { certServer rsaCred with reqCert := true } = .alert .server "handshake_failure" ∧
         negotiate (dfltUpTo 3) { dflt with minKeySize := 2048 }
                   { certClient with cred := some rsa1024Cred } { certServer rsaCred with reqCert := true }
           = .alert .server "handshake_failure") ∧
    (negotiate (dfltUpTo 2) dflt certClient
             (certServer { certAlg := "Ed25519", keyBits := 253, curve := "" }) = .alert .server "insufficient_security" ∧
         negotiate (dfltUpTo 2) dflt
             { certClient with cred := some { certAlg := "Ed25519", keyBits := 253, curve := "" } }
             { certServer rsaCred with reqCert := true } = .alert .client "handshake_failure" ∧
         negotiate { dfltUpTo 3 with rsaSigHashes := [] } dflt
             { certClient with cred := some rsa1024Cred } { certServer ecdsaCred with reqCert := true }
           = .alert .client "handshake_failure" ∧
         negotiate { dfltUpTo 3 with keyExchangeNames := ["dh_anon"], dhGroups := ["ffdhe2048"] }
                   { dfltUpTo 3 with keyExchangeNames := ["dh_anon"], dhGroups := ["ffdhe3072"] }
                   anonClient anonServer = .alert .server "internal_error")) ∧
    ((withTranscript
           (transcriptOf (dfltUpTo 3) dflt
             { certClient with cred := some rsa1024Cred, alpn := ["6832"], serverName := "example.com" }
             { certServer rsaCred with reqCert := true, alpn := ["6832"] } [[0x30]] [[0x31]])
           (fun t =>
             decide (t.offer = clientOffer (dfltUpTo 3)
                       { certClient with cred := some rsa1024Cred, alpn := ["6832"], serverName := "example.com" }) &&
             decide (serverSelect dflt { certServer rsaCred with reqCert := true, alpn := ["6832"] } t.offer = .ok t.selection) &&
             okWith (clientAccept (dfltUpTo 3)
                       { certClient with cred := some rsa1024Cred, alpn := ["6832"], serverName := "example.com" }
                       { certServer rsaCred with reqCert := true, alpn := ["6832"] } t.offer t.selection)
                    (fun p => p.version == 3 && p.alpn == "6832" && p.clientCert == some rsa1024Cred) &&
             -- the two views are not trivial: both chains are present and recorded
             (clientView K0 (dfltUpTo 3) t [7]).serverChain == [[0x30]] &&
             (serverView K0 dflt t [7]).clientChain == [[0x31]] &&
             (clientView K0 (dfltUpTo 3) t [7]).exporter [1, 2] 5 ==
               (serverView K0 dflt t [7]).exporter [1, 2] 5) = true)) ∧
    ((okWith (negotiate { dfltUpTo 3 with minVersion := 2 }
                                 { dfltUpTo 2 with minVersion := 1 } certClient (certServer rsaCred))
         (fun p => p.version == 2) = true) ∧
    (okWith (negotiate dflt (dfltUpTo 2) certClient (certServer rsaCred))
         (fun p => p.version == 2) = true) ∧
    (negotiate { dflt with minVersion := 4 } (dfltUpTo 3)
         certClient (certServer rsaCred) = .alert .client "protocol_version") ∧
    (okWith (negotiate dflt { dflt with maxVersion := 2, versions := [1, 2] } certClient (certServer rsaCred))
           (fun p => p.version == 1) = true ∧
         negotiate dflt { dflt with versions := [3, 4, 2, 1] } certClient (certServer rsaCred)
           = .alert .client "illegal_parameter")) ∧
    ((dflt.wf = true ∧ plainCert dflt certClient (certServer rsaCred) = true ∧
         clientHelloSane dflt certClient = true ∧ compatible dflt dflt certClient (certServer rsaCred) = true ∧
         commonVersion dflt dflt = some 4) ∧
    (compatible dflt (dfltUpTo 1) certClient (certServer ecdsaCred) = true ∧
         (dfltUpTo 1).wf = true ∧
         commonVersion dflt (dfltUpTo 1) = some 1) ∧
    (compatible { dflt with cipherNames := ["aes128gcm"] } { dflt with cipherNames := ["aes256gcm"] }
         certClient (certServer rsaCred) = false) ∧
    (compatibleSome { dfltUpTo 3 with keyExchangeNames := ["dhe_rsa", "rsa"], dhGroups := [], minKeySize := 2048 }
                        { dfltUpTo 3 with keyExchangeNames := ["dhe_rsa", "rsa"], dhParamBits := 1536 } certClient (certServer rsaCred) = true ∧
         negotiate { dfltUpTo 3 with keyExchangeNames := ["dhe_rsa", "rsa"], dhGroups := [], minKeySize := 2048 }
                   { dfltUpTo 3 with keyExchangeNames := ["dhe_rsa", "rsa"], dhParamBits := 1536 } certClient (certServer rsaCred)
           = .alert .client "insufficient_security") ∧
    (negotiate { dflt with cipherNames := ["aes128"] } dflt certClient (certServer rsaCred)
           = .alert .server "insufficient_security" ∧
         okWith (negotiate { dfltUpTo 3 with cipherNames := ["aes128"] } dflt
                   certClient (certServer rsaCred)) (fun p => p.version == 3) = true) ∧
    (okWith (negotiate { dflt with rsaSigHashes := ["sha256"] }
                   { dfltUpTo 2 with rsaSigHashes := ["sha384"] }
                   certClient (certServer rsaCred)) (fun p => p.version == 2 && p.sigScheme == 0) = true ∧
         compatible { dflt with rsaSigHashes := ["sha256"] }
                    { dfltUpTo 2 with rsaSigHashes := ["sha384"] }
                    certClient (certServer rsaCred) = true) ∧
    (negotiate { dfltUpTo 3 with keyExchangeNames := ["rsa"], rsaSigHashes := ["sha256"] }
                   { dfltUpTo 3 with keyExchangeNames := ["rsa"], rsaSigHashes := ["sha384"] }
                   certClient (certServer rsaCred) = .alert .server "handshake_failure") ∧
    (okWith (negotiate { dflt with eccCurves := ["secp256k1"], keyShares := ["secp256k1"], dhGroups := [] }
                           { dflt with eccCurves := ["secp256k1"], keyShares := ["secp256k1"], dhGroups := [] }
                           certClient (certServer rsaCred)) (fun p => p.version == 4 && p.group == 22) = true)) ∧
    ((okWith (negotiateFor dflt dflt srpClient srpServer) (fun p => p.version == 3 && srpSuites.contains p.suite) = true ∧
         okWith (negotiateFor dflt dflt srpClient (srpCertServer rsaCred)) (fun p => p.version == 3 && srpCertSuites.contains p.suite) = true ∧
         okWith (negotiateFor dflt dflt anonClient anonServer) (fun p => p.version == 3 && isAnonSuite p.suite) = true ∧
         negotiate dflt dflt srpClient srpServer = .alert .server "handshake_failure") ∧
    (okWith (negotiateFor { dflt with keyExchangeNames := ["srp_sha"] } dflt srpClient (srpCertServer rsaCred))
           (fun p => srpSuites.contains p.suite && p.serverCert == none) = true ∧
         okWith (negotiateFor { dflt with keyExchangeNames := ["srp_sha"] } dflt srpClient (srpCertServer ecdsaCred))
           (fun p => srpSuites.contains p.suite) = true)) := by
  unfold negotiateFor
  -- through the evaluators of NegotiateEval.lean: the scans of the table rows are then shared by all the settings above
  rw [negotiateR.2, compatibleR.2, compatibleSomeR.2, clientHelloSaneR.2, transcriptOfR.2, clientOfferR.2, serverSelectR.2]
  decide +kernel

theorem vectors_policy : type_of% negotiate_vectors.1 := negotiate_vectors.1
theorem vectors_views : type_of% negotiate_vectors.2.1 := negotiate_vectors.2.1
theorem vectors_version : type_of% negotiate_vectors.2.2.1 := negotiate_vectors.2.2.1
theorem vectors_compat : type_of% negotiate_vectors.2.2.2.1 := negotiate_vectors.2.2.2.1
theorem vectors_srp : type_of% negotiate_vectors.2.2.2.2 := negotiate_vectors.2.2.2.2

end Tls.Neg
