import TlsProofs.Conc
import TlsModel.Locks
/-
  C18 — serial executions of calls on a lock-protected object are sequential histories of the
  object's sequential model; and what the instances of that theorem start from: the generated class check as
  its shape hypothesis (`classOK_entry`), sequential runs that keep an invariant (`runSeq_invariant`, for the RSA
  blinding pair).
-/
namespace Tls.Conc

variable {σ ρ ω ο : Type}

/-- one completed call in a serial history -/
structure Ev (ω ο : Type) where
  thread : Nat
  call : ω
  out : ο

def evOf (t : Nat) (hist : List (Ev ω ο)) : List (Ev ω ο) := hist.filter (fun e => e.thread == t)

def runSeq (step : ω → σ → σ × ο) : σ → List ω → σ × List ο
  | s, [] => (s, [])
  | s, o :: os =>
    let r := step o s
    let r2 := runSeq step r.1 os
    (r2.1, r.2 :: r2.2)

theorem runSeq_append (step : ω → σ → σ × ο) (s : σ) (a b : List ω) :
    runSeq step s (a ++ b) =
      ((runSeq step (runSeq step s a).1 b).1, (runSeq step s a).2 ++ (runSeq step (runSeq step s a).1 b).2) := by
  induction a generalizing s with
  | nil => simp [runSeq]
  | cons o a ih => simp only [List.cons_append, runSeq]; rw [ih]

theorem runSeq_invariant (good : σ → Prop) (ok : ω → Prop) (step : ω → σ → σ × ο) (correct : ω → ο)
    (hgood : ∀ o s, ok o → good s → good (step o s).1 ∧ (step o s).2 = correct o) :
    ∀ (calls : List ω) (s : σ), good s → (∀ o ∈ calls, ok o) →
      good (runSeq step s calls).1 ∧ (runSeq step s calls).2 = calls.map correct := by
  intro calls
  induction calls with
  | nil => intro s hs _; exact ⟨hs, rfl⟩
  | cons o calls ih =>
    intro s hs hok
    obtain ⟨hg, hc⟩ := hgood o s (hok o (by simp)) hs
    obtain ⟨hg', hc'⟩ := ih _ hg (fun o' ho' => hok o' (by simp [ho']))
    exact ⟨hg', by simp only [runSeq, List.map_cons, hc, hc']⟩

/-- one thread's share of a serial history: `evs` are its completed calls, `rem` those still to come -/
structure ThHist (res : ρ → List ο) (sem : ω → List (Act σ ρ)) (calls : List ω) (th : Thread σ ρ)
    (evs : List (Ev ω ο)) (rem : List ω) : Prop where
  ops : th.ops = rem.map sem
  calls : evs.map (·.call) ++ rem = calls
  outs : res th.loc = evs.map (·.out)

/-- `hist` is a sequential history of the serial configuration `s`: replayed on the sequential model from `s0` it gives
    the shared state and the recorded outputs (`run`), and each thread's share of it is a prefix of the thread's calls,
    with the outputs the thread has collected so far (`th`). -/
structure LinHist (res : ρ → List ο) (sem : ω → List (Act σ ρ)) (step : ω → σ → σ × ο)
    (T : Nat → List ω) (s0 : σ) (s : SCfg σ ρ) (hist : List (Ev ω ο)) : Prop where
  th : ∀ t, ∃ rem, ThHist res sem (T t) (s.th t) (evOf t hist) rem
  run : runSeq step s0 (hist.map (·.call)) = (s.sh, hist.map (·.out))

theorem evOf_snoc (t : Nat) (hist : List (Ev ω ο)) (e : Ev ω ο) :
    evOf t (hist ++ [e]) = evOf t hist ++ if e.thread = t then [e] else [] := by
  simp only [evOf, List.filter_append, List.filter_cons, List.filter_nil, beq_iff_eq]

theorem forall_calls {T : Nat → List ω} {hist : List (Ev ω ο)}
    (h : ∀ t, (evOf t hist).map (·.call) = T t) {ok : ω → Prop} (hT : ∀ t, ∀ o ∈ T t, ok o) :
    ∀ o ∈ hist.map (·.call), ok o := by
  intro o ho
  obtain ⟨e, he, rfl⟩ := List.mem_map.mp ho
  refine hT e.thread _ ?_
  rw [← h e.thread]
  exact List.mem_map.mpr ⟨e, List.mem_filter.mpr ⟨he, beq_self_eq_true _⟩, rfl⟩

theorem linHist_step (res : ρ → List ο) (sem : ω → List (Act σ ρ)) (step : ω → σ → σ × ο)
    (T : Nat → List ω) (s0 : σ)
    (hseq : ∀ o x l, (runActs (sem o) (x, l)).1 = (step o x).1 ∧
                     res (runActs (sem o) (x, l)).2 = res l ++ [(step o x).2])
    (s : SCfg σ ρ) (hist : List (Ev ω ο)) (h : LinHist res sem step T s0 s hist) (t : Nat) :
    ∃ hist', LinHist res sem step T s0 (serialStep s t) hist' := by
  obtain ⟨rem, ht⟩ := h.th t
  cases rem with
  | nil =>
    refine ⟨hist, ?_⟩
    have hs : serialStep s t = s := by simp [serialStep, ht.ops]
    rw [hs]; exact h
  | cons o rest =>
    obtain ⟨hsh, hres⟩ := hseq o s.sh (s.th t).loc
    refine ⟨hist ++ [⟨t, o, (step o s.sh).2⟩], fun u => ?_, ?_⟩
    · rw [serialStep_cons ht.ops]
      by_cases hu : u = t
      · subst hu
        rw [evOf_snoc, if_pos rfl]
        simp only [setTh_same]
        exact ⟨rest, rfl, by rw [List.map_append, List.append_assoc]; exact ht.calls,
          by rw [hres, ht.outs, List.map_append]; rfl⟩
      · rw [evOf_snoc, if_neg (Ne.symm hu), List.append_nil]
        simp only [setTh_other _ _ _ _ hu]
        exact h.th u
    · rw [serialStep_cons ht.ops, List.map_append, List.map_append, runSeq_append, h.run, hsh]
      rfl

theorem linHist_run (res : ρ → List ο) (sem : ω → List (Act σ ρ)) (step : ω → σ → σ × ο)
    (T : Nat → List ω) (s0 : σ)
    (hseq : ∀ o x l, (runActs (sem o) (x, l)).1 = (step o x).1 ∧
                     res (runActs (sem o) (x, l)).2 = res l ++ [(step o x).2])
    (order : List Nat) : ∀ (s : SCfg σ ρ) (hist : List (Ev ω ο)), LinHist res sem step T s0 s hist →
    ∃ hist', LinHist res sem step T s0 (serialRun order s) hist' := by
  induction order with
  | nil => intro s hist h; exact ⟨hist, h⟩
  | cons t order ih =>
    intro s hist h
    obtain ⟨hist1, h1⟩ := linHist_step res sem step T s0 hseq s hist h t
    exact ih (serialStep s t) hist1 h1

end Tls.Conc

namespace Tls.Locks
open Tls.Conc

theorem classOK_entry {c : ClassInfo} (h : classOK c = true) {e : Nat} (he : e ∈ c.entries) :
    shapeOK 0 (shapeOf c e) = true := by
  simp only [classOK, Bool.and_eq_true, List.all_eq_true] at h
  exact h.2 e he

end Tls.Locks
