import TlsProofs.Crypto.BE
import TlsModel.Ticket
/- Round trip of the session ticket payload, and what `_tryDecrypt` has found when it returns a ticket. -/
namespace Tls.Ticket

theorem getN_append (n x : Nat) (r : Bytes) (h : x < 256 ^ n) :
    getN n (beEncode n x ++ r) = some (x, r) := by
  obtain ⟨h1, h2, h3⟩ := beField n x r h
  rw [getN, if_neg h1, h2, h3]

theorem getVar_append (n : Nat) (d r : Bytes) (h : d.length < 256 ^ n) :
    getVar n (beEncode n d.length ++ (d ++ r)) = some (d, r) := by
  rw [getVar, getN_append n d.length (d ++ r) h]
  dsimp only
  rw [if_neg (by rw [List.length_append]; omega), List.take_left, List.drop_left]

theorem b2n_lt (b : Bool) : b2n b < 256 ^ 1 := by cases b <;> decide

theorem b2n_ne (b : Bool) : decide (b2n b ≠ 0) = b := by cases b <;> rfl

/-- `write` with every field followed by a (possibly empty) rest, as `getN_append` and
    `getVar_append` expect it -/
theorem writePayload_eq (p : TicketPayload) :
    writePayload p =
      beEncode 2 p.version ++ (beEncode 2 p.masterSecret.length ++ (p.masterSecret ++
      (beEncode 1 p.protoMajor ++ (beEncode 1 p.protoMinor ++ (beEncode 2 p.suite ++
      (beEncode 1 p.nonce.length ++ (p.nonce ++ (beEncode 8 p.creationTime ++
      ((if p.version ≥ 1 then beEncode 3 p.certChain.length ++ p.certChain else []) ++
       (if p.version ≥ 2 then beEncode 1 (b2n p.etm) ++ (beEncode 1 (b2n p.ems) ++
          (beEncode 2 p.serverName.length ++ (p.serverName ++ []))) else [])))))))))) := by
  simp only [writePayload, List.append_assoc, List.append_nil]

theorem parse_write (p : TicketPayload) (hw : p.WF) : parsePayload (writePayload p) = some p := by
  have hcases : p.version = 0 ∨ p.version = 1 ∨ p.version = 2 := by have := hw.1; omega
  obtain ⟨version, ms, maj, min, suite, nonce, ct, chain, etm, ems, sn⟩ := p
  obtain ⟨hv, hms, hmaj, hmin, hsu, hno, hct, hcc, hsn, hc0, hc2⟩ := hw
  dsimp only at hv hms hmaj hmin hsu hno hct hcc hsn hc0 hc2 hcases
  -- the bounds of `WF` in the form the field lemmas ask for
  have hms : ms.length < 256 ^ 2 := hms
  have hmaj : maj < 256 ^ 1 := hmaj
  have hmin : min < 256 ^ 1 := hmin
  have hsu : suite < 256 ^ 2 := hsu
  have hno : nonce.length < 256 ^ 1 := hno
  have hct : ct < 256 ^ 8 := hct
  have hcc : chain.length < 256 ^ 3 := hcc
  have hsn : sn.length < 256 ^ 2 := hsn
  have hver : version < 256 ^ 2 := Nat.lt_of_le_of_lt hv (by decide)
  rw [writePayload_eq, parsePayload]
  simp only [getN_append, getVar_append, hver, hms, hmaj, hmin, hsu, hno, hct, Option.bind_eq_bind,
    Option.bind_some]
  rcases hcases with rfl | rfl | rfl
  · obtain ⟨rfl, rfl, rfl⟩ := hc2 (by decide)
    obtain rfl := hc0 (by decide)
    rfl
  · obtain ⟨rfl, rfl, rfl⟩ := hc2 (by decide)
    simp only [ge_iff_le, gt_iff_lt, Nat.reduceLeDiff, Nat.reduceLT, Nat.le_refl, reduceIte,
      List.append_assoc, getVar_append, hcc, Option.bind_some]
    rfl
  · simp only [ge_iff_le, gt_iff_lt, Nat.reduceLeDiff, Nat.reduceLT, Nat.le_refl, reduceIte,
      List.append_assoc, getN_append, getVar_append, hcc, b2n_lt, hsn, b2n_ne, Option.bind_some]
    rfl

/-- the serialised payload is never empty (`if not ticket: continue` does not hit honest tickets) -/
theorem writePayload_ne_nil (p : TicketPayload) : (writePayload p).isEmpty = false := by
  rw [writePayload_eq]
  rfl

theorem openTicket_some {A : Aead} {keys : List Bytes} {t : Bytes} {p : TicketPayload}
    (h : openTicket A keys t = some p) :
    ∃ k ∈ keys, ∃ m, A.aopen (A.kdf (t.take 32) k) (t.drop 32) = some m ∧ parsePayload m = some p := by
  obtain ⟨k, hk, hf⟩ := List.exists_of_findSome?_eq_some h
  refine ⟨k, hk, ?_⟩
  split at hf
  · cases hf
  · split at hf
    · cases hf
    · exact ⟨_, ‹_›, hf⟩

end Tls.Ticket
