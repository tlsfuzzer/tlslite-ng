import TlsProofs.ConnAct
/-
  What the decision theorems of C16 and C17 stand on: how `_getMsg` / `readAsync` pass on what one round of
  `getMsgStep` did; the specification `fatalDesc` of the alert owed to a control message, which the decision table
  `act` of `ConnAct` agrees with and the model sends (`readIter_fatal`); post-handshake authentication: the client
  chain is set only by a verified Finished (`handleSrvPha_chainSet`).
-/
namespace Tls.Conn

theorem getMsg_step_err {e s : List Nat} {f : Nat} {l l' : Local} {x : Exc}
    (h : getMsgStep e s l = (.err x, l')) : getMsg e s (f+1) l = (.err x, l') := by simp [getMsg, h]

theorem getMsg_step_got {e s : List Nat} {f : Nat} {l l' : Local} {m : Msg}
    (h : getMsgStep e s l = (.ok (.got m), l')) : getMsg e s (f+1) l = (.ok m, l') := by simp [getMsg, h]

theorem getMsg_step_stall {e s : List Nat} {f : Nat} {l l' : Local}
    (h : getMsgStep e s l = (.stall, l')) : getMsg e s (f+1) l = (.stall, l') := by simp [getMsg, h]

theorem getMsg_step_again {e s : List Nat} {f : Nat} {l l' : Local}
    (h : getMsgStep e s l = (.ok .again, l')) : getMsg e s (f+1) l = getMsg e s f l' := by simp [getMsg, h]

theorem fuelOf_succ (l : Local) : fuelOf l = l.inc.recs.length + 1 + 1 := rfl

/-- the state after answering with the fatal alert `d` -/
def fatalOn (d : Nat) (l : Local) : Local :=
  shutdown false { l with out := { l.out with recs := l.out.recs ++ [⟨l.me.writeGen, .alert 2 d⟩] } }

theorem sendError_open {α : Type} (d : Nat) (l : Local) (hopen : l.me.closed = false) (htx : l.me.txDead = false) :
    sendError (α := α) d l = (.err (.localAlert d), fatalOn d l) := by
  simp [sendError, sendRaw, hopen, htx, fatalOn]

/-- the condition under which the loop of `readAsync` makes its first round, spelled as `readLoop`
    unfolds with `tryOnce = true`: it is the rewrite rule that `simp only` takes after `rw [readLoop]` -/
theorem readLoop_enters {l : Local} {mn : Nat} (hopen : l.me.closed = false)
    (hneed : l.me.readBuf.length < mn ∨ l.me.readBuf = []) :
    ((decide (l.me.readBuf.length < mn) || (l.me.readBuf.isEmpty && true)) && !l.me.closed) = true := by
  rcases hneed with h | h <;> simp [h, hopen]

theorem read_of_iter_err {l l1 : Local} {mx : Option Nat} {mn : Nat} {e : Exc}
    (hopen : l.me.closed = false) (hneed : l.me.readBuf.length < mn ∨ l.me.readBuf = [])
    (hi : readIter (l.me.ver13 && !l.me.closed) (allowedHs l.me) l = (.err e, l1))
    (h1 : e ≠ .remoteAlert 0) (h2 : e ≠ .abruptClose) :
    read mx mn l = (.err e, shutdown false l1) := by
  unfold read
  rw [fuelOf_succ, readLoop]
  simp only [readLoop_enters hopen hneed, if_true, hi]

theorem readLoop_closed (is13 : Bool) (allowed : List Nat) (mn f : Nat) (t : Bool) (l : Local)
    (hc : l.me.closed = true) : readLoop is13 allowed mn (f+1) t l = (.ok (), l) := by
  rw [readLoop]; simp [hc]

theorem read_closed (mx : Option Nat) (mn : Nat) (l : Local) (hc : l.me.closed = true) :
    read mx mn l = (.ok (l.me.readBuf.take (mx.getD l.me.readBuf.length)),
      { l with me := { l.me with readBuf := l.me.readBuf.drop (mx.getD l.me.readBuf.length),
                                  got := l.me.got ++ l.me.readBuf.take (mx.getD l.me.readBuf.length) } }) := by
  unfold read
  rw [fuelOf_succ, readLoop_closed _ _ _ _ _ _ hc]

/-- the read goes on as a read on the closed connection, which returns what is buffered -/
theorem read_of_iter_closenotify {l l1 : Local} {mx : Option Nat} {mn : Nat}
    (hopen : l.me.closed = false) (hneed : l.me.readBuf.length < mn ∨ l.me.readBuf = [])
    (hi : readIter (l.me.ver13 && !l.me.closed) (allowedHs l.me) l = (.err (.remoteAlert 0), l1))
    (hc1 : l1.me.closed = true) : read mx mn l = read mx mn l1 := by
  rw [read_closed mx mn l1 hc1]
  unfold read
  rw [fuelOf_succ, readLoop]
  simp only [readLoop_enters hopen hneed, if_true, hi]
  rw [readLoop_closed _ _ _ _ _ _ hc1]

theorem read_of_iter_eof {l l1 : Local} {mx : Option Nat} {mn : Nat}
    (hopen : l.me.closed = false) (hneed : l.me.readBuf.length < mn ∨ l.me.readBuf = [])
    (hi : readIter (l.me.ver13 && !l.me.closed) (allowedHs l.me) l = (.err .abruptClose, l1)) :
    read mx mn l =
      if l1.me.ignoreAbruptClose then read mx mn (shutdown true l1)
      else (.err .abruptClose, shutdown false l1) := by
  rw [read_closed mx mn (shutdown true l1) rfl]
  unfold read
  rw [fuelOf_succ, readLoop]
  simp only [readLoop_enters hopen hneed, if_true, hi]
  by_cases hig : l1.me.ignoreAbruptClose = true
  · simp only [hig, if_true]
    rw [readLoop_closed _ _ _ _ _ _ rfl]
  · simp [hig]

theorem read_min0_of_iter_ok (l l1 : Local) (mx : Option Nat)
    (hopen : l.me.closed = false) (hbuf : l.me.readBuf = [])
    (hi : readIter (l.me.ver13 && !l.me.closed) (allowedHs l.me) l = (.ok false, l1))
    (hb1 : l1.me.readBuf = []) :
    read mx 0 l = (.ok [], l1) := by
  unfold read
  simp only [hopen, Bool.not_false, Bool.and_true] at hi
  rw [fuelOf_succ, readLoop]
  simp only [hbuf, hopen, hi, List.length_nil, List.isEmpty_nil, Bool.and_self, Bool.or_true, Bool.not_false,
    Bool.and_true]
  rw [readLoop]
  simp [hb1]
  obtain ⟨me, inc, out⟩ := l1
  cases me
  simp_all

theorem readIter_of_step_err {is13 : Bool} {allowed : List Nat} {l l1 : Local} {e : Exc}
    (hs : getMsgStep (if is13 then [23, 22] else [23]) (if is13 then allowed else []) l = (.err e, l1)) :
    readIter is13 allowed l = (.err e, l1) := by
  unfold readIter
  cases is13 <;> simp only [Bool.false_eq_true, if_false, if_true] at hs ⊢ <;> rw [fuelOf_succ, getMsg_step_err hs]


/-- The alert with which a reader in state `e` has to answer control message `m`, for the
    malformed, unsolicited and mode-forbidden classes (RFC 8446 4.6 / 6.2, RFC 6520 3); `none` for
    messages that are processed, silently dropped, or answered with a warning, and where the table
    makes no claim (`hsOther t` of a type the TLS 1.3 reader admits, which the model refuses with
    decode_error). -/
def fatalDesc (e : End) (m : Msg) : Option Nat :=
  match m with
  | .keyUpdate v => if e.ver13 then (if v == 0 || v == 1 then none else some 47) else some 10
  | .kuCoalesced _ => some 10
  | .hsMalformed t =>
    if e.ver13 then (if (allowedHs e).contains t then some 50 else some 10)
    else if t == renegType e.isClient then none else some 10
  | .hsOther t =>
    if e.ver13 then (if (allowedHs e).contains t then none else some 10)
    else if t == renegType e.isClient then none else some 10
  | .heartbeat mt _ _ =>
    if !e.hbSupported then some 10
    else if mt == 1 && !e.hbCanRecv then some 10 else none
  | .heartbeatBad => if !e.hbSupported then some 10 else none
  | .certRequest _ _ => if e.ver13 && e.hasKeypair then none else some 10
  | .certificate c _ =>
    if e.ver13 && !e.hasKeypair && !e.certReqs.isEmpty then
      (if c == 0 || !e.certReqs.contains c then some 47 else none)
    else some 10
  | .certVerify .. => some 10
  | .finished _ => some 10
  | .newSessionTicket => if e.ver13 then (if (allowedHs e).contains 4 then none else some 10) else some 10
  | .ccs => some 10
  | .emptyRec => some 10
  | .unknownCt => some 10
  | .appData _ => none
  | .alert .. => none

theorem mem_allowedHs_iff (e : End) (t : Nat) : t ∈ allowedHs e ↔
    t = 24 ∨ (e.hasKeypair = true ∧ (t = 4 ∨ t = 13)) ∨
    (e.hasKeypair = false ∧ e.certReqs ≠ [] ∧ (t = 11 ∨ t = 25)) ∨
    (e.hasKeypair = false ∧ e.certReqs = [] ∧ e.isClient = true ∧ t = 4) := by
  unfold allowedHs
  cases e.hasKeypair
  · cases e.certReqs with
    | nil => cases e.isClient <;> simp [or_comm]
    | cons => simp
  · simp; omega

/-- before TLS 1.3 `readAsync` expects application data only -/
theorem fatalDesc_act_old {me : End} {m : Msg} {d : Nat} (h13 : me.ver13 = false)
    (hd : fatalDesc me m = some d) : act [23] [] me m = .fatal d := by
  cases m with
  | heartbeat mt p n | heartbeatBad =>
    cases hs : me.hbSupported <;> cases hr : me.hbCanRecv <;> simp_all [fatalDesc, act, Msg.ct, Msg.hsType]
  | _ => simp_all [fatalDesc, act, Msg.ct, Msg.hsType, renegType_ne]

/-- a KeyUpdate with a bad request byte and a Certificate with a bad context are left to their handlers -/
theorem fatalDesc_act_13 {me : End} {m : Msg} {d : Nat} (h13 : me.ver13 = true)
    (hd : fatalDesc me m = some d) :
    act [23, 22] (allowedHs me) me m = .fatal d ∨
    act [23, 22] (allowedHs me) me m = .pass ∧ d = 47 ∧
      ((∃ v, m = .keyUpdate v ∧ (v == 0 || v == 1) = false) ∨
       (∃ c ch, m = .certificate c ch ∧ (c = 0 ∨ c ∉ me.certReqs))) := by
  cases m with
  | heartbeat mt p n | heartbeatBad =>
    cases hs : me.hbSupported <;> cases hr : me.hbCanRecv <;> simp_all [fatalDesc, act, Msg.ct, Msg.hsType]
  | hsOther t | hsMalformed t =>
    by_cases ht : t ∈ allowedHs me <;> simp_all [fatalDesc, act, Msg.ct]
  | certificate c ch =>
    cases hk : me.hasKeypair <;> cases hq : me.certReqs <;>
      simp_all [fatalDesc, act, Msg.ct, Msg.hsType, mem_allowedHs_iff _ 11]
  | _ =>
    simp_all [fatalDesc, act, Msg.ct, Msg.hsType, mem_allowedHs_iff _ 24, mem_allowedHs_iff _ 4, mem_allowedHs_iff _ 13,
      mem_allowedHs_iff _ 15, mem_allowedHs_iff _ 20]

theorem getMsgStep_fatal {e s : List Nat} {l : Local} {m : Msg} {rest : List Rec} {d : Nat}
    (hopen : l.me.closed = false) (htx : l.me.txDead = false)
    (hin : l.inc.recs = ⟨l.me.readGen, m⟩ :: rest) (ha : act e s l.me m = .fatal d) :
    getMsgStep e s l = (.err (.localAlert d), fatalOn d (popped l rest)) := by
  rw [getMsgStep_head hin, ha]
  exact sendError_open d _ hopen htx

theorem readIter_fatal (l : Local) (m : Msg) (rest : List Rec) (d : Nat)
    (hopen : l.me.closed = false) (htx : l.me.txDead = false)
    (hin : l.inc.recs = ⟨l.me.readGen, m⟩ :: rest) (hd : fatalDesc l.me m = some d) :
    readIter (l.me.ver13 && !l.me.closed) (allowedHs l.me) l = (.err (.localAlert d), fatalOn d (popped l rest)) := by
  rw [hopen, Bool.not_false, Bool.and_true]
  cases h13 : l.me.ver13
  · exact readIter_of_step_err (is13 := false)
      (getMsgStep_fatal hopen htx hin (fatalDesc_act_old h13 hd))
  · rcases fatalDesc_act_13 h13 hd with ha | ⟨ha, rfl, hm⟩
    · exact readIter_of_step_err (is13 := true) (getMsgStep_fatal hopen htx hin ha)
    -- handed on by `_getMsg`, refused by the handler
    have hgot : getMsg [23, 22] (allowedHs l.me) (fuelOf l) l = (.ok m, popped l rest) :=
      fuelOf_succ l ▸ getMsg_step_got (by rw [getMsgStep_head hin, ha]; rfl)
    have hpo : (popped l rest).me.closed = false := hopen
    have hpt : (popped l rest).me.txDead = false := htx
    unfold readIter
    rcases hm with ⟨v, rfl, hv⟩ | ⟨c, ch, rfl, hc⟩
    · simp [hgot, handleKeyUpdate, hv, sendError_open, hpo, hpt]
    · have : (popped l rest).me.certReqs = l.me.certReqs := rfl
      rcases hc with hc | hc <;> simp [hgot, handleSrvPha, this, hc, sendError_open, hpo, hpt]

/-- what a post-handshake-authentication handler started in `l` may have done -/
def ChainSet (l : Local) (chain : Nat) (S : Prop) (x : Res Unit × Local) : Prop :=
  x.2.me.chainSet = l.me.chainSet ∨ (x.1 = .ok () ∧ x.2.me.clientChain = chain ∧ S)

theorem ChainSet.mono {l l0 : Local} {chain : Nat} {S S0 : Prop} {x : Res Unit × Local}
    (h : ChainSet l chain S x) (hl : l.me.chainSet = l0.me.chainSet) (hS : S → S0) : ChainSet l0 chain S0 x :=
  h.imp (·.trans hl) fun ⟨hr, hc, hs⟩ => ⟨hr, hc, hS hs⟩

theorem srvPhaFinish_chainSet (chain : Nat) (l : Local) :
    ChainSet l chain (∃ l3, getMsg [22] [20] (fuelOf l) l = (.ok (.finished true), l3)) (srvPhaFinish chain l) := by
  unfold srvPhaFinish
  have hc := (getMsg_frame [22] [20] (fuelOf l) l).chain.1
  generalize getMsg [22] [20] (fuelOf l) l = x at hc ⊢
  obtain ⟨res, l3⟩ := x
  cases res with
  | stall | err e => exact .inl hc
  | ok m =>
    cases m with
    | finished ok =>
      cases ok
      · exact .inl ((sendError_frame 51 l3).chain.1.trans hc)
      · exact .inr ⟨rfl, rfl, l3, rfl⟩
    | _ => exact .inl hc

/-- `_handle_srv_pha` walked once, forwards: every exit but the last leaves the recorded chain alone
    (`Frame` for what is read, `sendError_frame` for what is refused) -/
theorem handleSrvPha_chainSet (ctx chain : Nat) (l : Local) :
    let l1 : Local := { l with me := { l.me with certReqs := l.me.certReqs.erase ctx } }
    ChainSet l chain (ctx ≠ 0 ∧ l.me.certReqs.contains ctx = true ∧
      (chain ≠ 0 → ∃ l2 l3, getMsg [22] [15] (fuelOf l1) l1 = (.ok (.certVerify true true true), l2) ∧
          getMsg [22] [20] (fuelOf l2) l2 = (.ok (.finished true), l3)) ∧
      (chain = 0 → l.me.certRequired = false ∧
          ∃ l3, getMsg [22] [20] (fuelOf l1) l1 = (.ok (.finished true), l3)))
      (handleSrvPha ctx chain l) := by
  intro l1
  unfold handleSrvPha
  refine ite_elim _ (fun _ => .inl (sendError_frame 47 l).chain.1) fun hc0 =>
    ite_elim _ (fun _ => .inl (sendError_frame 47 l).chain.1) fun hcont => ?_
  have hc0' : ctx ≠ 0 := by simpa using hc0
  have hcont' : l.me.certReqs.contains ctx = true := by simpa using hcont
  show ChainSet l chain _ (if (chain != 0) = true then _ else _)
  refine ite_elim _ (fun hch => ?_) fun hch =>
    ite_elim _ (fun _ => .inl (sendError_frame 116 l1).chain.1) fun hreq => ?_
  · have hch' : chain ≠ 0 := by simpa using hch
    have hc := (getMsg_frame [22] [15] (fuelOf l1) l1).chain.1
    generalize getMsg [22] [15] (fuelOf l1) l1 = x at hc ⊢
    obtain ⟨res, l2⟩ := x
    cases res with
    | stall | err e => exact .inl hc
    | ok m =>
      cases m with
      | certVerify a b c =>
        cases a
        · exact .inl ((sendError_frame 47 l2).chain.1.trans hc)
        cases b
        · exact .inl ((sendError_frame 47 l2).chain.1.trans hc)
        cases c
        · exact .inl ((sendError_frame 51 l2).chain.1.trans hc)
        exact (srvPhaFinish_chainSet chain l2).mono hc fun ⟨l3, h3⟩ =>
          ⟨hc0', hcont', fun _ => ⟨l2, l3, rfl, h3⟩, fun hz => absurd hz hch'⟩
      | _ => exact .inl hc
  · have hch' : chain = 0 := by simpa using hch
    exact (srvPhaFinish_chainSet chain l1).mono rfl fun ⟨l3, h3⟩ =>
      ⟨hc0', hcont', fun hz => absurd hch' hz, fun _ => ⟨by simpa using hreq, l3, h3⟩⟩

end Tls.Conn
