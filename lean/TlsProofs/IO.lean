import TlsModel.IO
/-
  C14: a device is a byte stream.  The laws are the classes `LawfulDev` / `LiveDev` (receive side) and
  `LawfulSend` / `LiveSend`; the raw event-list socket and BufferedSocket are instances: `LawfulDev` and `LiveDev`
  from one statement about a single `recv` (`RecvLaw`), `LawfulSend` from one about a single `send` (`SendLaw`),
  `LiveSend` by cases on the send schedule.  Over the laws alone:
  `_sockRecvAll` / `_sockSendAll` under every schedule, BufferedSocket transparency (`recvMany_stream`,
  `BSock.wrun_spec`), and the readers built on `_sockRecvAll` as pure parsers of the stream: `Refines`, carried
  through `Out.bind` by `Refines.bind`.
-/
namespace Tls.IO

/-- a device whose receive side is a byte stream (`upstream`) delivered in order -/
class LawfulDev (σ : Type) [Dev σ] where
  upstream : σ → Bytes
  recv_data : ∀ (n : Nat) (s s' : σ) (b : Bytes), Dev.recv n s = (.data b, s') →
    b.length ≤ n ∧ upstream s = b ++ upstream s' ∧ Dev.budgetR s' ≤ Dev.budgetR s
  recv_wb : ∀ (n : Nat) (s s' : σ), Dev.recv n s = (.wouldBlock, s') →
    upstream s' = upstream s ∧ Dev.budgetR s' < Dev.budgetR s
  recv_err : ∀ (n : Nat) (s s' : σ), Dev.recv n s = (.error, s') → upstream s' = upstream s
  recv_exh : ∀ (n : Nat) (s s' : σ), Dev.recv n s = (.exhausted, s') → upstream s' = upstream s

open LawfulDev

def RecvLaw {σ : Type} [Dev σ] (up : σ → Bytes) (credit : σ → Nat) (n : Nat) (s : σ) : RecvRes × σ → Prop
  | (.data b, s') => b.length ≤ n ∧ up s = b ++ up s' ∧ Dev.budgetR s' ≤ Dev.budgetR s ∧
      (1 ≤ n → 1 ≤ credit s → b ≠ [] ∧ credit s ≤ credit s' + b.length)
  | (.wouldBlock, s') => up s' = up s ∧ Dev.budgetR s' < Dev.budgetR s ∧ credit s ≤ credit s'
  | (_, s') => up s' = up s ∧ credit s = 0

@[reducible] def LawfulDev.ofLaw {σ : Type} [Dev σ] (up : σ → Bytes) (credit : σ → Nat)
    (h : ∀ n s, RecvLaw up credit n s (Dev.recv n s)) : LawfulDev σ where
  upstream := up
  recv_data n s s' b hr := by have := h n s; rw [hr] at this; exact ⟨this.1, this.2.1, this.2.2.1⟩
  recv_wb n s s' hr := by have := h n s; rw [hr] at this; exact ⟨this.1, this.2.1⟩
  recv_err n s s' hr := by have := h n s; rw [hr] at this; exact this.1
  recv_exh n s s' hr := by have := h n s; rw [hr] at this; exact this.1

/-- progress law: `credit s` bytes are guaranteed to arrive without a fault -/
class LiveDev (σ : Type) [Dev σ] [LawfulDev σ] where
  credit : σ → Nat
  recv_live : ∀ (n : Nat) (s : σ), 1 ≤ n → 1 ≤ credit s →
    (∃ s', Dev.recv n s = (.wouldBlock, s') ∧ credit s ≤ credit s') ∨
    (∃ b s', Dev.recv n s = (.data b, s') ∧ b ≠ [] ∧ credit s ≤ credit s' + b.length)

/-- what `RecvLaw` still allows once `1 ≤ n` and `1 ≤ credit s`: the form in which `recvAllLoop_spec` uses
    `LiveDev` -/
def LiveLaw {σ : Type} (credit : σ → Nat) (s : σ) : RecvRes × σ → Prop
  | (.wouldBlock, s') => credit s ≤ credit s'
  | (.data b, s') => b ≠ [] ∧ credit s ≤ credit s' + b.length
  | _ => False

@[reducible] def LiveDev.ofLaw {σ : Type} [Dev σ] [LawfulDev σ] (up : σ → Bytes) (credit : σ → Nat)
    (h : ∀ n s, RecvLaw up credit n s (Dev.recv n s)) : LiveDev σ where
  credit := credit
  recv_live n s hn hc := by
    have := h n s
    generalize Dev.recv n s = r at this
    obtain ⟨res, s'⟩ := r
    cases res with
    | wouldBlock => exact .inl ⟨s', rfl, this.2.2⟩
    | data b => exact .inr ⟨b, s', rfl, this.2.2.2 hn hc⟩
    | error | exhausted => exact absurd this.2 (by omega)

theorem LiveDev.law {σ : Type} [Dev σ] [LawfulDev σ] [LiveDev σ] (n : Nat) (s : σ) (hn : 1 ≤ n)
    (hc : 1 ≤ LiveDev.credit s) : LiveLaw LiveDev.credit s (Dev.recv n s) := by
  rcases LiveDev.recv_live n s hn hc with ⟨s', hr, h⟩ | ⟨b, s', hr, h⟩ <;> rw [hr] <;> exact h

open LiveDev

def AllYield {σ α : Type} (o : Out σ α) (v : Nat) : Prop := ∀ y ∈ o.yields, y = v

section
variable {σ : Type} [Dev σ] [LawfulDev σ]

theorem recvAllLoop_spec (length fuel : Nat) (buf : Bytes) (s : σ) (hb : buf.length < length) :
    let o := recvAllLoop length fuel buf s
    AllYield o 0 ∧
    (∀ r, o.res = .ok r → ∃ t, r = buf ++ t ∧ r.length = length ∧ upstream s = t ++ upstream o.dev) ∧
    (∀ e, o.res = .exc e → e = .abruptClose ∨ e = .socketError) ∧
    (Dev.budgetR s + (length - buf.length) < fuel → o.res ≠ .fuelOut) ∧
    (∀ [LiveDev σ], length ≤ buf.length + credit s →
      o.res = .fuelOut ∨ (∃ r, o.res = .ok r) ∧ credit s + buf.length ≤ credit o.dev + length) := by
  have live [LiveDev σ] {buf : Bytes} {s : σ} {r} (hb : buf.length < length) (hc : length ≤ buf.length + credit s)
      (hr : Dev.recv (length - buf.length) s = r) : LiveLaw credit s r :=
    hr ▸ LiveDev.law _ s (by omega) (by omega)
  -- every round uses up a receive event (would-block) or adds at least one byte: the fuel bound of the 4th conjunct;
  -- liveness holds for any fuel up to `fuelOut`, which `sockRecvAll_spec` excludes by the 4th conjunct
  fun_induction recvAllLoop length fuel buf s with
  | case1 => exact ⟨nofun, nofun, nofun, nofun, fun _ => .inl rfl⟩  -- no fuel
  | case2 fuel buf s s' hr o ih =>  -- would-block
    have ⟨hu, hbud⟩ := recv_wb _ _ _ hr
    have ⟨h1, h2, h3, h4, h5⟩ := ih hb
    refine ⟨List.forall_mem_cons.2 ⟨rfl, h1⟩, hu ▸ h2, h3, fun hf => h4 (by omega), fun hc => ?_⟩
    have hl := live hb hc hr
    exact (h5 (Nat.le_trans hc (Nat.add_le_add_left hl _))).imp_right fun h =>
      ⟨h.1, Nat.le_trans (Nat.add_le_add_right hl _) h.2⟩
  | case3 fuel buf s s' hr =>  -- socket error
    exact ⟨nofun, nofun, fun e he => .inr (Res.exc.inj he).symm, nofun, fun hc => (live hb hc hr).elim⟩
  | case4 fuel buf s s' hr =>  -- schedule exhausted
    exact ⟨nofun, nofun, nofun, nofun, fun hc => (live hb hc hr).elim⟩
  | case5 fuel buf s b s' hr h0 =>  -- EOF
    exact ⟨nofun, nofun, fun e he => .inl (Res.exc.inj he).symm, nofun, fun hc =>
      absurd (List.length_eq_zero_iff.1 (beq_iff_eq.1 h0)) (live hb hc hr).1⟩
  | case6 fuel buf s b s' hr _ buf' hfull =>  -- data, buffer full
    have hfull : buf.length + b.length = length := List.length_append ▸ beq_iff_eq.1 hfull
    refine ⟨nofun, fun r hr' => ⟨b, (Res.ok.inj hr').symm, Res.ok.inj hr' ▸ List.length_append ▸ hfull,
      (recv_data _ _ _ _ hr).2.1⟩, nofun, nofun, fun hc => .inr ⟨⟨_, rfl⟩, ?_⟩⟩
    have := (live hb hc hr).2
    show _ ≤ credit s' + _
    omega
  | case7 fuel buf s b s' hr h0 buf' hfull ih =>  -- data, loop on
    have ⟨hlen, hu, hbud⟩ := recv_data _ _ _ _ hr
    have hl : buf'.length = buf.length + b.length := List.length_append
    have h0 := mt beq_iff_eq.2 h0
    have hfull := mt beq_iff_eq.2 hfull
    have ⟨h1, h2, h3, h4, h5⟩ := ih (by omega)
    refine ⟨h1, fun r hr' => ?_, h3, fun hf => h4 (by omega), fun hc => ?_⟩
    · have ⟨t, ht, hlr, hu'⟩ := h2 r hr'
      exact ⟨b ++ t, by rw [ht, List.append_assoc], hlr, by rw [hu, hu', List.append_assoc]⟩
    · have := (live hb hc hr).2
      exact (h5 (by omega)).imp_right fun h => ⟨h.1, by have := h.2; omega⟩

theorem sockRecvAll_spec (n : Nat) (s : σ) :
    let o := sockRecvAll n s
    AllYield o 0 ∧ o.res ≠ .fuelOut ∧
    (∀ r, o.res = .ok r →
      n ≤ (upstream s).length ∧ r = (upstream s).take n ∧ upstream o.dev = (upstream s).drop n) ∧
    (∀ e, o.res = .exc e → e = .abruptClose ∨ e = .socketError) ∧
    (∀ [LiveDev σ], n ≤ credit s → o.res = .ok ((upstream s).take n) ∧ credit s ≤ credit o.dev + n) := by
  unfold sockRecvAll
  split
  next hn =>
    rw [beq_iff_eq.1 hn]
    exact ⟨nofun, nofun, fun r hr => ⟨Nat.zero_le _, (Res.ok.inj hr).symm, rfl⟩, nofun,
      fun _ => ⟨rfl, Nat.le_add_right _ _⟩⟩
  next hn =>
    have ⟨h1, h2, h3, h4, h5⟩ := recvAllLoop_spec n (Dev.budgetR s + n + 1) [] s
      (Nat.pos_of_ne_zero (mt beq_iff_eq.2 hn))
    have hok (r) (hr : (recvAllLoop n (Dev.budgetR s + n + 1) [] s).res = .ok r) :
        n ≤ (upstream s).length ∧ r = (upstream s).take n ∧
          upstream (recvAllLoop n (Dev.budgetR s + n + 1) [] s).dev = (upstream s).drop n := by
      obtain ⟨t, rfl, hl, ht⟩ := h2 r hr
      rw [ht]
      simp [← hl]
    refine ⟨h1, h4 (Nat.lt_succ_self _), hok, h3, fun hc => ?_⟩
    obtain ⟨⟨r, hr⟩, hcr⟩ := (h5 (by simpa using hc)).resolve_left (h4 (Nat.lt_succ_self _))
    exact ⟨by rw [hr, (hok r hr).2.1], by simpa using hcr⟩

end

def REv.clean : REv → Bool
  | .chunk k => decide (1 ≤ k)
  | .wb => true
  | _ => false

def cleanSched (l : List REv) : Bool := l.all REv.clean

def REv.isChunk : REv → Bool
  | .chunk _ => true
  | _ => false

def chunks (l : List REv) : Nat := l.countP REv.isChunk

/-- bytes guaranteed to arrive: when only would-blocks and deliveries of at least one byte are left, every
    delivery event hands over at least one of the bytes in flight -/
def Sock.credit (s : Sock) : Nat :=
  if cleanSched s.rsched then min (chunks s.rsched) s.stream.length else 0

@[simp] theorem cleanSched_cons (e : REv) (l : List REv) :
    cleanSched (e :: l) = (e.clean && cleanSched l) := by simp [cleanSched]

@[simp] theorem chunks_cons (e : REv) (l : List REv) :
    chunks (e :: l) = chunks l + (if e.isChunk then 1 else 0) := by
  simp [chunks, List.countP_cons]

@[simp] theorem chunks_nil : chunks [] = 0 := rfl

theorem Sock.credit_of_clean {s : Sock} (h : cleanSched s.rsched = true) :
    s.credit = min (chunks s.rsched) s.stream.length := if_pos h

theorem Sock.clean_of_credit {s : Sock} (h : 1 ≤ s.credit) : cleanSched s.rsched = true := by
  unfold Sock.credit at h
  split at h
  · assumption
  · omega

/-- one delivery of `min i m` of the `m` bytes in flight uses up one of `c + 1` delivery events -/
theorem credit_step {c m i : Nat} (hi : 1 ≤ i) : min (c + 1) m ≤ min c (m - i) + min i m := by
  omega

theorem Sock.recv_cases (n : Nat) (s : Sock) :
    (s.rsched = [] ∧ s.recv n = (.exhausted, s)) ∨
    (∃ rest, s.rsched = .wb :: rest ∧ s.recv n = (.wouldBlock, { s with rsched := rest })) ∨
    (∃ rest, s.rsched = .err :: rest ∧ s.recv n = (.error, { s with rsched := rest })) ∨
    (∃ rest, s.rsched = .eof :: rest ∧ s.recv n = (.data [], { s with rsched := rest })) ∨
    (∃ k rest, s.rsched = .chunk k :: rest ∧ s.stream = [] ∧
        s.recv n = (.wouldBlock, { s with rsched := rest })) ∨
    (∃ k rest, s.rsched = .chunk k :: rest ∧ s.stream ≠ [] ∧
        s.recv n = (.data (s.stream.take (min k n)),
          { s with stream := s.stream.drop (min k n), rsched := rest })) := by
  fun_cases Sock.recv n s with
  | case1 h => exact .inl ⟨h, rfl⟩
  | case2 rest h => exact .inr (.inl ⟨rest, h, rfl⟩)
  | case3 rest h => exact .inr (.inr (.inl ⟨rest, h, rfl⟩))
  | case4 rest h => exact .inr (.inr (.inr (.inl ⟨rest, h, rfl⟩)))
  | case5 k rest h hs => exact .inr (.inr (.inr (.inr (.inl ⟨k, rest, h, List.isEmpty_iff.1 hs, rfl⟩))))
  | case6 k rest h hs => exact .inr (.inr (.inr (.inr (.inr ⟨k, rest, h, mt List.isEmpty_iff.2 hs, rfl⟩))))

theorem Sock.recv_law (n : Nat) (s : Sock) : RecvLaw Sock.stream Sock.credit n s (s.recv n) := by
  have hlt : ∀ {e rest}, s.rsched = e :: rest → rest.length < Dev.budgetR s :=
    fun h => by simp [Dev.budgetR, h]
  rcases s.recv_cases n with
    ⟨h, e⟩ | ⟨_, h, e⟩ | ⟨_, h, e⟩ | ⟨_, h, e⟩ | ⟨k, rest, h, hs, e⟩ | ⟨k, rest, h, hs, e⟩ <;> rw [e]
  · exact ⟨rfl, by simp [Sock.credit, h]⟩
  · exact ⟨rfl, hlt h, by simp [Sock.credit, h, REv.clean, REv.isChunk]⟩
  · exact ⟨rfl, by simp [Sock.credit, h, REv.clean]⟩
  · exact ⟨Nat.zero_le _, rfl, Nat.le_of_lt (hlt h), fun _ hc => by simp [Sock.credit, h, REv.clean] at hc⟩
  · exact ⟨rfl, hlt h, by simp [Sock.credit, h, hs]⟩
  · refine ⟨by rw [List.length_take]; omega, (List.take_append_drop ..).symm, Nat.le_of_lt (hlt h),
      fun hn hc => ?_⟩
    -- credit ≥ 1: the whole schedule is clean, so k ≥ 1 and both credits are the `min`s of `credit_step`
    have hcl := Sock.clean_of_credit hc
    rw [Sock.credit_of_clean hcl]
    rw [h, cleanSched_cons, Bool.and_eq_true] at hcl
    have hi : 1 ≤ min k n := Nat.le_min.2 ⟨of_decide_eq_true hcl.1, hn⟩
    have hm : 1 ≤ s.stream.length := List.length_pos_iff.2 hs
    have hc' := Sock.credit_of_clean (s := { s with stream := s.stream.drop (min k n), rsched := rest }) hcl.2
    rw [hc', h, chunks_cons, REv.isChunk, if_pos rfl, List.length_take, List.length_drop]
    exact ⟨List.ne_nil_of_length_pos (by rw [List.length_take]; exact Nat.le_min.2 ⟨hi, hm⟩), credit_step hi⟩

instance : LawfulDev Sock := .ofLaw Sock.stream Sock.credit Sock.recv_law
instance : LiveDev Sock := .ofLaw Sock.stream Sock.credit Sock.recv_law

theorem BSock.recv_cases (n : Nat) (b : BSock) :
    (b.readBuf ≠ [] ∧ b.recv n = (.data (b.readBuf.take n), { b with readBuf := b.readBuf.drop n })) ∨
    (b.readBuf = [] ∧ ∃ d i, b.inner.recv (max 4096 n) = (.data d, i) ∧
        b.recv n = (.data (d.take n), { b with inner := i, readBuf := d.drop n })) ∨
    (b.readBuf = [] ∧ ∃ r i, b.inner.recv (max 4096 n) = (r, i) ∧ (∀ d, r ≠ .data d) ∧
        b.recv n = (r, { b with inner := i })) := by
  fun_cases BSock.recv n b with
  | case1 hb d i hr rb =>  -- buffer empty, refilled from below
    have hb := List.isEmpty_iff.1 hb
    exact .inr (.inl ⟨hb, d, i, hr, by simp [rb, hb]⟩)
  | case2 hb r i hnd hr => exact .inr (.inr ⟨List.isEmpty_iff.1 hb, r, i, hr, hnd, rfl⟩)  -- buffer empty, no data below
  | case3 hb => exact .inl ⟨mt List.isEmpty_iff.2 hb, rfl⟩  -- served from the buffer

def BSock.upstream (b : BSock) : Bytes := b.readBuf ++ b.inner.stream

def BSock.credit (b : BSock) : Nat := b.readBuf.length + b.inner.credit

theorem BSock.recv_law (n : Nat) (b : BSock) : RecvLaw BSock.upstream BSock.credit n b (b.recv n) := by
  have law := Sock.recv_law (max 4096 n) b.inner
  rcases b.recv_cases n with ⟨hb, e⟩ | ⟨hb, d, i, hr, e⟩ | ⟨hb, r, i, hr, hnd, e⟩ <;> rw [e]
  · refine ⟨by simp; omega, ?_, Nat.le_refl _, fun hn _ => ⟨by simp [hb]; omega, by simp [BSock.credit]; omega⟩⟩
    simp only [BSock.upstream]
    rw [← List.append_assoc, List.take_append_drop]
  · rw [hr] at law
    refine ⟨by simp; omega, ?_, law.2.2.1, fun hn hc => ?_⟩
    · simp only [BSock.upstream, hb, List.nil_append]
      rw [← List.append_assoc, List.take_append_drop]
      exact law.2.1
    · have ⟨h1, h2⟩ := law.2.2.2 (by omega) (by simpa [BSock.credit, hb] using hc)
      exact ⟨by simp; exact ⟨by omega, h1⟩, by simp [BSock.credit, hb] at h2 ⊢; omega⟩
  · rw [hr] at law
    cases r with
    | data d => exact absurd rfl (hnd d)
    | wouldBlock =>
      exact ⟨by simp only [BSock.upstream]; rw [law.1], law.2.1, by simpa [BSock.credit, hb] using law.2.2⟩
    | error | exhausted =>
      exact ⟨by simp only [BSock.upstream]; rw [law.1], by simpa [BSock.credit, hb] using law.2⟩

instance : LawfulDev BSock := .ofLaw BSock.upstream BSock.credit BSock.recv_law
instance : LiveDev BSock := .ofLaw BSock.upstream BSock.credit BSock.recv_law

/-- a device whose send side records, in order, exactly the bytes it accepted.
    `inv` is the discipline under which that holds (BufferedSocket: unbuffered sends only
    with an empty write queue, which `_sendMsgs` / `_sendError` maintain by flushing first).
    `send_sent`: a buffering `BufferedSocket.send` takes everything and uses up no send event, so the budget
    falls strictly only on a partial accept, the one case in which `_sockSendAll` goes round again. -/
class LawfulSend (σ : Type) [Dev σ] where
  written : σ → Bytes
  inv : σ → Prop
  send_inv : ∀ (data : Bytes) (s s' : σ) (r : SendRes), inv s → Dev.send data s = (r, s') → inv s'
  send_sent : ∀ (data : Bytes) (s s' : σ) (k : Nat), inv s → Dev.send data s = (.sent k, s') →
    k ≤ data.length ∧ written s' = written s ++ data.take k ∧
      (k = data.length ∧ Dev.budgetS s' ≤ Dev.budgetS s ∨ Dev.budgetS s' < Dev.budgetS s)
  send_wb : ∀ (data : Bytes) (s s' : σ), inv s → Dev.send data s = (.wouldBlock, s') →
    written s' = written s ∧ Dev.budgetS s' < Dev.budgetS s
  send_err : ∀ (data : Bytes) (s s' : σ), inv s → Dev.send data s = (.error, s') → written s' = written s
  send_exh : ∀ (data : Bytes) (s s' : σ), inv s → Dev.send data s = (.exhausted, s') → written s' = written s

open LawfulSend

def SendLaw {σ : Type} [Dev σ] (written : σ → Bytes) (inv : σ → Prop) (data : Bytes) (s : σ) :
    SendRes × σ → Prop
  | (.sent k, s') => inv s' ∧ k ≤ data.length ∧ written s' = written s ++ data.take k ∧
      (k = data.length ∧ Dev.budgetS s' ≤ Dev.budgetS s ∨ Dev.budgetS s' < Dev.budgetS s)
  | (.wouldBlock, s') => inv s' ∧ written s' = written s ∧ Dev.budgetS s' < Dev.budgetS s
  | (_, s') => inv s' ∧ written s' = written s

@[reducible] def LawfulSend.ofLaw {σ : Type} [Dev σ] (written : σ → Bytes) (inv : σ → Prop)
    (h : ∀ data s, inv s → SendLaw written inv data s (Dev.send data s)) : LawfulSend σ where
  written := written
  inv := inv
  send_inv data s s' r hi hr := by
    have := h data s hi; rw [hr] at this; cases r <;> exact this.1
  send_sent data s s' k hi hr := by have := h data s hi; rw [hr] at this; exact this.2
  send_wb data s s' hi hr := by have := h data s hi; rw [hr] at this; exact this.2
  send_err data s s' hi hr := by have := h data s hi; rw [hr] at this; exact this.2
  send_exh data s s' hi hr := by have := h data s hi; rw [hr] at this; exact this.2

section
variable {σ : Type} [Dev σ] [LawfulSend σ]

theorem sendAllLoop_spec (fuel : Nat) (data : Bytes) (s : σ) (hi : inv s) :
    let o := sendAllLoop fuel data s
    AllYield o 1 ∧
    (∃ k, k ≤ data.length ∧ written o.dev = written s ++ data.take k ∧
      (o.res = .ok () → k = data.length)) ∧
    (∀ e, o.res = .exc e → e = .socketError) ∧
    (Dev.budgetS s < fuel → o.res ≠ .fuelOut) := by
  fun_induction sendAllLoop fuel data s with
  | case1 => exact ⟨nofun, ⟨0, Nat.zero_le _, by simp, nofun⟩, nofun, nofun⟩  -- no fuel
  | case2 fuel data s s' hr o ih =>  -- would-block
    have ⟨hw, hbud⟩ := send_wb _ _ _ hi hr
    have ⟨h1, ⟨k, hk, hw2, hok⟩, h3, h4⟩ := ih (send_inv _ _ _ _ hi hr)
    exact ⟨List.forall_mem_cons.2 ⟨rfl, h1⟩, ⟨k, hk, hw ▸ hw2, hok⟩, h3, fun hf => h4 (by omega)⟩
  | case3 fuel data s s' hr =>  -- socket error
    exact ⟨nofun, ⟨0, Nat.zero_le _, by simp [send_err _ _ _ hi hr], nofun⟩,
      fun e he => (Res.exc.inj he).symm, nofun⟩
  | case4 fuel data s s' hr =>  -- schedule exhausted
    exact ⟨nofun, ⟨0, Nat.zero_le _, by simp [send_exh _ _ _ hi hr], nofun⟩, nofun, nofun⟩
  | case5 fuel data s k s' hr hfull =>  -- all accepted
    have ⟨hk, hw, _⟩ := send_sent _ _ _ _ hi hr
    exact ⟨nofun, ⟨k, hk, hw, fun _ => beq_iff_eq.1 hfull⟩, nofun, nofun⟩
  | case6 fuel data s k s' hr hfull o ih =>  -- partial accept
    have ⟨hk, hw, hbud⟩ := send_sent _ _ _ _ hi hr
    have hfull := mt beq_iff_eq.2 hfull
    have ⟨h1, ⟨j, hj, hw2, hok⟩, h3, h4⟩ := ih (send_inv _ _ _ _ hi hr)
    rw [List.length_drop] at hj hok
    refine ⟨List.forall_mem_cons.2 ⟨rfl, h1⟩,
      ⟨k + j, by omega, ?_, fun h => by have := hok h; omega⟩, h3, fun hf => h4 (by omega)⟩
    rw [hw2, hw, List.append_assoc, List.take_add]

theorem sockSendAll_spec (data : Bytes) (s : σ) (hi : inv s) :
    let o := sockSendAll data s
    AllYield o 1 ∧ o.res ≠ .fuelOut ∧ (∀ e, o.res = .exc e → e = .socketError) ∧
    (∃ k, k ≤ data.length ∧ written o.dev = written s ++ data.take k ∧
      (o.res = .ok () → k = data.length)) :=
  have ⟨h1, h2, h3, h4⟩ := sendAllLoop_spec (Dev.budgetS s + 1) data s hi
  ⟨h1, h4 (Nat.lt_succ_self _), h3, h2⟩

end

theorem Sock.send_cases (data : Bytes) (s : Sock) :
    (s.ssched = [] ∧ s.send data = (.exhausted, s)) ∨
    (∃ rest, s.ssched = .wb :: rest ∧ s.send data = (.wouldBlock, { s with ssched := rest })) ∨
    (∃ rest, s.ssched = .err :: rest ∧ s.send data = (.error, { s with ssched := rest })) ∨
    (∃ k rest, s.ssched = .accept k :: rest ∧
        s.send data = (.sent (min k data.length),
          { s with sent := s.sent ++ data.take (min k data.length), ssched := rest })) := by
  fun_cases Sock.send data s with
  | case1 h => exact .inl ⟨h, rfl⟩
  | case2 rest h => exact .inr (.inl ⟨rest, h, rfl⟩)
  | case3 rest h => exact .inr (.inr (.inl ⟨rest, h, rfl⟩))
  | case4 k rest h => exact .inr (.inr (.inr ⟨k, rest, h, rfl⟩))

theorem Sock.send_law (data : Bytes) (s : Sock) :
    SendLaw Sock.sent (fun _ => True) data s (s.send data) := by
  have hlt : ∀ {e rest}, s.ssched = e :: rest → rest.length < Dev.budgetS s :=
    fun h => by simp [Dev.budgetS, h]
  rcases s.send_cases data with ⟨_, e⟩ | ⟨_, h, e⟩ | ⟨_, _, e⟩ | ⟨_, _, h, e⟩ <;> rw [e]
  · exact ⟨trivial, rfl⟩
  · exact ⟨trivial, rfl, hlt h⟩
  · exact ⟨trivial, rfl⟩
  · exact ⟨trivial, Nat.min_le_right .., rfl, .inr (hlt h)⟩

instance : LawfulSend Sock := .ofLaw Sock.sent (fun _ => True) fun data s _ => Sock.send_law data s

def BSock.written (b : BSock) : Bytes := b.inner.sent ++ b.writeQueue.flatten

def BSock.WInv (b : BSock) : Prop := b.bufferWrites = false → b.writeQueue = []

theorem BSock.send_law (data : Bytes) (b : BSock) (hi : b.WInv) :
    SendLaw BSock.written BSock.WInv data b (b.send data) := by
  fun_cases BSock.send data b with
  | case1 hb =>
    exact ⟨fun hf => absurd (hb.symm.trans hf) nofun, Nat.le_refl _, by simp [BSock.written],
      .inl ⟨rfl, Nat.le_refl _⟩⟩
  | case2 hb r i hr =>
    -- with an empty queue `written` is what the raw socket has sent: the raw socket's law carries over
    have hq := hi (Bool.eq_false_iff.2 hb)
    have hw : ∀ i : Sock, BSock.written { b with inner := i } = i.sent := by simp [BSock.written, hq]
    have law := hr ▸ Sock.send_law data b.inner
    cases r <;> exact ⟨fun _ => hq, by simp only [hw]; exact law.2⟩

instance : LawfulSend BSock := .ofLaw BSock.written BSock.WInv BSock.send_law

/-- progress law for the send side: `scredit s` accepts of at least one byte are guaranteed -/
class LiveSend (σ : Type) [Dev σ] [LawfulSend σ] where
  scredit : σ → Nat
  send_live : ∀ (data : Bytes) (s : σ), inv s → 1 ≤ scredit s →
    (∃ s', Dev.send data s = (.wouldBlock, s') ∧ scredit s ≤ scredit s') ∨
    (∃ k s', Dev.send data s = (.sent k, s') ∧
      (k = data.length ∨ (1 ≤ k ∧ scredit s ≤ scredit s' + 1)))

section
variable {σ : Type} [Dev σ] [LawfulSend σ] [LiveSend σ]
open LiveSend

theorem sendAllLoop_live : ∀ (fuel : Nat) (data : Bytes) (s : σ), inv s →
    1 ≤ scredit s → data.length ≤ scredit s →
    (sendAllLoop fuel data s).res = .ok () ∨ (sendAllLoop fuel data s).res = .fuelOut := by
  intro fuel
  induction fuel with
  | zero => exact fun _ _ _ _ _ => .inr rfl
  | succ fuel ih =>
    intro data s hi h1 hc
    simp only [sendAllLoop]
    rcases send_live data s hi h1 with ⟨s', hr, hcr⟩ | ⟨k, s', hr, hk⟩
    · rw [hr]
      exact ih data s' (send_inv _ _ _ _ hi hr) (by omega) (by omega)
    · rw [hr]
      have hkl := (send_sent _ _ _ _ hi hr).1
      dsimp only
      split
      · exact .inl rfl
      next hne =>
        obtain ⟨hk1, hcr⟩ := hk.resolve_left (mt beq_iff_eq.2 hne)
        have hne := mt beq_iff_eq.2 hne
        exact ih (data.drop k) s' (send_inv _ _ _ _ hi hr) (by omega) (by simp; omega)

theorem sockSendAll_live (data : Bytes) (s : σ) (hi : inv s) (h1 : 1 ≤ scredit s)
    (hc : data.length ≤ scredit s) : (sockSendAll data s).res = .ok () :=
  (sendAllLoop_live _ data s hi h1 hc).resolve_right (sockSendAll_spec data s hi).2.1

end

def SEv.clean : SEv → Bool
  | .accept k => decide (1 ≤ k)
  | .wb => true
  | .err => false

def SEv.isAccept : SEv → Bool
  | .accept _ => true
  | _ => false

def cleanSSched (l : List SEv) : Bool := l.all SEv.clean
def accepts (l : List SEv) : Nat := l.countP SEv.isAccept

@[simp] theorem cleanSSched_cons (e : SEv) (l : List SEv) :
    cleanSSched (e :: l) = (e.clean && cleanSSched l) := by simp [cleanSSched]

@[simp] theorem accepts_cons (e : SEv) (l : List SEv) :
    accepts (e :: l) = accepts l + (if e.isAccept then 1 else 0) := by
  simp [accepts, List.countP_cons]

@[simp] theorem accepts_nil : accepts [] = 0 := rfl

/-- accepts of at least one byte that are guaranteed: their number when nothing but those and would-blocks is left -/
def Sock.scredit (s : Sock) : Nat := if cleanSSched s.ssched then accepts s.ssched else 0

instance : LiveSend Sock where
  scredit := Sock.scredit
  send_live := by
    intro data s _ hc
    obtain ⟨stream, rsched, ssched, sent⟩ := s
    cases ssched with
    | nil => simp [Sock.scredit] at hc
    | cons e rest =>
      cases e with
      | wb => exact .inl ⟨_, rfl, by simp [Sock.scredit, SEv.clean, SEv.isAccept]⟩
      | err => simp [Sock.scredit, SEv.clean] at hc
      | accept k =>
        refine .inr ⟨_, _, rfl, ?_⟩
        simp [Sock.scredit, SEv.clean, SEv.isAccept] at hc ⊢
        split at hc
        next h => rw [if_pos h, if_pos h.2]; omega
        next => omega

instance : LiveSend BSock where
  scredit b := b.inner.scredit
  send_live := by
    intro data b _ hc
    change (∃ s', b.send data = _ ∧ _) ∨ ∃ k s', b.send data = _ ∧ _
    unfold BSock.send
    by_cases hb : b.bufferWrites = true
    · right
      simp only [hb, if_true]
      exact ⟨_, _, rfl, Or.inl rfl⟩
    · simp only [hb, Bool.false_eq_true, if_false]
      rcases LiveSend.send_live (σ := Sock) data b.inner trivial hc with ⟨s', hr, hcr⟩ | ⟨k, s', hr, hk⟩
      · change b.inner.send data = _ at hr
        left
        rw [hr]
        exact ⟨_, rfl, hcr⟩
      · change b.inner.send data = _ at hr
        right
        rw [hr]
        exact ⟨_, _, rfl, hk⟩

def recvMany {σ : Type} [Dev σ] : List Nat → σ → Bytes × σ
  | [], s => ([], s)
  | n :: ns, s =>
    match Dev.recv n s with
    | (.data b, s') => let (rest, s'') := recvMany ns s'; (b ++ rest, s'')
    | (_, s') => recvMany ns s'

theorem recvMany_stream {σ : Type} [Dev σ] [LawfulDev σ] (ns : List Nat) (s : σ) :
    (recvMany ns s).1 ++ upstream (recvMany ns s).2 = upstream s := by
  fun_induction recvMany ns s with
  | case1 => rfl
  | case2 n ns s b s' hr rest s'' hrm ih =>  -- the call returned data
    rw [hrm] at ih
    rw [(recv_data _ _ _ _ hr).2.1, ← ih, List.append_assoc]
  | case3 n ns s r s' hnd hr ih =>  -- any other result
    rw [ih]
    cases r with
    | data b => exact absurd rfl (hnd b)
    | wouldBlock => exact (recv_wb _ _ _ hr).1
    | error => exact recv_err _ _ _ hr
    | exhausted => exact recv_exh _ _ _ hr

theorem foldl_append_flatten (q : List Bytes) (acc : Bytes) :
    q.foldl (fun acc i => acc ++ i) acc = acc ++ q.flatten := by
  induction q generalizing acc with
  | nil => simp
  | cons x q ih => simp [ih]

theorem BSock.flush_spec (b : BSock) :
    b.flush.writeQueue = [] ∧ b.flush.inner.sent = b.written ∧ b.flush.written = b.written ∧
      b.flush.bufferWrites = b.bufferWrites ∧ b.flush.readBuf = b.readBuf := by
  unfold BSock.flush
  simp only [foldl_append_flatten, List.nil_append]
  by_cases h : b.writeQueue.flatten = []
  · simp [h, BSock.written]
  · simp [h, BSock.written, Sock.sendall]

inductive WOp where
  | send (d : Bytes)
  | sendall (d : Bytes)
  | flush
  | setBuffer (v : Bool)

/-- one operation: new state and the bytes this call accepted from its caller -/
def BSock.wstep (b : BSock) : WOp → BSock × Bytes
  | .send d =>
    match b.send d with
    | (.sent k, b') => (b', d.take k)
    | (_, b') => (b', [])
  | .sendall d => (b.sendall d, d)
  | .flush => (b.flush, [])
  | .setBuffer v => ({ b with bufferWrites := v }, [])

def BSock.wrun (b : BSock) : List WOp → BSock × Bytes
  | [] => (b, [])
  | op :: ops =>
    let (b', a) := b.wstep op
    let (b'', a') := b'.wrun ops
    (b'', a ++ a')

/-- the callers' discipline: buffering is switched off only right after a flush (empty queue) -/
def Disciplined (b : BSock) : List WOp → Prop
  | [] => True
  | op :: ops =>
    (match op with
     | .setBuffer false => b.writeQueue = []
     | _ => True) ∧ Disciplined (b.wstep op).1 ops

theorem BSock.wstep_spec (b : BSock) (op : WOp) (hi : b.WInv)
    (hd : match op with | .setBuffer false => b.writeQueue = [] | _ => True) :
    (b.wstep op).1.WInv ∧ (b.wstep op).1.written = b.written ++ (b.wstep op).2 := by
  cases op with
  | send d =>
    have := BSock.send_law d b hi
    simp only [BSock.wstep]
    generalize b.send d = r at this
    obtain ⟨res, b'⟩ := r
    cases res with
    | sent k => exact ⟨this.1, this.2.2.1⟩
    | wouldBlock => exact ⟨this.1, (List.append_nil _).symm ▸ this.2.1⟩
    | error | exhausted => exact ⟨this.1, (List.append_nil _).symm ▸ this.2⟩
  | sendall d =>
    simp only [BSock.wstep, BSock.sendall]
    split
    next hb => exact ⟨fun hf => absurd (hb.symm.trans hf) nofun, by simp [BSock.written]⟩
    next hb =>
      have hq := hi (Bool.eq_false_iff.2 hb)
      exact ⟨fun _ => hq, by simp [BSock.written, hq, Sock.sendall]⟩
  | flush => exact ⟨fun _ => b.flush_spec.1, by simpa [BSock.wstep] using b.flush_spec.2.2.1⟩
  | setBuffer v =>
    cases v with
    | true => exact ⟨nofun, (List.append_nil _).symm⟩
    | false => exact ⟨fun _ => hd, (List.append_nil _).symm⟩

theorem BSock.wrun_spec : ∀ (ops : List WOp) (b : BSock), b.WInv → Disciplined b ops →
    (b.wrun ops).1.WInv ∧ (b.wrun ops).1.written = b.written ++ (b.wrun ops).2 := by
  intro ops
  induction ops with
  | nil => intro b hi _; simp [BSock.wrun, hi]
  | cons op ops ih =>
    intro b hi hd
    have ⟨h1, h2⟩ := b.wstep_spec op hi hd.1
    have ⟨h3, h4⟩ := ih (b.wstep op).1 h1 hd.2
    simp only [BSock.wrun]
    exact ⟨h3, by rw [h4, h2, List.append_assoc]⟩

/-- result of a pure parser over the whole byte stream ("the socket delivers everything at once") -/
inductive PRes (α : Type) where
  | ok (a : α) (rest : Bytes)
  | more                        -- the stream is too short to decide
  | fail (e : Exc)

def PRes.bind {α β : Type} (p : PRes α) (f : α → Bytes → PRes β) : PRes β :=
  match p with
  | .ok a rest => f a rest
  | .more => .more
  | .fail e => .fail e

def takeN (n : Nat) (S : Bytes) : PRes Bytes :=
  if S.length < n then .more else .ok (S.take n) (S.drop n)

def resP {α : Type} (r : Res α) (rest : Bytes) : PRes α :=
  match r with
  | .ok a => .ok a rest
  | .exc e => .fail e
  | _ => .more

def headerP (S : Bytes) : PRes Header :=
  (takeN 1 S).bind fun buf S1 =>
    match buf with
    | [] => .fail .indexError
    | b0 :: _ => (takeN (headerRest b0) S1).bind fun r2 S2 => resP (parseHeader (buf ++ r2)) S2

def recordP (cfg : RSCfg) (S : Bytes) : PRes (Header × Bytes) :=
  (headerP S).bind fun h S1 =>
    if h.length > cfg.recvRecordLimit + 1024 + 1024 then .fail .recordOverflow
    else if cfg.tls13record && h.length > cfg.recvRecordLimit + 256 then .fail .recordOverflow
    else (takeN h.length S1).bind fun b S2 => .ok (h, b) S2

theorem takeN_eq_ok_iff {n : Nat} {S a rest : Bytes} :
    takeN n S = .ok a rest ↔ n ≤ S.length ∧ a = S.take n ∧ rest = S.drop n := by
  unfold takeN
  split
  · exact ⟨nofun, fun h => by omega⟩
  · exact ⟨fun h => by cases h; exact ⟨by omega, rfl, rfl⟩, fun ⟨_, ha, hr⟩ => by rw [ha, hr]⟩

theorem PRes.bind_eq_ok {α β : Type} {p : PRes α} {g : α → Bytes → PRes β} {b : β} {rest : Bytes}
    (h : p.bind g = .ok b rest) : ∃ a r1, p = .ok a r1 ∧ g a r1 = .ok b rest := by
  cases p with
  | ok a r1 => exact ⟨a, r1, rfl, h⟩
  | more | fail => nomatch h

section
variable {σ α β : Type} [Dev σ] [LawfulDev σ]

/-- `o`, run from device state `s`, is the pure parser `P` applied to the byte stream of `s`, up to transport
    faults (EOF / socket error); `live`: it does return once the bytes `P` consumes are guaranteed to arrive.
    `shrinks` (a parser never returns more than it was given) is what lets `live` pass through `bind`. -/
structure Refines (o : Out σ α) (s : σ) (P : Bytes → PRes α) : Prop where
  shrinks : ∀ S a rest, P S = .ok a rest → rest.length ≤ S.length
  yields : AllYield o 0
  noFuel : o.res ≠ .fuelOut
  ok : ∀ a, o.res = .ok a → P (upstream s) = .ok a (upstream o.dev)
  exc : ∀ e, o.res = .exc e → e = .abruptClose ∨ e = .socketError ∨ P (upstream s) = .fail e
  live : ∀ [LiveDev σ] a rest, P (upstream s) = .ok a rest →
    (upstream s).length ≤ LiveDev.credit s + rest.length →
    o.res = .ok a ∧ LiveDev.credit s + rest.length ≤ LiveDev.credit o.dev + (upstream s).length

theorem sockRecvAll_refines (n : Nat) (s : σ) : Refines (sockRecvAll n s) s (takeN n) := by
  have ⟨h1, h2, h3, h4, h5⟩ := sockRecvAll_spec n s
  refine ⟨fun S a rest h => ?_, h1, h2, fun r hr => takeN_eq_ok_iff.2 (h3 r hr),
    fun e he => (h4 e he).imp_right .inl, fun a rest hp hc => ?_⟩
  · rw [(takeN_eq_ok_iff.1 h).2.2, List.length_drop]
    exact Nat.sub_le ..
  · obtain ⟨hl, rfl, rfl⟩ := takeN_eq_ok_iff.1 hp
    rw [List.length_drop] at hc ⊢
    have := h5 (by omega)
    exact ⟨this.1, by omega⟩

theorem Refines.pure (s : σ) {r : Res α} (hr : r ≠ .fuelOut) : Refines (⟨[], r, s⟩ : Out σ α) s (resP r) := by
  refine ⟨fun S a rest h => ?_, nofun, hr, fun _ (ha : r = _) => ha ▸ rfl,
    fun _ (he : r = _) => he ▸ .inr (.inr rfl), fun a rest hp _ => ?_⟩
  · cases r <;> cases h
    exact Nat.le_refl _
  · cases r <;> cases hp
    exact ⟨rfl, Nat.le_refl _⟩

theorem Refines.bind {o : Out σ α} {s : σ} {P : Bytes → PRes α} {f : α → σ → Out σ β}
    {G : α → Bytes → PRes β} (h : Refines o s P) (hf : ∀ a s', Refines (f a s') s' (G a)) :
    Refines (o.bind f) s (fun S => (P S).bind G) := by
  have sh : ∀ S b rest, (P S).bind G = .ok b rest →
      ∃ a r1, P S = .ok a r1 ∧ G a r1 = .ok b rest ∧ rest.length ≤ r1.length ∧ r1.length ≤ S.length := by
    intro S b rest hb
    have ⟨a, r1, hp, hg⟩ := PRes.bind_eq_ok hb
    exact ⟨a, r1, hp, hg, (hf a s).shrinks r1 b rest hg, h.shrinks S a r1 hp⟩
  -- with the bytes of the whole guaranteed to arrive, those of the first part are
  have lv : ∀ [LiveDev σ] b rest, (P (upstream s)).bind G = .ok b rest →
      (upstream s).length ≤ LiveDev.credit s + rest.length → ∃ a, o.res = .ok a := by
    intro _ b rest hb hc
    have ⟨a, r1, hp, _, _, _⟩ := sh _ b rest hb
    exact ⟨a, (h.live a r1 hp (by omega)).1⟩
  have hsh : ∀ S b rest, (P S).bind G = .ok b rest → rest.length ≤ S.length := fun S b rest hb =>
    have ⟨_, _, _, _, h1, h2⟩ := sh S b rest hb
    Nat.le_trans h1 h2
  unfold Out.bind
  cases hres : o.res with
  | ok a =>
    have g := hf a o.dev
    have hp := h.ok a hres
    refine ⟨hsh, fun y hy => (List.mem_append.1 hy).elim (h.yields y) (g.yields y), g.noFuel,
      fun b hb => ?_, fun e he => ?_, fun b rest hb hc => ?_⟩
    · show (P (upstream s)).bind G = _
      rw [hp]
      exact g.ok b hb
    · show _ ∨ _ ∨ (P (upstream s)).bind G = _
      rw [hp]
      exact g.exc e he
    · have hb : (P (upstream s)).bind G = .ok b rest := hb
      rw [hp] at hb
      have hlen := g.shrinks _ b rest hb
      have hcr := (h.live a _ hp (by omega)).2
      have h2 := g.live b rest hb (by omega)
      exact ⟨h2.1, by have := h2.2; dsimp only; omega⟩
  | exc e =>
    exact ⟨hsh, h.yields, nofun, nofun, fun e' he' =>
      Res.exc.inj he' ▸ (h.exc e hres).imp_right (.imp_right fun hp => show (P _).bind G = _ by rw [hp]; rfl),
      fun b rest hb hc => (lv b rest hb hc).elim fun _ h => nomatch hres.symm.trans h⟩
  | pending =>
    exact ⟨hsh, h.yields, nofun, nofun, nofun, fun b rest hb hc => (lv b rest hb hc).elim fun _ h => nomatch hres.symm.trans h⟩
  | fuelOut => exact absurd hres h.noFuel

theorem Refines.agree {σ' : Type} [Dev σ'] [LawfulDev σ'] {o : Out σ α} {o' : Out σ' α} {s : σ}
    {s' : σ'} {P : Bytes → PRes α} (h : Refines o s P) (h' : Refines o' s' P)
    (hs : upstream s = upstream s') :
    (∀ a b, o.res = .ok a → o'.res = .ok b → a = b ∧ upstream o.dev = upstream o'.dev) ∧
    (∀ a e, o.res = .ok a → o'.res = .exc e → e = .abruptClose ∨ e = .socketError) ∧
    (∀ e e', o.res = .exc e → o'.res = .exc e' →
      e = e' ∨ e = .abruptClose ∨ e = .socketError ∨ e' = .abruptClose ∨ e' = .socketError) := by
  have ok' := h'.ok
  have exc' := h'.exc
  rw [← hs] at ok' exc'
  refine ⟨fun a b ha hb => PRes.ok.inj ((h.ok a ha).symm.trans (ok' b hb)), fun a e ha he => ?_,
    fun e e' he he' => ?_⟩
  · rcases exc' e he with q | q | q
    · exact .inl q
    · exact .inr q
    · exact nomatch (h.ok a ha).symm.trans q
  · rcases h.exc e he with q | q | q
    · exact .inr (.inl q)
    · exact .inr (.inr (.inl q))
    rcases exc' e' he' with q' | q' | q'
    · exact .inr (.inr (.inr (.inl q')))
    · exact .inr (.inr (.inr (.inr q')))
    · exact .inl (PRes.fail.inj (q.symm.trans q'))

theorem parseHeader_ne_fuelOut (buf : Bytes) : parseHeader buf ≠ .fuelOut := by
  unfold parseHeader
  repeat' split
  all_goals nofun

theorem recvHeader_refines (s : σ) : Refines (recvHeader s) s headerP := by
  unfold recvHeader headerP
  apply (sockRecvAll_refines 1 s).bind
  intro buf s1
  cases buf with
  | nil => exact .pure _ nofun
  | cons b0 tl =>
    apply (sockRecvAll_refines _ _).bind
    intro r2 s2
    exact .pure _ (parseHeader_ne_fuelOut _)

theorem recordRecv_refines (cfg : RSCfg) (s : σ) : Refines (recordRecv cfg s) s (recordP cfg) := by
  unfold recordRecv recordP
  apply (recvHeader_refines s).bind
  intro h s1
  split
  · exact .pure _ nofun
  · split
    · exact .pure _ nofun
    · apply (sockRecvAll_refines _ _).bind
      intro b s2
      exact .pure _ nofun

end

def recvRecordNullP (cfg : RSCfg) (S : Bytes) : PRes Rec :=
  (recordP cfg S).bind fun hb S' =>
    resP (if hb.2.length > cfg.recvRecordLimit then .exc .recordOverflow
          else .ok { type := hb.1.type, ssl2 := hb.1.ssl2, data := hb.2 }) S'

/-- what `_getNextRecord` delivers first, as a function of the defragmenter and the byte stream -/
def nextMsgP (cfg : RSCfg) (tls13 : Bool) : Nat → Defrag → Bytes → PRes (GOut × Defrag)
  | 0, _, _ => .more
  | fuel + 1, d, S =>
    match d.getMessage with
    | .error e => .fail e
    | .ok (some (t, m), d') => .ok (.msg t m, d') S
    | .ok (none, d') =>
      (recvRecordNullP cfg S).bind fun r S' =>
        match fromSocketCheck r with
        | .error e => .fail e
        | .ok r =>
          if r.type == 23 || (tls13 && r.type == 20) || r.type == 24 || r.ssl2 then
            .ok (.record r, d') S'
          else
            match d'.addData r.type r.data with
            | .error e => .fail e
            | .ok d'' => nextMsgP cfg tls13 fuel d'' S'

def alertPeekP (cfg : RSCfg) (tls13 : Bool) (fuel : Nat) (d : Defrag) (S : Bytes) : PRes PeekRes :=
  (nextMsgP cfg tls13 fuel d S).bind fun gd S' => resP (peekResult gd.1) S'

section
variable {σ : Type} [Dev σ] [LawfulDev σ]

theorem recvRecordNull_refines (cfg : RSCfg) (s : σ) :
    Refines (recvRecordNull cfg s) s (recvRecordNullP cfg) := by
  unfold recvRecordNull recvRecordNullP
  apply (recordRecv_refines cfg s).bind
  intro hb s'
  split <;> exact .pure _ nofun

theorem nextMsgDev_refines (cfg : RSCfg) (tls13 : Bool) (fuel : Nat) (d : Defrag) (s : σ) :
    Refines (nextMsgDev cfg tls13 fuel d s) s (nextMsgP cfg tls13 fuel d) := by
  induction fuel generalizing d s with
  | zero => exact .pure s (r := .pending) nofun
  | succ fuel ih =>
    show Refines _ s fun S => nextMsgP cfg tls13 (fuel + 1) d S
    simp only [nextMsgDev, nextMsgP]
    cases hg : d.getMessage with
    | error e => exact .pure s nofun
    | ok v =>
      obtain ⟨_ | ⟨t, m⟩, d'⟩ := v
      · apply (recvRecordNull_refines cfg s).bind
        intro r s'
        cases hc : fromSocketCheck r with
        | error e => exact .pure _ nofun
        | ok r' =>
          dsimp only
          split
          · exact .pure _ nofun
          · cases ha : d'.addData r'.type r'.data with
            | error e => exact .pure _ nofun
            | ok d'' => exact ih d'' _
      · exact .pure s nofun

theorem alertPeek_refines (cfg : RSCfg) (tls13 : Bool) (fuel : Nat) (d : Defrag) (s : σ) :
    Refines (alertPeek cfg tls13 fuel d s) s (alertPeekP cfg tls13 fuel d) := by
  unfold alertPeek alertPeekP
  apply (nextMsgDev_refines cfg tls13 fuel d s).bind
  intro gd s'
  exact .pure _ (by fun_cases peekResult gd.1 <;> nofun)

end

end Tls.IO
