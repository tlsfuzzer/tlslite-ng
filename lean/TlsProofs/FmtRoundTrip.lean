import TlsProofs.FmtInv
/-
  The generic codec theorems, by induction on the format description: `encode_spec` says everything that follows
  from `encode f t v = some b` (the length of `b`, and that `decode` reads `b` back), `encode_of_decode` everything
  that follows from `decode f t b = .ok (v, r)`; for a self-delimiting format the two add up to `decode_ok_iff`, and
  `decode` depends only on the prefix it consumes (`decode_extend`).
-/
namespace Tls.Fmt

theorem encodeMany_length (e : Val → Option Bytes) (l : Val → Nat)
    (h1 : ∀ h a, e h = some a → a.length = l h) :
    ∀ (v : Val) (b : Bytes), encodeMany e v = some b → b.length = encLenMany l v := by
  intro v
  induction v with
  | nil => intro b h; cases h; rfl
  | cons hd tl _ iht =>
    intro b h
    obtain ⟨a, ha, h⟩ := Option.bind_eq_some_iff.mp h
    obtain ⟨c, hc, h⟩ := Option.bind_eq_some_iff.mp h
    cases h
    rw [List.length_append, h1 _ _ ha, iht _ hc]; rfl
  | _ => intro b h; exact nomatch h

theorem wf_false_true (f : Fmt) : wf false f = true → wf true f = true := by
  induction f with
  | pair f g ihf ihg =>
    simp only [wf, Bool.and_eq_true]; exact fun ⟨h1, h2⟩ => ⟨h1, ihg h2⟩
  | tagged n f ih => simp only [wf]; exact ih
  | caseOf k f g ihf ihg =>
    simp only [wf, Bool.and_eq_true]; exact fun ⟨h1, h2⟩ => ⟨ihf h1, ihg h2⟩
  | _ => simp [wf]

theorem decodeMany_encodeMany (e : Val → Option Bytes) (d : Bytes → Except Err (Val × Bytes))
    (h1 : ∀ h a r, e h = some a → d (a ++ r) = .ok (h, r))
    (h2 : ∀ h a, e h = some a → 0 < a.length) :
    ∀ (v : Val) (b : Bytes) (fuel : Nat), encodeMany e v = some b → b.length ≤ fuel →
      decodeMany d fuel b = .ok v := by
  intro v
  induction v with
  | nil => intro b fuel h _; cases h; exact decodeMany_nil
  | cons hd tl _ iht =>
    intro b fuel h hfuel
    obtain ⟨a, ha, h⟩ := Option.bind_eq_some_iff.mp h
    obtain ⟨c, hc, h⟩ := Option.bind_eq_some_iff.mp h
    cases h
    have hpos := h2 _ _ ha
    rw [List.length_append] at hfuel
    -- a non-empty item: one unit of fuel is there for it, the rest covers the tail
    cases a with
    | nil => exact absurd hpos (Nat.lt_irrefl _)
    | cons x xs =>
      cases fuel with
      | zero => simp at hfuel
      | succ fuel =>
        rw [List.cons_append, decodeMany_cons, ← List.cons_append, h1 hd (x :: xs) c ha]
        dsimp only [bind, Except.bind]
        rw [iht c fuel hc (by omega)]; rfl
  | _ => intro b fuel h _; exact nomatch h

/-- `tl = false`: a self-delimiting format, any bytes may follow; `tl = true`: a tail format, followed by the end of
    its region. -/
theorem encode_spec (f : Fmt) (t : Nat) (v : Val) (b : Bytes) (h : encode f t v = some b) :
    b.length = encLen f t v ∧ minLen f ≤ b.length ∧
    ∀ (tl : Bool) (r : Bytes), wf tl f = true → (tl = true → r = []) → decode f t (b ++ r) = .ok (v, r) := by
  induction f generalizing t v b with
  | unit =>
    cases v with
    | unit => cases h; exact ⟨rfl, Nat.le_refl _, fun _ _ _ _ => rfl⟩
    | _ => exact nomatch h
  | uint n =>
    cases v with
    | nat x =>
      obtain ⟨hx, h⟩ := Option.ite_none_right_eq_some.mp h
      cases h
      have hl := length_beEncode n x
      refine ⟨hl, Nat.le_of_eq hl.symm, fun _ r _ _ => ?_⟩
      obtain ⟨h1, h2, h3⟩ := beField n x r hx
      rw [decode_uint_eq, if_neg h1, h2, h3]
    | _ => exact nomatch h
  | bytes n =>
    cases v with
    | bytes c =>
      obtain ⟨hc, h⟩ := Option.ite_none_right_eq_some.mp h
      cases h
      refine ⟨hc, Nat.le_of_eq hc.symm, fun _ r _ _ => ?_⟩
      rw [decode_bytes_eq, if_neg (by rw [List.length_append]; omega), List.take_left' hc,
        List.drop_left' hc]
    | _ => exact nomatch h
  | rest =>
    cases v with
    | bytes c =>
      cases h
      refine ⟨rfl, Nat.zero_le _, fun tl r hw hr => ?_⟩
      rw [hr hw, List.append_nil]; rfl
    | _ => exact nomatch h
  | pair f g ihf ihg =>
    cases v with
    | pair v1 v2 =>
      obtain ⟨a, ha, h⟩ := Option.bind_eq_some_iff.mp (encode_pair_eq ▸ h)
      obtain ⟨c, hc, h⟩ := Option.bind_eq_some_iff.mp h
      cases h
      obtain ⟨l1, m1, d1⟩ := ihf _ _ _ ha
      obtain ⟨l2, m2, d2⟩ := ihg _ _ _ hc
      rw [List.length_append]
      refine ⟨by rw [l1, l2]; rfl, Nat.add_le_add m1 m2, fun tl r hw hr => ?_⟩
      obtain ⟨hw1, hw2⟩ := Bool.and_eq_true_iff.mp hw
      rw [decode_pair_eq, List.append_assoc, d1 false _ hw1 nofun]
      dsimp only [bind, Except.bind]
      rw [d2 tl r hw2 hr]; rfl
    | _ => exact nomatch h
  | lenPref ll f ih =>
    obtain ⟨c, hc, h⟩ := Option.bind_eq_some_iff.mp (encode_lenPref_eq ▸ h)
    obtain ⟨hl, h⟩ := Option.ite_none_right_eq_some.mp h
    cases h
    obtain ⟨l, _, d⟩ := ih _ _ _ hc
    rw [List.length_append, length_beEncode]
    refine ⟨by rw [l]; rfl, Nat.le_add_right _ _, fun _ r hw _ => ?_⟩
    have := d true [] hw (fun _ => rfl)
    rw [List.append_nil] at this
    rw [decode_lenPref_append ll f t c r hl, this]
  | many f ih =>
    rw [encode_many_eq] at h
    refine ⟨encodeMany_length _ _ (fun hd a ha => (ih t hd a ha).1) v b h, Nat.zero_le _,
      fun tl r hw hr => ?_⟩
    simp only [wf, Bool.and_eq_true, decide_eq_true_eq] at hw
    obtain ⟨⟨htl, hwf⟩, hmin⟩ := hw
    rw [hr htl, List.append_nil, decode_many_eq,
      decodeMany_encodeMany (encode f t) (decode f t) (fun hd a r' ha => (ih t hd a ha).2.2 false r' hwf nofun)
        (fun hd a ha => Nat.lt_of_lt_of_le hmin (ih t hd a ha).2.1) v b b.length h (Nat.le_refl _)]
    rfl
  | optTail f ih =>
    cases v with
    | none =>
      cases h
      refine ⟨rfl, Nat.zero_le _, fun tl r hw hr => ?_⟩
      simp only [wf, Bool.and_eq_true] at hw
      rw [hr hw.1.1]; rfl
    | some w =>
      obtain ⟨l, m, d⟩ := ih _ _ _ h
      refine ⟨l, Nat.zero_le _, fun tl r hw hr => ?_⟩
      simp only [wf, Bool.and_eq_true, decide_eq_true_eq] at hw
      obtain ⟨⟨htl, hwf⟩, hmin⟩ := hw
      have := d true [] hwf (fun _ => rfl)
      rw [List.append_nil] at this
      -- the body is not empty, so `decode` takes the second arm
      cases b with
      | nil => exact absurd (Nat.lt_of_lt_of_le hmin m) (Nat.lt_irrefl _)
      | cons x xs => rw [hr htl, List.append_nil, decode_optTail_cons, this]; rfl
    | _ => exact nomatch h
  | tagged n f ih =>
    cases v with
    | pair a w =>
      cases a with
      | nat x =>
        obtain ⟨hx, h⟩ := Option.ite_none_right_eq_some.mp (encode_tagged_eq ▸ h)
        obtain ⟨c, hc, h⟩ := Option.bind_eq_some_iff.mp h
        cases h
        obtain ⟨l, m, d⟩ := ih _ _ _ hc
        rw [List.length_append, length_beEncode]
        refine ⟨by rw [l]; rfl, Nat.add_le_add_left m n, fun tl r hw hr => ?_⟩
        rw [List.append_assoc, decode_tagged_append n f t x _ hx, d tl r hw hr]; rfl
      | _ => exact nomatch h
    | _ => exact nomatch h
  | caseOf k f g ihf ihg =>
    rw [encode_caseOf_eq] at h
    by_cases hk : t = k
    · rw [if_pos hk] at h
      obtain ⟨l, m, d⟩ := ihf _ _ _ h
      refine ⟨l.trans (if_pos hk).symm, Nat.le_trans (Nat.min_le_left _ _) m, fun tl r hw hr => ?_⟩
      rw [decode_caseOf_eq, if_pos hk]; exact d tl r (Bool.and_eq_true_iff.mp hw).1 hr
    · rw [if_neg hk] at h
      obtain ⟨l, m, d⟩ := ihg _ _ _ h
      refine ⟨l.trans (if_neg hk).symm, Nat.le_trans (Nat.min_le_right _ _) m, fun tl r hw hr => ?_⟩
      rw [decode_caseOf_eq, if_neg hk]; exact d tl r (Bool.and_eq_true_iff.mp hw).2 hr
  | fail => exact nomatch h

theorem encode_length (f : Fmt) (t : Nat) (v : Val) (b : Bytes) (h : encode f t v = some b) :
    b.length = encLen f t v :=
  (encode_spec f t v b h).1

theorem encode_minLen (f : Fmt) (t : Nat) (v : Val) (b : Bytes) (h : encode f t v = some b) :
    minLen f ≤ b.length :=
  (encode_spec f t v b h).2.1

theorem decode_of_encode (f : Fmt) (tl : Bool) (t : Nat) (v : Val) (b r : Bytes)
    (hw : wf tl f = true) (h : encode f t v = some b) (hr : tl = true → r = []) :
    decode f t (b ++ r) = .ok (v, r) :=
  (encode_spec f t v b h).2.2 tl r hw hr

theorem encodeMany_decodeMany (e : Val → Option Bytes) (d : Bytes → Except Err (Val × Bytes))
    (h1 : ∀ x v r, d x = .ok (v, r) → ∃ a, e v = some a ∧ a ++ r = x) :
    ∀ (fuel : Nat) (b : Bytes) (v : Val), decodeMany d fuel b = .ok v → encodeMany e v = some b := by
  intro fuel
  induction fuel with
  | zero =>
    intro b v h
    cases b with
    | nil => cases h; rfl
    | cons x xs => cases h
  | succ fuel ih =>
    intro b v h
    cases b with
    | nil => cases h; rfl
    | cons x xs =>
      obtain ⟨⟨hd, r⟩, hdx, h⟩ := bind_eq_ok (decodeMany_cons ▸ h)
      obtain ⟨tl, hm, h⟩ := bind_eq_ok h
      cases h
      obtain ⟨a, ha, hax⟩ := h1 _ _ _ hdx
      rw [encodeMany_cons, ha, ih r tl hm, ← hax]; rfl

theorem encode_of_decode (f : Fmt) (t : Nat) (b : Bytes) (v : Val) (r : Bytes)
    (h : decode f t b = .ok (v, r)) : ∃ e, encode f t v = some e ∧ e ++ r = b := by
  induction f generalizing t b v r with
  | unit => cases h; exact ⟨[], rfl, rfl⟩
  | uint n =>
    obtain ⟨hl, h⟩ := throw_or_ok_eq_ok.mp (decode_uint_eq n t b ▸ h)
    cases h
    have hl := Nat.not_lt.mp hl
    exact ⟨b.take n, (if_pos (beDecode_take_lt b n hl)).trans (congrArg some (beEncode_beDecode_take b n hl)),
      List.take_append_drop n b⟩
  | bytes n =>
    obtain ⟨hl, h⟩ := throw_or_ok_eq_ok.mp (decode_bytes_eq n t b ▸ h)
    cases h
    exact ⟨b.take n, if_pos (List.length_take_of_le (Nat.not_lt.mp hl)), List.take_append_drop n b⟩
  | rest => cases h; exact ⟨b, rfl, List.append_nil b⟩
  | pair f g ihf ihg =>
    obtain ⟨⟨v1, r1⟩, h1, h⟩ := bind_eq_ok (decode_pair_eq ▸ h)
    obtain ⟨⟨v2, r2⟩, h2, h⟩ := bind_eq_ok h
    cases h
    obtain ⟨a, ha, rfl⟩ := ihf _ _ _ _ h1
    obtain ⟨c, hc, rfl⟩ := ihg _ _ _ _ h2
    exact ⟨a ++ c, by rw [encode_pair_eq, ha, hc]; rfl, List.append_assoc a c _⟩
  | lenPref ll f ih =>
    obtain ⟨body, rfl, hl, hd⟩ := decode_lenPref_exact h
    obtain ⟨c, hc, hcb⟩ := ih _ _ _ _ hd
    rw [List.append_nil] at hcb
    subst hcb
    exact ⟨_, by rw [encode_lenPref_eq, hc]; exact if_pos hl, rfl⟩
  | many f ih =>
    obtain ⟨vs, hm, h⟩ := bind_eq_ok (decode_many_eq ▸ h)
    cases h
    exact ⟨b, encodeMany_decodeMany (encode f t) (decode f t) (ih t) _ _ _ hm, List.append_nil b⟩
  | optTail f ih =>
    cases b with
    | nil => cases h; exact ⟨[], rfl, rfl⟩
    | cons x xs =>
      obtain ⟨⟨w, r'⟩, hd, h⟩ := bind_eq_ok (decode_optTail_cons ▸ h)
      cases h
      exact ih _ _ _ _ hd
  | tagged n f ih =>
    rw [decode_tagged_eq] at h
    obtain ⟨hl, h⟩ := ite_eq_right h nofun
    obtain ⟨⟨w, r'⟩, hd, h⟩ := bind_eq_ok h
    cases h
    have hl := Nat.not_lt.mp hl
    obtain ⟨c, hc, hcb⟩ := ih _ _ _ _ hd
    refine ⟨_, by rw [encode_tagged_eq, if_pos (beDecode_take_lt b n hl), hc]; rfl, ?_⟩
    rw [beEncode_beDecode_take b n hl, List.append_assoc, hcb, List.take_append_drop]
  | caseOf k f g ihf ihg =>
    rw [decode_caseOf_eq] at h
    rw [encode_caseOf_eq]
    by_cases hk : t = k
    · rw [if_pos hk] at h ⊢; exact ihf _ _ _ _ h
    · rw [if_neg hk] at h ⊢; exact ihg _ _ _ _ h
  | fail => cases h

theorem decode_ok_iff (f : Fmt) (hw : wf false f = true) (t : Nat) (b : Bytes) (v : Val) (r : Bytes) :
    decode f t b = .ok (v, r) ↔ ∃ e, encode f t v = some e ∧ e ++ r = b :=
  ⟨encode_of_decode f t b v r, fun ⟨e, he, hb⟩ => hb ▸ decode_of_encode f false t v e r hw he nofun⟩

theorem decode_extend (f : Fmt) (hw : wf false f = true) (t : Nat) (b s : Bytes) (v : Val) (r : Bytes)
    (h : decode f t b = .ok (v, r)) : decode f t (b ++ s) = .ok (v, r ++ s) := by
  obtain ⟨e, he, rfl⟩ := (decode_ok_iff f hw t b v r).mp h
  exact (decode_ok_iff f hw t _ v _).mpr ⟨e, he, (List.append_assoc e r s).symm⟩

end Tls.Fmt
