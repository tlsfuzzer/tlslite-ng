import TlsModel.Ssl2
import TlsProofs.FmtInv
/-
  The SSLv2-framed structures of TlsModel/Ssl2.lean.  Record header: what the masks of `rh2Decode` make of the first
  byte is decided for all 128 / 64 values of the length's high part (`firstByte_short`, `firstByte_long`), and
  `join_len` puts the length together again.  `dec3` and `decCiphers` as equations on an input whose length bytes are
  spelt out (`dec3_cons`, `decCiphers_append`); the round trips follow from these.
-/
namespace Tls.Ssl2
open Tls.Fmt

/-- The first byte of a record header as `rh2Encode` forms it (two-byte flag `|||` escape flag `|||` high bits of
    the length) under the masks of `rh2Decode`; `f` is what `simp only` leaves of it.  Two-byte header: -/
theorem firstByte_short : ∀ h : Nat, h < 128 →
    let f := (0x80 ||| 0 ||| h) % 256
    f &&& 0x80 ≠ 0 ∧ f &&& 0x7f = h := by decide +kernel

/-- three-byte header, without and with the security escape -/
theorem firstByte_long : ∀ h : Nat, h < 64 →
    (let f := (0 ||| 0 ||| h) % 256
     f &&& 0x80 = 0 ∧ f &&& 0x3f = h ∧ f &&& 0x40 = 0) ∧
    (let f := (0 ||| 0x40 ||| h) % 256
     f &&& 0x80 = 0 ∧ f &&& 0x3f = h ∧ f &&& 0x40 ≠ 0) := by decide +kernel

theorem join_len (l : Nat) : ((l >>> 8) <<< 8) ||| ((l &&& 0xff) % 256) = l := by
  have h1 : l &&& 0xff = l % 256 := Nat.and_two_pow_sub_one_eq_mod l 8
  rw [h1, Nat.shiftRight_eq_div_pow, Nat.mod_mod]
  rw [← Nat.shiftLeft_add_eq_or_of_lt (by omega : l % 256 < 2 ^ 8), Nat.shiftLeft_eq]
  omega

theorem rh2Encode_short (l : Nat) :
    rh2Encode l 0 false =
      if l < 0x8000 then some [UInt8.ofNat (0x80 ||| 0 ||| l >>> 8), UInt8.ofNat (l &&& 0xff)] else none := by
  by_cases hl : l < 0x8000 <;> simp [rh2Encode, hl]

theorem rh2Encode_long (l p : Nat) (e : Bool) (hs : ¬(p = 0 ∧ e = false)) :
    rh2Encode l p e =
      if l < 0x4000 ∧ p < 256 then
        some [UInt8.ofNat (0 ||| (if e then 0x40 else 0) ||| l >>> 8), UInt8.ofNat (l &&& 0xff), UInt8.ofNat p]
      else none := by
  have hs' : (p == 0 && !e) = false := by simpa using hs
  by_cases hl : l < 0x4000 <;> by_cases hp : p < 256 <;> simp [rh2Encode, hs', hl, hp]

theorem rh2_decode_encode (l p : Nat) (e : Bool) (b r : Bytes) (h : rh2Encode l p e = some b) :
    rh2Decode (b ++ r) = .ok ((l, p, e), r) := by
  by_cases hs : p = 0 ∧ e = false
  · obtain ⟨rfl, rfl⟩ := hs
    obtain ⟨hl, h⟩ := Option.ite_none_right_eq_some.mp (rh2Encode_short l ▸ h)
    cases h
    obtain ⟨f1, f2⟩ := firstByte_short (l >>> 8) (by rw [Nat.shiftRight_eq_div_pow]; omega)
    simp only [rh2Decode, List.cons_append, List.nil_append, UInt8.toNat_ofNat', f1, ne_eq, not_false_eq_true,
      if_true, f2]
    rw [join_len]
  · obtain ⟨⟨hl, hp⟩, h⟩ := Option.ite_none_right_eq_some.mp (rh2Encode_long l p e hs ▸ h)
    cases h
    obtain ⟨⟨a1, a2, a3⟩, ⟨b1, b2, b3⟩⟩ := firstByte_long (l >>> 8) (by rw [Nat.shiftRight_eq_div_pow]; omega)
    have hpm : p % 256 = p := Nat.mod_eq_of_lt hp
    cases e with
    | false =>
      simp only [rh2Decode, List.cons_append, List.nil_append, UInt8.toNat_ofNat', Bool.false_eq_true, if_false,
        a1, ne_eq, not_true_eq_false, a2, a3, decide_false, hpm]
      rw [join_len]
    | true =>
      simp only [rh2Decode, List.cons_append, List.nil_append, UInt8.toNat_ofNat', if_true, b1, ne_eq,
        not_true_eq_false, if_false, b2, hpm, b3, not_false_eq_true, decide_true]
      rw [join_len]

theorem dec3_cons (x1 y1 x2 y2 x3 y3 : UInt8) (body : Bytes) :
    dec3 (x1 :: y1 :: x2 :: y2 :: x3 :: y3 :: body) =
      if body.length < beDecode [x1, y1] + beDecode [x2, y2] + beDecode [x3, y3] then .error .truncated
      else .ok ((body.take (beDecode [x1, y1]), (body.drop (beDecode [x1, y1])).take (beDecode [x2, y2]),
        (body.drop (beDecode [x1, y1] + beDecode [x2, y2])).take (beDecode [x3, y3])),
        body.drop (beDecode [x1, y1] + beDecode [x2, y2] + beDecode [x3, y3])) := by
  simp only [dec3, shorter, List.take_succ_cons, List.take_zero, List.drop_succ_cons, List.drop_zero,
    shorter_eq, decide_eq_true_eq, if_false, Nat.not_lt_zero]

theorem dec3_append (x1 y1 x2 y2 x3 y3 : UInt8) (d1 d2 d3 r : Bytes)
    (e1 : beDecode [x1, y1] = d1.length) (e2 : beDecode [x2, y2] = d2.length)
    (e3 : beDecode [x3, y3] = d3.length) :
    dec3 (x1 :: y1 :: x2 :: y2 :: x3 :: y3 :: (d1 ++ (d2 ++ (d3 ++ r)))) = .ok ((d1, d2, d3), r) := by
  rw [dec3_cons, e1, e2, e3, if_neg (by simp only [List.length_append]; omega)]
  simp only [← List.drop_drop, List.drop_left, List.take_left]

theorem dec3_enc3 (d1 d2 d3 b r : Bytes) (h : enc3 d1 d2 d3 = some b) :
    dec3 (b ++ r) = .ok ((d1, d2, d3), r) := by
  unfold enc3 at h
  split at h
  · obtain ⟨h1, h2, h3⟩ := ‹_ ∧ _ ∧ _›
    cases h
    simp only [List.append_assoc]
    exact dec3_append _ _ _ _ _ _ d1 d2 d3 r (beDecode_beEncode_of_lt 2 _ h1) (beDecode_beEncode_of_lt 2 _ h2)
      (beDecode_beEncode_of_lt 2 _ h3)
  · cases h

theorem decCiphers_append (fuel x : Nat) (t : Bytes) :
    decCiphers (fuel + 1) (beEncode 3 x ++ t) =
      match decCiphers fuel t with
      | .error e => .error e
      | .ok v => .ok (.cons (.nat (beDecode (beEncode 3 x))) v) := by
  show decCiphers (fuel + 1) (_ :: _ :: _ :: t) = _
  simp only [decCiphers, shorter, List.drop_succ_cons, List.drop_zero, List.take_succ_cons,
    List.take_zero, Bool.false_eq_true, if_false]
  rfl

theorem decCiphers_encCiphers : ∀ (v : Val) (b : Bytes) (fuel : Nat),
    encCiphers v = some b → b.length ≤ fuel → decCiphers fuel b = .ok v := by
  intro v
  induction v with
  | nil =>
    intro b fuel h _
    cases h
    cases fuel <;> rfl
  | cons hd tl _ iht =>
    intro b fuel h hf
    cases hd with
    | nat x =>
      simp only [encCiphers] at h
      split at h
      · obtain ⟨t, ht, rfl⟩ := Option.map_eq_some_iff.mp h
        rw [List.length_append, length_beEncode] at hf
        cases fuel with
        | zero => omega
        | succ fuel =>
          rw [decCiphers_append, iht t fuel ht (by omega), beDecode_beEncode_of_lt 3 x ‹_›]
      · cases h
    | _ => exact nomatch h
  | _ => intro b fuel h _; exact nomatch h

theorem u8_some {x : Nat} {b : Bytes} (h : u8 x = some b) : x < 256 ∧ b = [UInt8.ofNat x] := by
  unfold u8 at h
  by_cases hx : x < 256
  · simp [hx] at h; exact ⟨hx, h.symm⟩
  · simp [hx] at h

end Tls.Ssl2
