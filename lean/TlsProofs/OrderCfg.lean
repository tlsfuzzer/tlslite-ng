import TlsModel.Order
/-
  C06: the valid configurations as explicit lists by role and version family (`cfgsOf`: exactly the valid ones,
  `mem_cfgsOf` and `all_cfgsOf`), and the representative `Cfg.core` of a configuration with the list `coreCfgs` of the
  valid representatives (`core_mem_coreCfgs`), on which OrderGen evaluates the regenerated flows.
-/
namespace Tls.Order

def bools : List Bool := [false, true]

/-- TLS 1.3 configurations (tickets/NPN do not exist there) -/
def raw13 (role : Role) : List Cfg :=
  [Kx.dhe, Kx.ecdhe, Kx.psk].flatMap fun kx =>
  bools.flatMap fun reqCert => bools.flatMap fun clientCert => bools.flatMap fun hrr =>
  [Resume.none, Resume.ticket].flatMap fun resume =>
  bools.flatMap fun compCert => bools.flatMap fun hb => bools.flatMap fun compat =>
  bools.map fun keypair =>
  { role, ver := .tls13, kx, reqCert, clientCert, tickets := false, npn := false, hrr, resume,
    compCert, hb, compat, keypair }

/-- SSLv3 / TLS 1.0–1.2 configurations (no HRR, no compressed certificates, no compat mode) -/
def raw12 (role : Role) (ver : Ver) : List Cfg :=
  [Kx.rsa, Kx.dhe, Kx.ecdhe, Kx.srp, Kx.srpCert, Kx.anon].flatMap fun kx =>
  bools.flatMap fun reqCert => bools.flatMap fun clientCert => bools.flatMap fun tickets =>
  bools.flatMap fun npn =>
  [Resume.none, Resume.sessionId, Resume.ticket].flatMap fun resume =>
  bools.map fun hb =>
  { role, ver, kx, reqCert, clientCert, tickets, npn, hrr := false, resume, compCert := false, hb,
    compat := false, keypair := false }

def cfgsOf (role : Role) (ver : Ver) : List Cfg :=
  (match ver with
   | .tls13 => raw13 role
   | v => raw12 role v).filter Cfg.valid

theorem mem_bools (b : Bool) : b ∈ bools := by cases b <;> simp [bools]

/-- `raw13` with `hb`, `compat` and `keypair` drawn from `bs` -/
def raw13On (bs : List Bool) (role : Role) : List Cfg :=
  [Kx.dhe, Kx.ecdhe, Kx.psk].flatMap fun kx =>
  bools.flatMap fun reqCert => bools.flatMap fun clientCert => bools.flatMap fun hrr =>
  [Resume.none, Resume.ticket].flatMap fun resume =>
  bools.flatMap fun compCert => bs.flatMap fun hb => bs.flatMap fun compat =>
  bs.map fun keypair =>
  { role, ver := .tls13, kx, reqCert, clientCert, tickets := false, npn := false, hrr, resume,
    compCert, hb, compat, keypair }

/-- `raw12` with `hb` drawn from `bs` -/
def raw12On (bs : List Bool) (role : Role) (ver : Ver) : List Cfg :=
  [Kx.rsa, Kx.dhe, Kx.ecdhe, Kx.srp, Kx.srpCert, Kx.anon].flatMap fun kx =>
  bools.flatMap fun reqCert => bools.flatMap fun clientCert => bools.flatMap fun tickets =>
  bools.flatMap fun npn =>
  [Resume.none, Resume.sessionId, Resume.ticket].flatMap fun resume =>
  bs.map fun hb =>
  { role, ver, kx, reqCert, clientCert, tickets, npn, hrr := false, resume, compCert := false, hb,
    compat := false, keypair := false }

def cfgsOn (bs : List Bool) (role : Role) (ver : Ver) : List Cfg :=
  (match ver with
   | .tls13 => raw13On bs role
   | v => raw12On bs role v).filter Cfg.valid

theorem mem_cfgsOn {bs : List Bool} (c : Cfg) (h : c.valid = true)
    (hb : c.hb ∈ bs) (hc : c.compat ∈ bs) (hk : c.keypair ∈ bs) : c ∈ cfgsOn bs c.role c.ver := by
  obtain ⟨role, ver, kx, reqCert, clientCert, tickets, npn, hrr, resume, compCert, hb, compat, keypair⟩ := c
  refine List.mem_filter.mpr ⟨?_, h⟩
  cases ver
  case tls13 =>
    simp [Cfg.valid, Cfg.isTls13] at h
    simp only [raw13On, List.mem_flatMap, List.mem_map]
    refine ⟨kx, ?_, reqCert, mem_bools _, clientCert, mem_bools _, hrr, mem_bools _,
      resume, ?_, compCert, mem_bools _, _, hb, _, hc, _, hk, ?_⟩
    · simpa [or_assoc] using h.1.1.1.1.1.1
    · cases resume <;> simp_all
    · simp [h]
  all_goals
    simp [Cfg.valid, Cfg.isTls13] at h
    simp only [raw12On, List.mem_flatMap, List.mem_map]
    refine ⟨kx, ?_, reqCert, mem_bools _, clientCert, mem_bools _,
      tickets, mem_bools _, npn, mem_bools _, resume, ?_, _, hb, ?_⟩
    · cases kx <;> simp_all
    · cases resume <;> simp
    · simp [h]

theorem cfgsOf_eq_cfgsOn : cfgsOf = cfgsOn bools := rfl

theorem mem_cfgsOf (c : Cfg) (h : c.valid = true) : c ∈ cfgsOf c.role c.ver :=
  cfgsOf_eq_cfgsOn ▸ mem_cfgsOn c h (mem_bools _) (mem_bools _) (mem_bools _)

theorem all_cfgsOf {p : Cfg → Bool} (h : ∀ c, c.valid = true → p c = true) (role : Role) (ver : Ver) :
    (cfgsOf role ver).all p = true :=
  List.all_eq_true.mpr fun c hc => h c (List.mem_filter.mp hc).2

/-- A representative of the configurations that neither the grammar nor the evaluator of the regenerated handshake
    flows (`Gen.runToks`) can tell from `c`: neither reads `hb`, `compat` or `keypair`, and ECDHE suites answer every
    test like DHE suites (`Gen.flowsOk_core`). -/
def Cfg.core (c : Cfg) : Cfg :=
  { c with kx := if c.kx == .ecdhe then .dhe else c.kx, hb := false, compat := false, keypair := false }

theorem Cfg.core_valid (c : Cfg) (h : c.valid = true) : c.core.valid = true := by
  simp only [Cfg.valid, Cfg.core, Cfg.isTls13, Cfg.pskMode, Cfg.resumed, Cfg.certReqKx] at h ⊢
  grind

def coreCfgs (role : Role) (ver : Ver) : List Cfg := (cfgsOn [false] role ver).filter (·.kx != .ecdhe)

theorem core_mem_coreCfgs (c : Cfg) (h : c.valid = true) : c.core ∈ coreCfgs c.role c.ver :=
  List.mem_filter.mpr
    ⟨mem_cfgsOn c.core (c.core_valid h) (List.mem_singleton_self _) (List.mem_singleton_self _)
      (List.mem_singleton_self _), by rcases c with ⟨_, _, _|_|_|_|_|_|_⟩ <;> rfl⟩

end Tls.Order
