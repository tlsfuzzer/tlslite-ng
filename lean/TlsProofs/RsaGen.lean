import TlsProofs.RsaDecrypt
import TlsProofs.PyRt
/-
  Link between the Python-runtime model `Tls.PyE` (TlsModel/PyExc.lean) and the hand-written model
  of RSAKey.decrypt (TlsModel/RsaDecrypt.lean).  Nothing here mentions the generated module; the
  equalities `Gen.f = model` are in Props/C11.lean.  The projections of `selfOf`, `liftR` and `PyErr.toE` are
  `pyrt` rules (tagged at the end of this file).
-/
namespace Tls.RsaDec
open Tls Tls.CT Tls.Py

/-- `cache` is the `_key_hash` attribute -/
def selfOf (K : Key) (P : Prims) (cache : Option Bytes) : PyE.RsaSelf :=
  { n := (K.n : Int), d := (K.d : Int), keyType := "rsa", hasPrivateKey := true, keyHash := cache,
    sha256 := P.sha256, hmac := P.hmac, privOp := fun x => (P.privInt x.toNat : Int) }

/-- `.spin`, the hand model's `while` of `_dec_prf` that does not end (TlsModel/RsaDecrypt.lean), is the runtime model's
    exhausted fuel: hence `outLen / 8 ≤ fuel` in `gen_dec_prf_eq` of Props/C11.lean, which `decPrf_fuel` meets. -/
def PyErr.toE : PyErr → PyE.Err
  | .stopIteration => .stopIteration
  | .valueError => .valueError
  | .spin => .fuel

def liftR {α : Type} : Except PyErr α → PyE.M α
  | .ok a => .ok a
  | .error e => .error e.toE

-- `Eq.trans rfl rfl`, not `rfl`, here and below: see TlsProofs/PyInt.lean on `rfl` lemmas under `simp`
theorem selfOf_n (K : Key) (P : Prims) (c : Option Bytes) : (selfOf K P c).n = (K.n : Int) := Eq.trans rfl rfl
theorem selfOf_d (K : Key) (P : Prims) (c : Option Bytes) : (selfOf K P c).d = (K.d : Int) := Eq.trans rfl rfl
theorem selfOf_hmac (K : Key) (P : Prims) (c : Option Bytes) : (selfOf K P c).hmac = P.hmac := Eq.trans rfl rfl
theorem selfOf_sha (K : Key) (P : Prims) (c : Option Bytes) : (selfOf K P c).sha256 = P.sha256 := Eq.trans rfl rfl
theorem selfOf_priv (K : Key) (P : Prims) (c : Option Bytes) (x : Nat) :
    (selfOf K P c).privOp (x : Int) = (P.privInt x : Int) := by
  show ((P.privInt (x : Int).toNat : Nat) : Int) = _
  rw [Int.toNat_natCast]
theorem selfOf_hasPriv (K : Key) (P : Prims) (c : Option Bytes) : (selfOf K P c).hasPrivateKey = true := Eq.trans rfl rfl
theorem selfOf_keyType (K : Key) (P : Prims) (c : Option Bytes) : (selfOf K P c).keyType = "rsa" := Eq.trans rfl rfl
theorem selfOf_keyHash (K : Key) (P : Prims) (c : Option Bytes) : (selfOf K P c).keyHash = c := Eq.trans rfl rfl

theorem liftR_ok {α : Type} (a : α) : liftR (.ok a : Except PyErr α) = .ok a := Eq.trans rfl rfl
theorem liftR_err {α : Type} (e : PyErr) : liftR (.error e : Except PyErr α) = .error e.toE := Eq.trans rfl rfl

/-- a `while` loop whose condition and body are those of `_dec_prf` runs `prfLoop` -/
theorem whileLoop_prf (hmac : Bytes → Bytes → Bytes) (key label : Bytes) (outLen need : Nat)
    (cond : Bytes × Int → Bool) (body : Bytes × Int → PyE.M (Bytes × Int))
    (hc : ∀ (out : Bytes) (it : Nat), cond (out, (it : Int)) = decide (out.length < need))
    (hb : ∀ (out : Bytes) (it : Nat), body (out, (it : Int)) =
      .ok (out ++ hmac key (beEncode 2 it ++ label ++ beEncode 2 outLen), ((it + 1 : Nat) : Int))) :
    ∀ (fuel it : Nat) (out : Bytes),
      Except.map Prod.fst (PyE.whileLoop cond body fuel (out, (it : Int))) =
        match prfLoop hmac key label outLen need fuel it out with
        | none => .error .fuel
        | some o => .ok o := by
  intro fuel
  induction fuel with
  | zero =>
    intro it out
    unfold PyE.whileLoop prfLoop
    rw [hc]
    by_cases hl : out.length < need <;> simp [hl, Except.map]
  | succ f ih =>
    intro it out
    unfold PyE.whileLoop
    rw [prfLoop, hc]
    by_cases hl : out.length < need
    · simp only [hl, decide_true, if_true, hb, ok_bind']
      exact ih (it + 1) _
    · simp [hl, Except.map]

/-- `zip(it, it)` over the PRF bytes: the pairs the candidate-length loop of the hand model folds over -/
theorem zipSelf_iterBytes : ∀ (lr : Bytes),
    PyE.zipSelf (PyE.iterBytes lr) = (pairs lr).map fun hl => ((hl.1.toNat : Int), (hl.2.toNat : Int))
  | [] => rfl
  | [_] => rfl
  | a :: b :: rest => by
    show ((a.toNat : Int), (b.toNat : Int)) :: PyE.zipSelf (PyE.iterBytes rest) = _
    rw [zipSelf_iterBytes rest]
    rfl

/-- One iteration of the separator scan, the body of `scan` as a term: `forInL_enumFrom` compares the generated loop body
    with it, where `scan` itself only offers its recursive equation.  `scan_cons_ite` of TlsProofs/RsaDecrypt.lean is
    the same step read as conditionals. -/
def scanStep (pos : Nat) (v : UInt8) (s : Nat × Nat) : Nat × Nat :=
  let err := s.1 ||| (ctLtU32 pos 10 &&& (1 ^^^ ctIsNonZeroU32 v.toNat))
  let mask := (1 ^^^ ctLtU32 pos 10) &&& (1 ^^^ ctIsNonZeroU32 v.toNat) &&& (1 ^^^ ctIsNonZeroU32 s.2)
  let mask := ctLsbPropU16 mask
  (err, (s.2 &&& (0xffff ^^^ mask)) ||| ((pos + 1) &&& mask))

theorem scan_cons_scanStep (pos err ms : Nat) (v : UInt8) (rest : Bytes) :
    scan pos err ms (v :: rest) =
      scan (pos + 1) (scanStep pos v (err, ms)).1 (scanStep pos v (err, ms)).2 rest := rfl

/-- the `for pos, val in em_bytes` loop over the rest of an `enumerate` iterator -/
theorem forInL_enumFrom (body : Int × Int → Int × Int → PyE.M (Int × Int))
    (h : ∀ (pos : Nat) (v : UInt8) (e ms : Nat),
      body ((pos : Int), (v.toNat : Int)) ((e : Int), (ms : Int)) =
        .ok (((scanStep pos v (e, ms)).1 : Int), ((scanStep pos v (e, ms)).2 : Int))) :
    ∀ (rest : Bytes) (pos e ms : Nat),
      PyE.forInL (PyE.enumFrom pos rest) ((e : Int), (ms : Int)) body =
        .ok (((scan pos e ms rest).1 : Int), ((scan pos e ms rest).2 : Int)) := by
  intro rest
  induction rest with
  | nil => intro pos e ms; rfl
  | cons v rest ih =>
    intro pos e ms
    unfold PyE.forInL at ih ⊢
    rw [PyE.enumFrom, List.foldlM_cons, h, scan_cons_scanStep]
    exact ih (pos + 1) _ _

/-- the final `bytearray(x & not_mask | y & mask for x, y in zip(xs, ys))` -/
theorem select_eq (mask : Nat) : ∀ (xs ys : Bytes),
    Py.bytearrayOfInts ((PyE.zipBytes xs ys).map fun xy =>
        Py.bor (Py.band xy.1 ((255 ^^^ mask : Nat) : Int)) (Py.band xy.2 (mask : Int)))
      = some (selectBytes mask xs ys)
  | [], _ => rfl
  | _ :: _, [] => rfl
  | x :: xs, y :: ys => by
    have ih := select_eq mask xs ys
    unfold Py.bytearrayOfInts at ih ⊢
    unfold selectBytes PyE.zipBytes at *
    simp only [List.zipWith_cons_cons, List.map_cons, List.mapM_cons, band_nat, bor_nat]
    have h3 : (x.toNat &&& (255 ^^^ mask)) ||| (y.toNat &&& mask) < 2^8 :=
      Nat.or_lt_two_pow (Nat.lt_of_le_of_lt Nat.and_le_left x.toNat_lt) (Nat.lt_of_le_of_lt Nat.and_le_left y.toNat_lt)
    have hb : (0 : Int) ≤ (((x.toNat &&& (255 ^^^ mask)) ||| (y.toNat &&& mask) : Nat) : Int) ∧
        (((x.toNat &&& (255 ^^^ mask)) ||| (y.toNat &&& mask) : Nat) : Int) < 256 := by omega
    simp only [hb, and_self, if_true, Int.toNat_natCast]
    rw [ih]
    rfl

/-- the server-side RSAKeyExchange object; `rand` is what `getRandomBytes(48)` returns in this call -/
def kexOf (K : Key) (P : Prims) (cache : Option Bytes) (rand : Bytes) (cv sv : Nat × Nat) : PyE.KexSelf :=
  { privateKey := selfOf K P cache, clientVersion := ((cv.1 : Int), (cv.2 : Int)),
    serverVersion := ((sv.1 : Int), (sv.2 : Int)), random48 := rand }

theorem liftR_ite {α : Type} (c : Prop) [Decidable c] (a b : Except PyErr α) :
    liftR (if c then a else b) = if c then liftR a else liftR b := apply_ite liftR c a b

end Tls.RsaDec

attribute [pyrt] Tls.RsaDec.selfOf_n Tls.RsaDec.selfOf_d Tls.RsaDec.selfOf_hmac Tls.RsaDec.selfOf_sha
  Tls.RsaDec.selfOf_priv Tls.RsaDec.selfOf_hasPriv Tls.RsaDec.selfOf_keyType Tls.RsaDec.selfOf_keyHash
  Tls.RsaDec.liftR_ok Tls.RsaDec.liftR_err Tls.RsaDec.liftR_ite Tls.RsaDec.PyErr.toE
