import TlsModel.Record
/- `decrypt` and `recvRecord` read once (properties C01 and C02 both go through them): `decrypt` outside
   its pass-through cases is the unprotect function the configuration selects (`decrypt_eq`);
   `recvRecord` is three phases — the wire-length caps, `decrypt`, then `recvFail` on an error or
   `recvPost` on a plaintext (`recvRecord_eq`) — and what it accepts or skips is read off the last
   phase (`recvPost_ok_iff`, `recvRecord_ok`, `recvRecord_skip`). -/
namespace Tls.Rec
open Tls.CT

theorem decrypt_eq {S} (P : Prims S) (c : Cfg) (rv : Recv S) (h : Rec)
    (hpass : c.is13 = true → h.typ ≠ 20 ∧ (h.typ = 21 → c.cipher = .null))
    (hearly : rv.earlyOk = true → c.cipher ≠ .null) :
    decrypt P c rv h =
      (if c.cipher == .aead then decAead P c rv.st h
       else if c.etm then (match c.cipher with
          | .null => decEtm P c false rv.st h.typ h.body
          | _ => decEtm P c true rv.st h.typ h.body)
       else match c.cipher with
          | .block => decCbc P c rv.st h.typ h.body
          | .null => decStream P c false rv.st h.typ h.body
          | _ => decStream P c true rv.st h.typ h.body) := by
  have h1 : (c.is13 && h.typ == 20) = false := by
    cases h13 : c.is13
    · rfl
    · simpa using (hpass h13).1
  have h2 : (c.is13 && h.typ == 21 && decide (h.body.length < 3) && rv.plaintextAlertsOk && c.cipher != .null &&
      rv.st.seq == 0) = false := by
    cases h13 : c.is13
    · rfl
    · by_cases ht : h.typ = 21
      · simp [(hpass h13).2 ht]
      · simp [ht]
  have h3 : (c.cipher == .null && !c.hasMac && rv.earlyOk && h.typ == 23) = false := by
    cases he : rv.earlyOk
    · simp
    · simp [hearly he]
  unfold decrypt
  simp only [h1, h2, h3, Bool.false_eq_true, if_false]
  split <;> rename_i heq <;> exact heq.symm

def recvFail {S} (rv : Recv S) (h : Rec) (e : Err) : RecvResult S :=
  if e = .bad_record_mac ∧ (rv.earlyOk && rv.processed + h.body.length < rv.maxEarly) = true then
    .skip { rv with processed := rv.processed + h.body.length }
  else .err e

def recvPost {S} (c : Cfg) (rv : Recv S) (h : Rec) (st' : St S) (data : Bytes) : RecvResult S :=
  let rv' : Recv S := { rv with st := st', earlyOk := false, processed := 0 }
  if c.is13 && c.cipher != .null && h.typ == 23 then
    if data.length > rv.recvLimit + 1 then .err .record_overflow
    else
      match dePad data with
      | none => .err .unexpected_message
      | some (d, t) =>
        if d.length > rv.recvLimit then .err .record_overflow else .ok rv' t d
  else if data.length > rv.recvLimit then .err .record_overflow
  else .ok rv' h.typ data

theorem recvRecord_eq {S} (P : Prims S) (c : Cfg) (rv : Recv S) (h : Rec) :
    recvRecord P c rv h =
      if h.body.length > rv.recvLimit + 1024 + 1024 then .err .record_overflow
      else if c.tls13record && h.body.length > rv.recvLimit + 256 then .err .record_overflow
      else match decrypt P c rv h with
        | .error e => recvFail rv h e
        | .ok x => recvPost c rv h x.1 x.2 := by
  unfold recvRecord
  cases hd : decrypt P c rv h with
  | ok x => rfl
  | error e => cases e <;> simp [recvFail]

theorem recvPost_ok_iff {S} {c : Cfg} {rv rv' : Recv S} {h : Rec} {st' : St S} {data p : Bytes} {t : UInt8} :
    recvPost c rv h st' data = .ok rv' t p ↔
      rv' = { rv with st := st', earlyOk := false, processed := 0 } ∧
      if c.is13 && c.cipher != .null && h.typ == 23 then
        data.length ≤ rv.recvLimit + 1 ∧ dePad data = some (p, t) ∧ p.length ≤ rv.recvLimit
      else data.length ≤ rv.recvLimit ∧ t = h.typ ∧ p = data := by
  unfold recvPost
  by_cases hw : (c.is13 && c.cipher != .null && h.typ == 23) = true
  · simp only [if_pos hw]
    by_cases h1 : data.length > rv.recvLimit + 1
    · simp only [if_pos h1, reduceCtorEq, false_iff]; omega
    cases hdp : dePad data with
    | none => simp [h1]
    | some x =>
      by_cases h2 : x.1.length > rv.recvLimit
      · simp only [if_neg h1, if_pos h2, reduceCtorEq, false_iff]
        rintro ⟨-, -, e, h3⟩; cases e; exact absurd h2 (Nat.not_lt.mpr h3)
      · simp only [if_neg h1, if_neg h2, RecvResult.ok.injEq, Option.some.injEq]
        constructor
        · rintro ⟨rfl, rfl, rfl⟩; exact ⟨rfl, by omega, rfl, by omega⟩
        · rintro ⟨rfl, -, rfl, -⟩; exact ⟨rfl, rfl, rfl⟩
  · simp only [if_neg hw]
    by_cases h1 : data.length > rv.recvLimit
    · simp only [if_pos h1, reduceCtorEq, false_iff]; omega
    · simp only [if_neg h1, RecvResult.ok.injEq]
      constructor
      · rintro ⟨rfl, rfl, rfl⟩; exact ⟨rfl, by omega, rfl, rfl⟩
      · rintro ⟨rfl, -, rfl, rfl⟩; exact ⟨rfl, rfl, rfl⟩

theorem recvPost_ne_skip {S} {c : Cfg} {rv rv' : Recv S} {h : Rec} {st' : St S} {data : Bytes} :
    recvPost c rv h st' data ≠ .skip rv' := by
  unfold recvPost
  repeat' split
  all_goals exact fun e => by cases e

theorem recvRecord_ok {S} {P : Prims S} {c : Cfg} {rv rv' : Recv S} {h : Rec} {t : UInt8} {p : Bytes}
    (hacc : recvRecord P c rv h = .ok rv' t p) :
    ∃ st' data, decrypt P c rv h = .ok (st', data) ∧ recvPost c rv h st' data = .ok rv' t p := by
  rw [recvRecord_eq] at hacc
  by_cases h1 : h.body.length > rv.recvLimit + 1024 + 1024
  · rw [if_pos h1] at hacc; cases hacc
  by_cases h2 : (c.tls13record && h.body.length > rv.recvLimit + 256) = true
  · rw [if_neg h1, if_pos h2] at hacc; cases hacc
  rw [if_neg h1, if_neg h2] at hacc
  cases hd : decrypt P c rv h with
  | error e =>
    simp only [hd, recvFail] at hacc
    split at hacc <;> cases hacc
  | ok x => exact ⟨x.1, x.2, rfl, by simpa only [hd] using hacc⟩

theorem recvRecord_skip {S} {P : Prims S} {c : Cfg} {rv rv' : Recv S} {h : Rec}
    (hs : recvRecord P c rv h = .skip rv') :
    rv.earlyOk = true ∧ rv.processed + h.body.length < rv.maxEarly ∧
      rv' = { rv with processed := rv.processed + h.body.length } := by
  rw [recvRecord_eq] at hs
  by_cases h1 : h.body.length > rv.recvLimit + 1024 + 1024
  · rw [if_pos h1] at hs; cases hs
  by_cases h2 : (c.tls13record && h.body.length > rv.recvLimit + 256) = true
  · rw [if_neg h1, if_pos h2] at hs; cases hs
  rw [if_neg h1, if_neg h2] at hs
  cases hd : decrypt P c rv h with
  | error e =>
    simp only [hd, recvFail] at hs
    split at hs
    · rename_i hc
      cases hs
      simp only [Bool.and_eq_true, decide_eq_true_eq] at hc
      exact ⟨hc.2.1, hc.2.2, rfl⟩
    · cases hs
  | ok x => simp only [hd] at hs; exact absurd hs recvPost_ne_skip

end Tls.Rec
