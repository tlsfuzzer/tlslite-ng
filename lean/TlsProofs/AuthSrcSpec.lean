import TlsModel.Gen.AuthSrc
import TlsModel.Auth
/-
  C05: decidable predicates over the event lists that translate/gen_auth.py extracts from the AST of the
  tree under check (TlsModel/Gen/AuthSrc.lean), and the shapes the hand-written model (TlsModel/Auth.lean)
  assumes.  The theorems using them are in Props/C05.lean and are decided by the kernel on every run.
-/
namespace Tls.Auth.Src

/-- `req` occurs in `l` as a subsequence (same order, other events may lie in between) -/
def subseq : List Ev → List Ev → Bool
  | [], _ => true
  | _ :: _, [] => false
  | r :: rs, x :: xs => if r = x then subseq rs xs else subseq (r :: rs) xs

def noOdd (l : List Ev) : Bool := l.all fun e => match e with | .odd _ => false | _ => true

/-- no event satisfying `p` after the first event satisfying `q` -/
def noneAfter (p q : Ev → Bool) : List Ev → Bool
  | [] => true
  | x :: xs => if q x then xs.all (fun e => !p e) else noneAfter p q xs

def isSkip : Ev → Bool | .skip _ => true | _ => false
def isRecordResumed : Ev → Bool | .recordResumed _ => true | _ => false
def isTicketSend : Ev → Bool | .ticketSend _ => true | _ => false
def isCheckerCall : Ev → Bool | .checkerCall _ => true | _ => false
def isRecord : Ev → Bool | .record _ => true | _ => false

/-- every ticketSend has a checkerCall somewhere before it -/
def ticketsAfterChecker : List Ev → Bool → Bool
  | [], _ => true
  | x :: xs, seen =>
    if isTicketSend x then seen && ticketsAfterChecker xs seen
    else ticketsAfterChecker xs (seen || isCheckerCall x)

def hasTicketSend (l : List Ev) : Bool := l.any isTicketSend

def allFunctions : List (List Ev) :=
  [f_serverTLS13Handshake, f_clientTLS13Handshake, f_serverCertKeyExchange, f_handshakeServerAsyncHelper,
   f_clientKeyExchange, f_handshakeClientAsyncHelper, f_getFinished, f_sendFinished, f_serverFinished,
   f_clientFinished, f_serverSRPKeyExchange, f_handshakeWrapperAsync, f_check_before_tickets, f_handle_srv_pha,
   f_tls12_verify_SKE, f_tls12_verify_ecdsa_SKE, f_tls12_verify_eddsa_ske, f_tls12_verify_dsa_SKE,
   f_verifyServerKeyExchange, f_SRPKeyExchange_processClientKeyExchange,
   f_SRPKeyExchange_processServerKeyExchange, f_DelegatedCredential_verify, f_verify_binder]

/-- the Checker structure the model (`checkerSkips`, `checkerOk`, `wrapperR`) is written against -/
def modelCheckerShape : CheckerShape :=
  { skip := 1               -- `checkerSkips cr resumed = !cr && resumed`, first statement, plain return
    clientChain := 1        -- `checkerOk`: client looks at `serverCertChain`
    serverChain := 1        -- server at `clientCertChain`
    compare := 1            -- `certFp c = fp` else TLSFingerprintError
    eeIndex := 0            -- `c :: _`: the end-entity certificate only
    missingRaises := 1      -- `[] => false`: TLSNoAuthenticationError
    onlySkipReturns := 1 }  -- no other way to leave without raising

end Tls.Auth.Src
