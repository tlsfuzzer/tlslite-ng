import Lean.Meta.Tactic.Simp.RegisterCommand
/-- normal-form equations for unfolded generated functions (TlsProofs/PyRt.lean and, per hand model, the link modules) -/
register_simp_attr pyrt
