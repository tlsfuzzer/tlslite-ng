import TlsModel.Negotiate
/-
  Lemmas about the negotiation model (C03): what each stage guarantees when it succeeds (the client stages as
  iffs onto their guards, which completeness uses backwards), what every flight of the model's own server echoes;
  at the end the concrete settings and credentials that the examples of Props/C03 are stated with.
-/
namespace Tls.Neg
open Tls.Gen.Neg

/- The step lemmas of the model's own `Outcome` monad. The names are those of `Guards` (for `Except`), two of them for
   another kind of statement: `bind_eq_ok` is the iff here (there `bind_eq_ok_iff`), and `ok_bind` takes the value of
   the first step as a hypothesis (there a rewrite rule on a literal `.ok a`). -/
theorem bind_eq_ok {α β} {x : Outcome α} {f : α → Outcome β} {b : β} :
    (x >>= f) = .ok b ↔ ∃ a, x = .ok a ∧ f a = .ok b := by
  cases x <;> simp [Bind.bind, Outcome.bind]

theorem pure_eq_ok {α} {a b : α} : (pure a : Outcome α) = .ok b ↔ a = b := by
  simp [pure]

theorem failIf_eq_ok {c : Bool} {s : Side} {d : String} {u : Unit} : failIf c s d = .ok u ↔ c = false := by
  unfold failIf; cases c <;> simp

theorem bind_unit_ok {β} {x : Outcome Unit} {f : Unit → Outcome β} {b : β} :
    (x >>= f) = .ok b ↔ x = .ok () ∧ f () = .ok b := by
  rw [bind_eq_ok]
  exact ⟨fun ⟨(), h⟩ => h, fun h => ⟨(), h⟩⟩

theorem exists_unit_ok {x : Outcome Unit} {q : Prop} : (∃ u : Unit, x = .ok u ∧ q) ↔ x = .ok () ∧ q :=
  ⟨fun ⟨(), h⟩ => h, fun h => ⟨(), h⟩⟩

theorem failIf_bind_ok {β} {c : Bool} {s : Side} {d : String} {f : Unit → Outcome β} {b : β} :
    (failIf c s d >>= f) = .ok b ↔ c = false ∧ f () = .ok b := by
  rw [bind_unit_ok, failIf_eq_ok]

theorem failIf_false_bind {β} {c : Bool} {s : Side} {d : String} {f : Unit → Outcome β} (h : c = false) :
    (failIf c s d >>= f) = f () := by
  subst h; rfl

theorem ok_bind {α β} {x : Outcome α} {a : α} {f : α → Outcome β} (h : x = .ok a) : (x >>= f) = f a := by
  subst h; rfl

/-- (cipher, mac, keyExchange) of a suite according to its registered IETF name -/
def suiteInfo (s : Nat) : Option (String × String × String) :=
  (suiteSem.find? (·.1 == s)).map (·.2)

/-- AEAD suites need 'aead' among the MAC names; TLS 1.3 suites have no key-exchange name -/
def Settings.allowsSuite (st : Settings) (s : Nat) : Prop :=
  ∃ c m k, suiteInfo s = some (c, m, k) ∧ c ∈ st.cipherNames ∧ m ∈ st.macNames ∧
    (k = "tls13" ∨ k ∈ st.keyExchangeNames)

/-- every suite a row of a table of `_filterSuites` lists has a registered name whose `part` is the row's name -/
def rowsNamed (tbl : List (String × Nat × List Nat)) (part : String × String × String → String) : Bool :=
  tbl.all fun r => r.2.2.all fun s => (suiteInfo s).any (part · == r.1)

theorem tables_named :
    rowsNamed macTable (·.2.1) = true ∧ rowsNamed cipherTable (·.1) = true ∧ rowsNamed kexTable (·.2.2) = true := by
  decide +kernel

theorem rowsNamed_mem {tbl : List (String × Nat × List Nat)} {part : String × String × String → String}
    (h : rowsNamed tbl part = true) {r : String × Nat × List Nat} (hr : r ∈ tbl) {s : Nat} (hs : s ∈ r.2.2) :
    ∃ t, suiteInfo s = some t ∧ part t = r.1 := by
  have := List.all_eq_true.mp (List.all_eq_true.mp h r hr) s hs
  obtain ⟨t, ht, he⟩ := (Option.any_eq_true _ _).mp this
  exact ⟨t, ht, eq_of_beq he⟩

theorem mem_rowsFor {tbl : List (String × Nat × List Nat)} {names : List String} {v s : Nat} :
    s ∈ rowsFor tbl names v ↔ ∃ r ∈ tbl, r.1 ∈ names ∧ r.2.1 ≤ v ∧ s ∈ r.2.2 := by
  simp only [rowsFor, List.mem_flatMap, List.mem_ite_nil_right, Bool.and_eq_true, List.contains_iff_mem,
    decide_eq_true_eq, and_assoc]

theorem mem_filterSuites {suites : List Nat} {st : Settings} {v s : Nat} (h : s ∈ filterSuites suites st v) :
    s ∈ suites ∧ s ∈ rowsFor macTable st.macNames v ∧ s ∈ rowsFor cipherTable st.cipherNames v ∧
    s ∈ rowsFor kexTable ("tls13" :: st.keyExchangeNames) v := by
  unfold filterSuites at h
  simp only [List.mem_filter, Bool.and_eq_true, List.contains_iff_mem] at h
  exact ⟨h.1, h.2.1.1, h.2.1.2, h.2.2⟩

theorem filterSuites_allows {suites : List Nat} {st : Settings} {v s : Nat} (h : s ∈ filterSuites suites st v) :
    st.allowsSuite s := by
  obtain ⟨_, hm, hc, hk⟩ := mem_filterSuites h
  obtain ⟨rm, hrm, hmn, _, hms⟩ := mem_rowsFor.mp hm
  obtain ⟨rc, hrc, hcn, _, hcs⟩ := mem_rowsFor.mp hc
  obtain ⟨rk, hrk, hkn, _, hks⟩ := mem_rowsFor.mp hk
  -- the three rows name the parts of the one registered name of `s`
  obtain ⟨t, ht, em⟩ := rowsNamed_mem tables_named.1 hrm hms
  obtain ⟨_, ht', ec⟩ := rowsNamed_mem tables_named.2.1 hrc hcs
  obtain rfl := Option.some.inj (ht.symm.trans ht')
  obtain ⟨_, ht', ek⟩ := rowsNamed_mem tables_named.2.2 hrk hks
  obtain rfl := Option.some.inj (ht.symm.trans ht')
  exact ⟨t.1, t.2.1, t.2.2, ht, ec ▸ hcn, em ▸ hmn, ek ▸ List.mem_cons.mp hkn⟩

theorem mem_filterForVersion_iff {l : List Nat} {v s : Nat} :
    s ∈ filterForVersion l v ↔ s ∈ l ∧
      s ∈ (if v ≤ 3 then ssl3Suites else []) ++ (if v == 3 then tls12Suites else []) ++ (if v > 3 then tls13Suites else []) := by
  unfold filterForVersion
  simp only [List.mem_filter, List.contains_iff_mem]

theorem filterForVersion_sub {suites : List Nat} {v s : Nat} (h : s ∈ filterForVersion suites v) : s ∈ suites :=
  (mem_filterForVersion_iff.mp h).1

theorem legacy_not_tls13 : ∀ s ∈ ssl3Suites ++ tls12Suites, tls13Suites.contains s = false := by decide +kernel

theorem tls13_eq_version {l : List Nat} {v s : Nat} (h : s ∈ filterForVersion l v) :
    tls13Suites.contains s = decide (3 < v) := by
  have h := (mem_filterForVersion_iff.mp h).2
  simp only [List.mem_append, List.mem_ite_nil_right] at h
  rcases h with (⟨hv, h⟩ | ⟨hv, h⟩) | ⟨hv, h⟩
  · rw [legacy_not_tls13 s (List.mem_append_left _ h)]; exact (decide_eq_false (by omega)).symm
  · rw [legacy_not_tls13 s (List.mem_append_right _ h), eq_of_beq hv]; rfl
  · rw [List.contains_iff_mem.mpr h]; exact (decide_eq_true hv).symm

/-- a filter decides element by element: "passes" is written as membership in the filter of the singleton, so that the
    predicate of `filter_for_certificate` is never spelt (`mem_certUsable_iff` likewise; completeness compares two lists so) -/
theorem mem_filterForCertificate_iff {l : List Nat} {c : Option Cred} {s : Nat} :
    s ∈ filterForCertificate l c ↔ s ∈ l ∧ s ∈ filterForCertificate [s] c := by
  unfold filterForCertificate
  simp only [List.mem_filter, List.contains_iff_mem, List.mem_singleton, true_and]

theorem filterForPrfs_sub {suites : List Nat} {p : List String} {s : Nat}
    (h : s ∈ filterForPrfs suites p) : s ∈ suites := by
  unfold filterForPrfs at h
  exact (List.mem_filter.mp h).1

theorem firstMatching_some {α} [BEq α] [LawfulBEq α] {vs ms : List α} {a : α}
    (h : firstMatching vs ms = some a) : a ∈ vs ∧ a ∈ ms := by
  unfold firstMatching at h
  exact ⟨List.mem_of_find?_eq_some h, List.contains_iff_mem.mp (List.find?_some h)⟩

theorem firstMatching_none {α} [BEq α] [LawfulBEq α] {vs ms : List α} (h : firstMatching vs ms = none) :
    ∀ a ∈ vs, a ∉ ms := by
  unfold firstMatching at h
  intro a ha hm
  exact List.find?_eq_none.mp h a ha (List.contains_iff_mem.mpr hm)

/-- the shape of every `…Shared` premise of `compatible`: the two lists meet and every common element is good, so
    whichever the server picks is good -/
theorem firstMatching_of_shared {l ms : List Nat} {good : Nat → Bool} (hex : l.any ms.contains = true)
    (hall : l.all (fun a => !ms.contains a || good a) = true) :
    ∃ y, firstMatching l ms = some y ∧ y ∈ l ∧ y ∈ ms ∧ good y = true := by
  cases h : firstMatching l ms with
  | none =>
    obtain ⟨a, ha, hm⟩ := List.any_eq_true.mp hex
    exact absurd (List.contains_iff_mem.mp hm) (firstMatching_none h a ha)
  | some y =>
    obtain ⟨hy1, hy2⟩ := firstMatching_some h
    have := List.all_eq_true.mp hall y hy1
    rw [List.contains_iff_mem.mpr hy2] at this
    exact ⟨y, rfl, hy1, hy2, this⟩

theorem clientSuites_allowed {cs : Settings} {fl : ClientFlavour} {s : Nat} (h : s ∈ clientSuites cs fl) :
    cs.allowsSuite s := by
  unfold clientSuites at h
  cases fl <;> simp only [List.mem_append] at h
  · rcases h with ((((h | h) | h) | h) | h) | h <;> exact filterSuites_allows h
  · exact filterSuites_allows h
  · rcases h with h | h <;> exact filterSuites_allows h

theorem mem_versionsInRange {ss : Settings} {w : Nat} :
    w ∈ ss.versions.filter (fun i => ss.minVersion ≤ i && i ≤ ss.maxVersion) ↔
      w ∈ ss.versions ∧ ss.minVersion ≤ w ∧ w ≤ ss.maxVersion := by
  rw [List.mem_filter, Bool.and_eq_true, decide_eq_true_eq, decide_eq_true_eq]

theorem pickVersion_ok {ss : Settings} {o : Offer} {v : Nat} (h : pickVersion ss o = .ok v) :
    (∀ vs, o.supportedVersions = some vs → v ∈ ss.versions ∧ ss.minVersion ≤ v ∧ v ≤ ss.maxVersion ∧ v ∈ vs) ∧
    (o.supportedVersions = none → v ≤ ss.maxVersion ∧ v ≤ o.clientVersion) := by
  unfold pickVersion at h
  split at h
  · rename_i vs hsv
    refine ⟨fun vs' hvs' => ?_, fun hn => nomatch hsv.symm.trans hn⟩
    obtain rfl := Option.some.inj (hsv.symm.trans hvs')
    split at h
    · rename_i hfm
      obtain rfl := pure_eq_ok.mp h
      obtain ⟨h1, h2⟩ := firstMatching_some hfm
      obtain ⟨h3, h4, h5⟩ := mem_versionsInRange.mp h1
      exact ⟨h3, h4, h5, h2⟩
    · cases h
  · rename_i hsv
    refine ⟨fun vs hvs => (nomatch hsv.symm.trans hvs), fun _ => ?_⟩
    split at h
    · obtain rfl := pure_eq_ok.mp h
      omega
    · obtain rfl := pure_eq_ok.mp h
      omega

theorem offer_supportedVersions (cs : Settings) (cc : ClientCfg) :
    (clientOffer cs cc).supportedVersions = if cs.versions.any (· > 3) then some cs.versions else none := rfl

theorem offer_clientVersion (cs : Settings) (cc : ClientCfg) :
    (clientOffer cs cc).clientVersion = min cs.maxVersion 3 := rfl

theorem pickVersion_offer {cs ss : Settings} {cc : ClientCfg} {v : Nat} :
    pickVersion ss (clientOffer cs cc) = .ok v ↔
      if cs.versions.any (· > 3) then
        firstMatching (ss.versions.filter fun i => ss.minVersion ≤ i && i ≤ ss.maxVersion) cs.versions = some v
      else v = min (min cs.maxVersion 3) ss.maxVersion := by
  unfold pickVersion
  rw [offer_supportedVersions, offer_clientVersion]
  by_cases h13 : cs.versions.any (· > 3) = true
  · rw [if_pos h13, if_pos h13]
    dsimp only
    cases firstMatching (ss.versions.filter fun i => ss.minVersion ≤ i && i ≤ ss.maxVersion) cs.versions with
    | some w => exact pure_eq_ok.trans Option.some_inj.symm
    | none => exact ⟨fun h => (nomatch h), fun h => (nomatch h)⟩
  · rw [if_neg h13, if_neg h13]
    dsimp only
    split <;> rw [pure_eq_ok] <;> omega

theorem offerRealVersion_legacy {cs : Settings} {cc : ClientCfg} (h : ¬ cs.versions.any (· > 3) = true) :
    offerRealVersion (clientOffer cs cc) = min cs.maxVersion 3 := by
  unfold offerRealVersion
  rw [offer_supportedVersions, if_neg h]
  rfl

/-- `hcv`: `validate()` removes the TLS 1.3 entries of `versions` when maxVersion is below TLS 1.3 -/
theorem maxVersion_of_any13 {s : Settings} (hcv : s.maxVersion < 4 → ∀ w ∈ s.versions, w < 4)
    (h13 : s.versions.any (· > 3) = true) : 4 ≤ s.maxVersion := by
  obtain ⟨w, hw, hw3⟩ := List.any_eq_true.mp h13
  have hw3 : 3 < w := of_decide_eq_true hw3
  exact Nat.le_of_not_lt fun hlt => absurd (hcv hlt w hw) (Nat.not_lt.mpr hw3)

theorem serverVersion_ok {ss : Settings} {o : Offer} {v : Nat} (h : serverVersion ss o = .ok v) :
    ss.minVersion ≤ offerRealVersion o ∧ pickVersion ss o = .ok v := by
  unfold serverVersion at h
  rw [failIf_bind_ok] at h
  obtain ⟨hmin, h⟩ := h
  rw [bind_eq_ok] at h
  obtain ⟨_, _, h⟩ := h
  refine ⟨?_, h⟩
  simp only [decide_eq_false_iff_not, Nat.not_lt] at hmin; exact hmin

def serverFamilies : List (List Nat) :=
  [srpCertSuites, srpSuites, tls13Suites, ecdheEcdsaSuites, ecdheCertSuites, dheCertSuites, dheDsaSuites,
   certSuites, anonSuites, ecdhAnonSuites]

theorem serverSuites_mem {ss : Settings} {sc : ServerCfg} {o : Offer} {v : Nat} {l : List Nat}
    (h : serverSuites ss sc o v = .ok l) {s : Nat} (hs : s ∈ l) :
    ∃ fam ∈ serverFamilies, s ∈ filterForVersion (filterSuites fam ss v) v := by
  unfold serverSuites at h
  dsimp only at h
  split at h
  · rename_i l0 hl0
    cases h
    rw [mem_filterForVersion_iff] at hs
    suffices ∃ fam ∈ serverFamilies, s ∈ filterSuites fam ss v from
      this.imp fun fam hf => ⟨hf.1, mem_filterForVersion_iff.mpr ⟨hf.2, hs.2⟩⟩
    have hs0 := hs.1
    -- the first kind of credential that is configured decides the list
    by_cases h1 : sc.hasDB = true
    · rw [if_pos h1] at hl0
      cases hl0
      simp only [List.mem_append, List.mem_ite_nil_right] at hs0
      rcases hs0 with ⟨_, h⟩ | h <;> exact ⟨_, by simp [serverFamilies], h⟩
    by_cases h2 : sc.cred.isSome = true
    · rw [if_neg h1, if_pos h2] at hl0
      cases hl0
      simp only [List.mem_append, List.mem_ite_nil_right] at hs0
      rcases hs0 with ((⟨_, h⟩ | ⟨_, h | h⟩) | ⟨_, h | h⟩) | h <;> exact ⟨_, by simp [serverFamilies], h⟩
    by_cases h3 : sc.anon = true
    · rw [if_neg h1, if_neg h2, if_pos h3] at hl0
      cases hl0
      simp only [List.mem_append] at hs0
      rcases hs0 with h | h <;> exact ⟨_, by simp [serverFamilies], h⟩
    rw [if_neg h1, if_neg h2, if_neg h3] at hl0
    split at hl0
    · cases hl0
      exact ⟨_, by simp [serverFamilies], hs0⟩
    · cases hl0
  · cases h

theorem serverSuites_allows {ss : Settings} {sc : ServerCfg} {o : Offer} {v : Nat} {l : List Nat}
    (h : serverSuites ss sc o v = .ok l) : ∀ s ∈ l, ss.allowsSuite s := by
  intro s hs
  obtain ⟨fam, _, hf⟩ := serverSuites_mem h hs
  exact filterSuites_allows (filterForVersion_sub hf)

theorem mem_certUsable_iff {l : List Nat} {c : Option Cred} {v s : Nat} :
    s ∈ certUsable l c v ↔ s ∈ l ∧ s ∈ certUsable [s] c v := by
  unfold certUsable
  split
  · simp
  · exact mem_filterForCertificate_iff

theorem prfFiltered_sub {ss : Settings} {o : Offer} {v : Nat} {c : Option Cred} {l : List Nat} {s : Nat}
    (h : s ∈ prfFiltered ss o v c l) : s ∈ l := by
  unfold prfFiltered at h
  split at h
  · exact h
  · split at h
    · exact filterForPrfs_sub h
    · exact h

theorem selectCertificate_ok {ss : Settings} {sc : ServerCfg} {o : Offer} {suites : List Nat} {v : Nat}
    {r : Nat × Nat} (h : selectCertificate ss sc o suites v = .ok r) :
    r.1 ∈ certUsable suites sc.cred v ∧ r.1 ∈ o.suites ∧ pickSig ss o sc.cred v = some r.2 ∧
      checkServerCurve sc o v = .ok () := by
  unfold selectCertificate at h
  split at h
  · split at h <;> cases h
  · rename_i cipher hfind
    have hmem := List.mem_of_find?_eq_some hfind
    have hoff : cipher ∈ o.suites := List.contains_iff_mem.mp (List.find?_some hfind)
    have hsu := prfFiltered_sub hmem
    split at h
    · cases h
    · rename_i sig hsig
      rw [bind_eq_ok] at h
      obtain ⟨u, hcurve, hr⟩ := h
      obtain rfl := pure_eq_ok.mp hr
      exact ⟨hsu, hoff, hsig, hcurve⟩

theorem ecSelect_ok {ss : Settings} {o : Offer} {v suite g : Nat} (h : ecSelect ss o v suite = .ok g) :
    (ecdhAllSuites.contains suite = true →
      g ∈ curveNamesToList ss v ∧ (∀ cg, o.groups = some cg → g ∈ cg)) ∧
    (ecdhAllSuites.contains suite = false → g = 0) := by
  unfold ecSelect at h
  split at h <;> rename_i hec
  · refine ⟨fun _ => ?_, fun hf => absurd hec (by rw [hf]; decide)⟩
    dsimp only at h
    split at h
    · rename_i g' hfm
      cases h
      exact ⟨(firstMatching_some hfm).2, fun cg hcg => by have := (firstMatching_some hfm).1; rwa [hcg] at this⟩
    · cases h
  · cases h
    exact ⟨fun ht => absurd ht hec, fun _ => rfl⟩

/-- the flight `serverSelect12` ends with, given the prime size and the curve its two selection steps returned -/
def sel12 (ss : Settings) (sc : ServerCfg) (o : Offer) (v suite sig dh g : Nat) : Selection :=
  { version := v, suite := suite
    etm := ss.useEtM && o.etm && !streamSuites.contains suite && !aeadSuites.contains suite
    ems := ss.useEMS && o.ems && decide (v > 0)
    alpn := if (!o.alpn.isEmpty && !sc.alpn.isEmpty) then (o.alpn.find? (sc.alpn.contains ·)).getD "" else ""
    rslEcho := if (o.recordSizeLimit != 0 && ss.recordSizeLimit != 0) then min maxRec ss.recordSizeLimit else 0
    group := g, dhBits := dh
    sigScheme := if (((isCertKxSuite suite && !certSuites.contains suite) || srpCertSuites.contains suite) && v == 3)
                 then sig else 0
    sendsCert := certAllSuites.contains suite || ecdheEcdsaSuites.contains suite || dheDsaSuites.contains suite
    certReq := if isCertKxSuite suite && sc.reqCert then some (sigHashesToList ss none none v) else none
    psk := none, hrr := false
    sSend := if (o.recordSizeLimit != 0 && ss.recordSizeLimit != 0) then min maxRec o.recordSizeLimit else maxRec
    sRecv := if (o.recordSizeLimit != 0 && ss.recordSizeLimit != 0) then min maxRec ss.recordSizeLimit else maxRec
    sentinel := if v == 3 && ss.maxVersion > 3 then 2 else if v < 3 && ss.maxVersion ≥ 3 then 1 else 0 }

/-- `serverSelect12` with its local definitions expanded and the resulting flight named: the form the
    proofs work with (splitting on the conditions with the record written out is slow) -/
theorem serverSelect12_eq (ss : Settings) (sc : ServerCfg) (o : Offer) (v suite sig : Nat) :
    serverSelect12 ss sc o v suite sig = (do
      failIf (ss.useEMS && !(o.ems && v > 0) && ss.requireEMS) .server "insufficient_security"
      failIf (!o.alpn.isEmpty && !sc.alpn.isEmpty && (o.alpn.find? (sc.alpn.contains ·)).isNone) .server
        "no_application_protocol"
      let dh ← dhSelect ss sc o suite
      let g ← ecSelect ss o v suite
      if ((isCertKxSuite suite && !certSuites.contains suite) || srpCertSuites.contains suite) && v < 3 &&
          ((sc.cred.map (·.certAlg)).getD "" == "Ed25519" || (sc.cred.map (·.certAlg)).getD "" == "Ed448")
      then Outcome.abort .server "TypeError"
      else if ((isCertKxSuite suite && !certSuites.contains suite) || srpCertSuites.contains suite) && v < 3 &&
          (sc.cred.map (·.certAlg)).getD "" == "rsa-pss"
      then Outcome.alert .server "internal_error"
      else if !(srpAllSuites.contains suite || isCertKxSuite suite || isAnonSuite suite)
      then Outcome.abort .server "AssertionError"
      else pure (sel12 ss sc o v suite sig dh g)) := rfl

theorem ite_ne_zero {c : Prop} [Decidable c] {a : Nat} (h : (if c then a else 0) ≠ 0) : (if c then a else 0) = a := by
  split at h
  · rename_i hc; exact if_pos hc
  · exact absurd rfl h

theorem serverCertOf_sub {sc : ServerCfg} {sel : Selection} {c : Cred} (h : serverCertOf sc sel = some c) :
    sc.cred = some c := by
  unfold serverCertOf at h
  split at h
  · exact h
  · cases h

theorem getD_find?_mem {l : List String} {p : String → Bool} (h : (l.find? p).getD "" ≠ "") :
    (l.find? p).getD "" ∈ l := by
  cases hf : l.find? p with
  | none => rw [hf] at h; exact absurd rfl h
  | some x => exact List.mem_of_find?_eq_some hf

theorem serverSelect12_ok {ss : Settings} {sc : ServerCfg} {o : Offer} {v suite sig : Nat} {sel : Selection}
    (h : serverSelect12 ss sc o v suite sig = .ok sel) :
    ∃ dh g, dhSelect ss sc o suite = .ok dh ∧ ecSelect ss o v suite = .ok g ∧
      sel = sel12 ss sc o v suite sig dh g := by
  rw [serverSelect12_eq] at h
  simp only [bind_eq_ok] at h
  obtain ⟨_, _, _, _, dh, hdh, g, hg, h⟩ := h
  split at h
  · cases h
  · split at h
    · cases h
    · split at h
      · cases h
      · exact ⟨dh, g, hdh, hg, (pure_eq_ok.mp h).symm⟩

theorem serverSelect13_ok {ss : Settings} {sc : ServerCfg} {o : Offer} {v suite sig : Nat} {sel : Selection}
    (h : serverSelect13 ss sc o v suite sig = .ok sel) :
    sel.version = v ∧ sel.suite = suite ∧
    sel.rslEcho = (if (o.recordSizeLimit != 0 && ss.recordSizeLimit != 0) then min (maxRec + 1) ss.recordSizeLimit else 0) ∧
    (sel.sigScheme ≠ 0 → sel.sigScheme = sig) ∧ sel.sendsCert = sel.psk.isNone ∧
    sel.alpn = (o.alpn.filter (sc.alpn.contains ·)).headD "" := by
  simp only [serverSelect13, bind_eq_ok] at h
  obtain ⟨gh, _, _, _, h⟩ := h
  split at h
  · cases h
  · obtain rfl := pure_eq_ok.mp h
    exact ⟨rfl, rfl, rfl, ite_ne_zero, rfl, rfl⟩

theorem pskIndex_none {ss : Settings} {o : Offer} {s : Nat} (h : o.pskIds = []) : pskIndex ss o s = none := by
  unfold pskIndex; rw [h]; simp

/-- the flight `serverSelect13` ends with when the client offers no PSK and the server has a certificate (the hypotheses of
    `serverSelect13_noPsk`) -/
def sel13 (ss : Settings) (sc : ServerCfg) (o : Offer) (v suite sig g : Nat) (hrr : Bool) : Selection :=
  { version := v, suite := suite, etm := false, ems := true
    alpn := (o.alpn.filter (sc.alpn.contains ·)).headD ""
    rslEcho := if (o.recordSizeLimit != 0 && ss.recordSizeLimit != 0) then min (maxRec + 1) ss.recordSizeLimit else 0
    group := g
    dhBits := 0
    sigScheme := sig
    sendsCert := true
    certReq := if sc.reqCert then some (sigHashesToList { ss with dsaSigHashes := [] } none none v) else none
    psk := none, hrr := hrr
    sSend := if (o.recordSizeLimit != 0 && ss.recordSizeLimit != 0) then min maxRec (o.recordSizeLimit - 1) else maxRec
    sRecv := if (o.recordSizeLimit != 0 && ss.recordSizeLimit != 0) then min maxRec (ss.recordSizeLimit - 1) else maxRec
    sentinel := 0 }

theorem serverSelect13_noPsk {ss : Settings} {sc : ServerCfg} {o : Offer} {v suite sig g : Nat} {hrr : Bool}
    (hg : tls13Group ss o = .ok (g, hrr)) (hpsk : o.pskIds = []) (hcred : sc.cred.isSome = true) :
    serverSelect13 ss sc o v suite sig = .ok (sel13 ss sc o v suite sig g hrr) := by
  simp only [serverSelect13]
  rw [ok_bind hg, pskIndex_none hpsk]
  simp only [Option.isSome_none, Option.isNone_none, Bool.false_and, Bool.true_and, hcred, Bool.false_or,
    if_true]
  rw [failIf_false_bind rfl]
  rfl

theorem serverSelect_ok_iff {ss : Settings} {sc : ServerCfg} {o : Offer} {sel : Selection} :
    serverSelect ss sc o = .ok sel ↔
    ∃ v, serverVersion ss o = .ok v ∧
      (o.serverName != "" && sc.sni != "" && sc.sni != o.serverName) = false ∧
      (o.recordSizeLimit != 0 && o.recordSizeLimit < 64) = false ∧
      ∃ l, serverSuites ss sc o v = .ok l ∧ ∃ r, selectCertificate ss sc o l v = .ok r ∧
        (if v > 3 then serverSelect13 ss sc o v r.1 r.2 else serverSelect12 ss sc o v r.1 r.2) = .ok sel := by
  simp only [serverSelect, bind_eq_ok, failIf_eq_ok, exists_const]

theorem serverSelect_ok {ss : Settings} {sc : ServerCfg} {o : Offer} {sel : Selection}
    (h : serverSelect ss sc o = .ok sel) :
    ss.minVersion ≤ offerRealVersion o ∧ pickVersion ss o = .ok sel.version ∧
    ss.allowsSuite sel.suite ∧ sel.suite ∈ o.suites ∧
    (sel.sigScheme ≠ 0 → pickSig ss o sc.cred sel.version = some sel.sigScheme) ∧
    checkServerCurve sc o sel.version = .ok () ∧
    (sel.version ≤ 3 → ecSelect ss o sel.version sel.suite = .ok sel.group ∧
                        dhSelect ss sc o sel.suite = .ok sel.dhBits) := by
  obtain ⟨v, hv, _, _, suites, hsuites, ssg, hsel, h⟩ := serverSelect_ok_iff.mp h
  obtain ⟨hmin, hpick⟩ := serverVersion_ok hv
  obtain ⟨h1, h2, h3, h4⟩ := selectCertificate_ok hsel
  have hall := serverSuites_allows hsuites _ (mem_certUsable_iff.mp h1).1
  split at h
  · rename_i hgt
    obtain ⟨e1, e2, _, e4, _, _⟩ := serverSelect13_ok h
    subst e1
    refine ⟨hmin, hpick, e2 ▸ hall, e2 ▸ h2, ?_, h4, fun hle => by omega⟩
    intro hs
    rw [(e4 hs)]; exact h3
  · obtain ⟨dh, g, hdh, hg, rfl⟩ := serverSelect12_ok h
    refine ⟨hmin, hpick, hall, h2, ?_, h4, fun _ => ⟨hg, hdh⟩⟩
    intro hs
    dsimp only [sel12] at hs ⊢
    rw [ite_ne_zero hs]
    exact h3

/-- what the server's flight fixes of the fields the two session views are computed from -/
theorem serverSelect_view {ss : Settings} {sc : ServerCfg} {o : Offer} {sel : Selection}
    (h : serverSelect ss sc o = .ok sel) :
    (sel.version ≤ 3 → sel.ems = (ss.useEMS && o.ems && decide (sel.version > 0)) ∧
      sel.etm = (ss.useEtM && o.etm && !streamSuites.contains sel.suite && !aeadSuites.contains sel.suite) ∧
      sel.sendsCert = (certAllSuites.contains sel.suite || ecdheEcdsaSuites.contains sel.suite ||
                       dheDsaSuites.contains sel.suite)) ∧
    (3 < sel.version → sel.sendsCert = sel.psk.isNone) ∧
    sel.rslEcho = (if (o.recordSizeLimit != 0 && ss.recordSizeLimit != 0) then
                     (if sel.version > 3 then min (maxRec + 1) ss.recordSizeLimit else min maxRec ss.recordSizeLimit)
                   else 0) ∧
    (sel.alpn ≠ "" → sel.alpn ∈ o.alpn) := by
  obtain ⟨v, _, _, _, _, _, ssg, _, h⟩ := serverSelect_ok_iff.mp h
  split at h
  · rename_i hv
    obtain ⟨rfl, _, e3, _, e5, e6⟩ := serverSelect13_ok h
    refine ⟨fun hle => by omega, fun _ => e5, ?_, ?_⟩
    · rw [if_pos hv]; exact e3
    · rw [e6, List.headD_eq_head?_getD, List.head?_filter]
      exact getD_find?_mem
  · rename_i hv
    obtain ⟨dh, g, _, _, rfl⟩ := serverSelect12_ok h
    refine ⟨fun _ => ⟨rfl, rfl, rfl⟩, fun h3 => absurd h3 hv, ?_, ?_⟩
    · show _ = if _ then (if v > 3 then _ else _) else _
      rw [if_neg hv]
      rfl
    · show (if _ then _ else "") ≠ "" → (if _ then _ else "") ∈ _
      split
      · exact getD_find?_mem
      · exact fun hne => absurd rfl hne

/-- the client's range check of the echoed record size limit passes on every flight of the model's own server -/
theorem serverSelect_rsl {ss : Settings} {sc : ServerCfg} {o : Offer} {sel : Selection}
    (h : serverSelect ss sc o = .ok sel)
    (hrsl : ss.recordSizeLimit = 0 ∨ (64 ≤ ss.recordSizeLimit ∧ ss.recordSizeLimit ≤ maxRec + 1)) :
    sel.rslEcho ≠ 0 → o.recordSizeLimit ≠ 0 ∧ 64 ≤ sel.rslEcho ∧
      sel.rslEcho ≤ (if sel.version > 3 then maxRec + 1 else maxRec) := by
  rw [(serverSelect_view h).2.2.1]
  split
  · rename_i hon
    simp only [Bool.and_eq_true, bne_iff_ne, ne_eq] at hon
    have := hrsl.resolve_left hon.2
    intro _
    refine ⟨hon.1, ?_⟩
    split <;> simp only [maxRec] at this ⊢ <;> omega
  · exact fun hne => absurd rfl hne

theorem checkCertChain_ok {st : Settings} {side : Side} {c : Cred} {v : Nat}
    (h : checkCertChain st side c v = .ok ()) :
    (c.certAlg = "ecdsa" → v ≤ 3 → c.curve ∈ st.eccCurves) ∧
    (c.certAlg = "ecdsa" → 4 ≤ v → ∃ hn, curveHash c.curve = some hn ∧ hn ∈ st.ecdsaSigHashes) ∧
    ((c.certAlg = "Ed25519" ∨ c.certAlg = "Ed448") → 3 ≤ v ∧ c.certAlg ∈ st.moreSigSchemes) ∧
    (c.certAlg ≠ "ecdsa" → c.certAlg ≠ "Ed25519" → c.certAlg ≠ "Ed448" →
      st.minKeySize ≤ c.keyBits ∧ c.keyBits ≤ st.maxKeySize) := by
  unfold checkCertChain at h
  split at h
  · rename_i hec
    have hec : c.certAlg = "ecdsa" := eq_of_beq hec
    simp only [failIf_bind_ok, failIf_eq_ok, Bool.and_eq_false_imp, decide_eq_true_eq, Bool.not_eq_eq_eq_not,
      Bool.not_false, List.contains_iff_mem] at h
    refine ⟨fun _ => h.1, fun _ hv => ?_, fun hed => ?_, fun hne => absurd hec hne⟩
    · cases hch : curveHash c.curve with
      | none => simpa [hch] using h.2.1 hv
      | some hn => exact ⟨hn, rfl, by simpa [hch] using h.2.2 hv⟩
    · rw [hec] at hed
      exact absurd hed (by decide)
  · rename_i hne
    have hne : c.certAlg ≠ "ecdsa" := ne_of_beq_false (Bool.eq_false_iff.mpr hne)
    split at h
    · rename_i hed
      simp only [Bool.or_eq_true, beq_iff_eq] at hed
      simp only [failIf_bind_ok, failIf_eq_ok, decide_eq_false_iff_not, Nat.not_lt, Bool.not_eq_eq_eq_not,
        Bool.not_false, List.contains_iff_mem] at h
      exact ⟨fun he => absurd he hne, fun he => absurd he hne, fun _ => h,
        fun _ h25 h448 => absurd hed (not_or.mpr ⟨h25, h448⟩)⟩
    · rename_i hned
      simp only [Bool.or_eq_true, beq_iff_eq] at hned
      simp only [failIf_bind_ok, failIf_eq_ok, decide_eq_false_iff_not, Nat.not_lt, gt_iff_lt] at h
      exact ⟨fun he => absurd he hne, fun he => absurd he hne, fun hed => absurd hed hned, fun _ _ _ => h⟩

theorem clientCheckHello_ok_iff {cs : Settings} {o : Offer} {sel : Selection} :
    clientCheckHello cs o sel = .ok () ↔
    cs.minVersion ≤ sel.version ∧ (sel.version ≤ cs.maxVersion ∨ sel.version ∈ cs.versions) ∧
    sel.suite ∈ filterForVersion o.suites sel.version := by
  simp only [clientCheckHello, failIf_bind_ok, failIf_eq_ok, decide_eq_false_iff_not, Nat.not_lt,
    Bool.and_eq_false_imp, decide_eq_true_eq, Bool.not_eq_eq_eq_not, Bool.not_false, List.contains_iff_mem,
    Decidable.imp_iff_not_or, gt_iff_lt]

theorem clientCheckServerCert_ok_iff {cs : Settings} {sc : ServerCfg} {o : Offer} {sel : Selection} :
    clientCheckServerCert cs sc o sel = .ok () ↔
    ∀ c, serverCertOf sc sel = some c →
      checkCertChain cs .client c sel.version = .ok () ∧
      (sel.version = 3 → sel.sigScheme ≠ 0 → sel.sigScheme ∈ sigHashesToList cs none (some c) 3) ∧
      (3 < sel.version → sel.sigScheme ∈ o.sigAlgs.getD [] ∧ sel.sigScheme ∈ sigHashesToList cs none (some c) 4) := by
  unfold clientCheckServerCert
  cases serverCertOf sc sel with
  | none => exact ⟨fun _ c hc => (nomatch hc), fun _ => rfl⟩
  | some c =>
    simp only [bind_unit_ok, failIf_eq_ok, Option.some.injEq, forall_eq', Bool.and_eq_false_imp, Bool.and_eq_true,
      beq_iff_eq, bne_iff_ne, ne_eq, and_imp, decide_eq_true_eq, Bool.not_eq_eq_eq_not, Bool.not_false,
      Bool.or_eq_false_iff, List.contains_iff_mem, gt_iff_lt]

theorem ecdh_not_dh : ∀ s ∈ ecdhAllSuites, dhAllSuites.contains s = false := by decide +kernel

theorem clientCheckKex_ok_iff {cs : Settings} {sel : Selection} :
    clientCheckKex cs sel = .ok () ↔
      if dhAllSuites.contains sel.suite then 1024 ≤ sel.dhBits
      else if ecdhAllSuites.contains sel.suite then sel.group ∈ curveNamesToList cs 4
      else srpAllSuites.contains sel.suite = true →
        srpGroupBits.contains sel.dhBits = true ∧ cs.minKeySize ≤ sel.dhBits ∧ sel.dhBits ≤ cs.maxKeySize := by
  unfold clientCheckKex
  split
  · simp only [failIf_eq_ok, decide_eq_false_iff_not, Nat.not_lt]
  · split
    · simp only [failIf_eq_ok, Bool.not_eq_eq_eq_not, Bool.not_false, List.contains_iff_mem]
    · split <;> rename_i h
      · simp only [h, forall_const, failIf_bind_ok, failIf_eq_ok, decide_eq_false_iff_not, Nat.not_lt, gt_iff_lt,
          Bool.not_eq_eq_eq_not, Bool.not_false]
      · exact ⟨fun _ hc => absurd hc h, fun _ => rfl⟩

theorem clientCheckDhSize_ok_iff {cs : Settings} {sel : Selection} :
    clientCheckDhSize cs sel = .ok () ↔
    (dhAllSuites.contains sel.suite = true → cs.minKeySize ≤ sel.dhBits ∧ sel.dhBits ≤ cs.maxKeySize) := by
  unfold clientCheckDhSize
  split <;> rename_i h
  · simp only [h, forall_const, failIf_bind_ok, failIf_eq_ok, decide_eq_false_iff_not, Nat.not_lt, gt_iff_lt]
  · exact ⟨fun _ hc => absurd hc h, fun _ => rfl⟩

theorem clientAccept12_ok_iff {cs : Settings} {cc : ClientCfg} {sc : ServerCfg} {o : Offer} {sel : Selection} {p : Params} :
    clientAccept12 cs cc sc o sel = .ok p ↔
    (sel.ems = false → cs.requireEMS = false) ∧
    (sel.alpn ≠ "" → o.alpn.isEmpty = false) ∧ (sel.alpn ≠ "" → sel.alpn ∈ o.alpn) ∧
    (sel.rslEcho ≠ 0 → 64 ≤ sel.rslEcho ∧ sel.rslEcho ≤ maxRec) ∧
    (cs.maxVersion > 3 ∧ sel.version ≤ 3 → sel.sentinel = 0) ∧
    (cs.maxVersion = 3 ∧ sel.version < 3 → sel.sentinel ≠ 1) ∧
    clientCheckServerCert cs sc o sel = .ok () ∧ clientCheckDhSize cs sel = .ok () ∧
    clientCheckCertReq sel = .ok () ∧
    clientCheckOwnCert cs (if sel.certReq.isSome then cc.cred else none) sel = .ok () ∧
    clientCheckKex cs sel = .ok () ∧
    ∃ cSig, clientSig12 cs (if sel.certReq.isSome then cc.cred else none) sel = .ok cSig ∧
      { version := sel.version, suite := sel.suite, group := sel.group, dhBits := sel.dhBits
        sigScheme := sel.sigScheme, etm := sel.etm, ems := sel.ems, alpn := sel.alpn, serverName := o.serverName
        cSend := if sel.rslEcho != 0 then sel.rslEcho else maxRec
        cRecv := if sel.rslEcho != 0 then min maxRec cs.recordSizeLimit else maxRec
        sSend := sel.sSend, sRecv := sel.sRecv
        serverCert := serverCertOf sc sel, clientCert := if sel.certReq.isSome then cc.cred else none
        clientSig := cSig, psk := none, hrr := false } = p := by
  simp only [clientAccept12, bind_eq_ok, exists_unit_ok, failIf_eq_ok, pure_eq_ok, exists_const,
    Bool.and_eq_false_imp, Bool.and_eq_true, bne_iff_ne, beq_iff_eq, decide_eq_true_eq, Bool.not_eq_eq_eq_not,
    Bool.not_true, Bool.not_false, ne_eq, List.contains_iff_mem, beq_eq_false_iff_ne, bne_eq_false_iff_eq]

theorem clientAccept13_ok_iff {cs : Settings} {cc : ClientCfg} {sc : ServerCfg} {o : Offer} {sel : Selection} {p : Params} :
    clientAccept13 cs cc sc o sel = .ok p ↔
    (sel.group ≠ 0 ∧ sel.hrr = true → sel.group ∈ o.groups.getD []) ∧
    (sel.rslEcho ≠ 0 → cs.recordSizeLimit ≠ 0) ∧
    (sel.rslEcho ≠ 0 → 64 ≤ sel.rslEcho ∧ sel.rslEcho ≤ maxRec + 1) ∧
    clientCheckServerCert cs sc o sel = .ok () ∧
    ∃ cSig, clientSig13 cs (if sel.certReq.isSome then cc.cred else none) sel = .ok cSig ∧
      (sel.alpn ≠ "" → o.alpn.isEmpty = false) ∧ (sel.alpn ≠ "" → sel.alpn ∈ o.alpn) ∧
      { version := sel.version, suite := sel.suite, group := sel.group, dhBits := 0, sigScheme := sel.sigScheme
        etm := false, ems := true, alpn := sel.alpn, serverName := o.serverName
        cSend := if sel.rslEcho != 0 then sel.rslEcho - 1 else maxRec
        cRecv := if sel.rslEcho != 0 then min maxRec (cs.recordSizeLimit - 1) else maxRec
        sSend := sel.sSend, sRecv := sel.sRecv
        serverCert := serverCertOf sc sel, clientCert := if sel.certReq.isSome then cc.cred else none
        clientSig := cSig, psk := sel.psk, hrr := sel.hrr } = p := by
  simp only [clientAccept13, bind_eq_ok, exists_unit_ok, failIf_eq_ok, pure_eq_ok, exists_const,
    Bool.and_eq_false_imp, Bool.and_eq_true, bne_iff_ne, decide_eq_true_eq, Bool.not_eq_eq_eq_not,
    Bool.not_false, ne_eq, List.contains_iff_mem, beq_eq_false_iff_ne]

theorem clientAccept_ok {cs : Settings} {cc : ClientCfg} {sc : ServerCfg} {o : Offer} {sel : Selection} {p : Params}
    (h : clientAccept cs cc sc o sel = .ok p) :
    clientCheckHello cs o sel = .ok () ∧
    p.version = sel.version ∧ p.suite = sel.suite ∧ p.group = sel.group ∧ p.sigScheme = sel.sigScheme ∧
    p.serverCert = serverCertOf sc sel ∧
    p.clientCert = (if sel.certReq.isSome then cc.cred else none) ∧
    clientCheckServerCert cs sc o sel = .ok () ∧
    (sel.version ≤ 3 → clientCheckKex cs sel = .ok () ∧ p.dhBits = sel.dhBits ∧
        clientSig12 cs p.clientCert sel = .ok p.clientSig ∧ clientCheckDhSize cs sel = .ok ()) ∧
    (3 < sel.version → clientSig13 cs p.clientCert sel = .ok p.clientSig) := by
  simp only [clientAccept, bind_eq_ok] at h
  obtain ⟨u, hh, h⟩ := h
  split at h
  · rename_i hgt
    obtain ⟨_, _, _, hcert, cSig, hsig, _, _, rfl⟩ := clientAccept13_ok_iff.mp h
    exact ⟨hh, rfl, rfl, rfl, rfl, rfl, rfl, hcert, fun hle => by omega, fun _ => hsig⟩
  · rename_i hle
    obtain ⟨_, _, _, _, _, _, hcert, hdh, _, _, hkex, cSig, hsig, rfl⟩ := clientAccept12_ok_iff.mp h
    exact ⟨hh, rfl, rfl, rfl, rfl, rfl, rfl, hcert, fun _ => ⟨hkex, rfl, hsig, hdh⟩, fun hgt => by omega⟩

theorem serverFinish_ok {ss : Settings} {sel : Selection} {p p' : Params} (h : serverFinish ss sel p = .ok p') :
    p' = p ∧ ∀ c, p.clientCert = some c →
      checkCertChain ss .server c p.version = .ok () ∧
      (p.version = 3 → p.clientSig ∈ sigHashesToList ss none (some c) 3) ∧
      (3 < p.version → p.clientSig ∈ sigHashesToList ss none (some c) 4 ∧ p.clientSig ∈ sel.certReq.getD []) := by
  unfold serverFinish at h
  cases hc : p.clientCert with
  | none => rw [hc] at h; exact ⟨(pure_eq_ok.mp h).symm, fun _ hc' => nomatch hc'⟩
  | some c =>
    rw [hc] at h
    dsimp only at h
    split at h <;> rename_i hv <;>
      simp only [bind_unit_ok, failIf_eq_ok, pure_eq_ok, Bool.or_eq_false_iff, Bool.and_eq_false_imp, beq_iff_eq,
        Bool.not_eq_eq_eq_not, Bool.not_false, List.contains_iff_mem] at h
    · exact ⟨h.2.2.symm, fun c' hc' => by cases hc'; exact ⟨h.2.1, fun h3 => by omega, fun _ => h.1⟩⟩
    · exact ⟨h.2.2.symm, fun c' hc' => by cases hc'; exact ⟨h.2.1, h.1, fun h3 => absurd h3 hv⟩⟩

theorem negotiate_ok {cs ss : Settings} {cc : ClientCfg} {sc : ServerCfg} {p : Params}
    (h : negotiate cs ss cc sc = .ok p) :
    ∃ sel, serverSelect ss sc (clientOffer cs cc) = .ok sel ∧
      clientAccept cs cc sc (clientOffer cs cc) sel = .ok p ∧ serverFinish ss sel p = .ok p := by
  simp only [negotiate, bind_eq_ok] at h
  obtain ⟨sel, h1, p0, h2, h3⟩ := h
  obtain rfl := (serverFinish_ok h3).1
  exact ⟨sel, h1, h2, h3⟩

theorem negotiate_version {cs ss : Settings} {cc : ClientCfg} {sc : ServerCfg} {p : Params}
    (h : negotiate cs ss cc sc = .ok p) :
    cs.minVersion ≤ p.version ∧ ss.minVersion ≤ offerRealVersion (clientOffer cs cc) ∧
    pickVersion ss (clientOffer cs cc) = .ok p.version := by
  obtain ⟨sel, hsel, hacc, _⟩ := negotiate_ok h
  obtain ⟨hreal, hpick, _⟩ := serverSelect_ok hsel
  obtain ⟨hhello, ev, _⟩ := clientAccept_ok hacc
  rw [ev]
  exact ⟨(clientCheckHello_ok_iff.mp hhello).1, hreal, hpick⟩

def Settings.allowsCurve (st : Settings) (g : Nat) : Prop := ∃ n ∈ st.eccCurves, groupId n = some g

theorem mem_groupIdsOf {ns : List String} {g : Nat} : g ∈ groupIdsOf ns ↔ ∃ n ∈ ns, groupId n = some g := by
  unfold groupIdsOf; simp [List.mem_filterMap]

theorem curveNamesToList_allows {st : Settings} {v g : Nat} (h : g ∈ curveNamesToList st v) : st.allowsCurve g := by
  unfold curveNamesToList at h
  simp only at h
  split at h
  · exact mem_groupIdsOf.mp (List.mem_filter.mp h).1
  · exact mem_groupIdsOf.mp h

theorem pickSig_ok {ss : Settings} {o : Offer} {cred : Option Cred} {v sig : Nat}
    (h : pickSig ss o cred v = some sig) :
    (∀ algs, o.sigAlgs = some algs → sig ≠ 0 → sig ∈ sigHashesToList ss none cred v ∧ sig ∈ algs) ∧
    (o.sigAlgs = none → sig = 0) ∧ (v < 3 → sig = 0) := by
  unfold pickSig at h
  split at h
  · rename_i hlt
    injection h with h
    exact ⟨fun algs _ hne => absurd h.symm hne, fun _ => h.symm, fun _ => h.symm⟩
  · rename_i hge
    split at h
    · rename_i hn
      injection h with h
      exact ⟨fun algs ha => (by rw [hn] at ha; cases ha), fun _ => h.symm, fun hlt => absurd hlt hge⟩
    · rename_i algs hs
      refine ⟨fun algs' ha _ => ?_, fun hn => (by rw [hs] at hn; cases hn), fun hlt => absurd hlt hge⟩
      rw [hs] at ha; injection ha with ha; subst ha
      exact firstMatching_some h

theorem find?_max {l : List Nat} {p : Nat → Bool} {v : Nat} (h : l.find? p = some v)
    (hs : l.Pairwise (· > ·)) : ∀ w ∈ l, p w = true → w ≤ v := by
  induction l with
  | nil => cases h
  | cons a t ih =>
    intro w hw hp
    rw [List.pairwise_cons] at hs
    rw [List.find?_cons] at h
    split at h
    · injection h with h; subst h
      rcases List.mem_cons.mp hw with e | e
      · omega
      · exact Nat.le_of_lt (hs.1 w e)
    · rename_i hna
      rcases List.mem_cons.mp hw with e | e
      · subst e; exact absurd hp (by rw [hna]; decide)
      · exact ih h hs.2 w e hp

theorem find?_decreasing {l : List Nat} {p : Nat → Bool} {v : Nat} (hs : l.Pairwise (· > ·)) :
    l.find? p = some v ↔ v ∈ l ∧ p v = true ∧ ∀ w ∈ l, p w = true → w ≤ v := by
  refine ⟨fun h => ⟨List.mem_of_find?_eq_some h, List.find?_some h, find?_max h hs⟩, fun ⟨hv, hp, hmax⟩ => ?_⟩
  cases hf : l.find? p with
  | none => exact absurd hp (List.find?_eq_none.mp hf v hv)
  | some y =>
    have := find?_max hf hs v hv hp
    have := hmax y (List.mem_of_find?_eq_some hf) (List.find?_some hf)
    rw [show y = v by omega]

theorem firstMatching_decreasing {l ms : List Nat} {v : Nat} (hs : l.Pairwise (· > ·)) :
    firstMatching l ms = some v ↔ v ∈ l ∧ v ∈ ms ∧ ∀ w ∈ l, w ∈ ms → w ≤ v := by
  simp only [firstMatching, find?_decreasing hs, List.contains_iff_mem]

/-- the fold is that of `offerRealVersion` -/
theorem foldl_realVersion_le_iff {vs : List Nat} {a b : Nat} :
    vs.foldl (fun acc v => if v ≤ 4 && v > acc then v else acc) a ≤ b ↔ a ≤ b ∧ ∀ w ∈ vs, w ≤ 4 → w ≤ b := by
  induction vs generalizing a with
  | nil => simp
  | cons x t ih =>
    have hstep : (if (decide (x ≤ 4) && decide (x > a)) = true then x else a) ≤ b ↔ a ≤ b ∧ (x ≤ 4 → x ≤ b) := by
      split
      · rename_i hc; simp only [Bool.and_eq_true, decide_eq_true_eq] at hc; omega
      · rename_i hc; simp only [Bool.and_eq_true, decide_eq_true_eq, not_and] at hc; omega
    rw [List.foldl_cons, ih, hstep]
    simp only [List.mem_cons, forall_eq_or_imp, and_assoc]

/-- `h4` is what `validate()` establishes -/
theorem offerRealVersion_offer_le {cs : Settings} {cc : ClientCfg} (h4 : 4 ∈ cs.versions → 4 ≤ cs.maxVersion) :
    offerRealVersion (clientOffer cs cc) ≤ cs.maxVersion := by
  unfold offerRealVersion
  rw [offer_supportedVersions, offer_clientVersion]
  split
  · rename_i vs hvs
    split at hvs
    · injection hvs with hvs; subst hvs
      split
      · refine foldl_realVersion_le_iff.mpr ⟨Nat.min_le_left _ _, fun w hw hw4 => ?_⟩
        -- below TLS 1.3 an entry is at most the legacy version field, which is 3 here
        by_cases h : w = 4
        · subst h; exact h4 hw
        · omega
      · exact Nat.min_le_left _ _
    · cases hvs
  · exact Nat.min_le_left _ _

theorem client_too_old (cs ss : Settings) (cc : ClientCfg) (sc : ServerCfg)
    (h4 : 4 ∈ cs.versions → 4 ≤ cs.maxVersion) (hlt : cs.maxVersion < ss.minVersion) :
    negotiate cs ss cc sc = .alert .server "protocol_version" := by
  have hreal := offerRealVersion_offer_le (cc := cc) h4
  have hfail : failIf (decide (offerRealVersion (clientOffer cs cc) < ss.minVersion)) Side.server "protocol_version"
      = Outcome.alert .server "protocol_version" := by
    unfold failIf
    rw [if_pos]
    simp only [decide_eq_true_eq]; omega
  simp only [negotiate, serverSelect, serverVersion, hfail]
  rfl

def okWith (o : Outcome Params) (f : Params → Bool) : Bool :=
  match o with
  | .ok p => f p
  | _ => false

/-- `HandshakeSettings().validate()`: the name lists are the generated ones, the other fields are written out here -/
def dflt : Settings :=
  { minVersion := 1, maxVersion := 4, versions := [4, 3, 2, 1]
    cipherNames := names_CIPHER_NAMES, macNames := names_MAC_NAMES, keyExchangeNames := names_KEY_EXCHANGE_NAMES
    eccCurves := names_CURVE_NAMES, dhGroups := names_ALL_DH_GROUP_NAMES, keyShares := ["secp256r1", "x25519"]
    defaultCurve := "secp256r1"
    rsaSigHashes := names_RSA_SIGNATURE_HASHES, rsaSchemes := names_RSA_SCHEMES
    ecdsaSigHashes := names_ECDSA_SIGNATURE_HASHES, dsaSigHashes := names_DSA_SIGNATURE_HASHES
    moreSigSchemes := names_SIGNATURE_SCHEMES, minKeySize := 1023, maxKeySize := 8193
    useEtM := true, useEMS := true, requireEMS := false, recordSizeLimit := 16385, dhParamBits := 0
    pskConfigs := [], pskModes := names_PSK_MODES }

def rsaCred : Cred := { certAlg := "rsa", keyBits := 2048, curve := "" }
def rsa1024Cred : Cred := { certAlg := "rsa", keyBits := 1024, curve := "" }
def dsaCred : Cred := { certAlg := "dsa", keyBits := 2048, curve := "" }
def ecdsaCred : Cred := { certAlg := "ecdsa", keyBits := 256, curve := "secp256r1" }
def certClient : ClientCfg := { flavour := .cert, cred := none, alpn := [], serverName := "" }
def anonClient : ClientCfg := { flavour := .anon, cred := none, alpn := [], serverName := "" }
def certServer (c : Cred) : ServerCfg :=
  { hasDB := false, srpBits := 0, cred := some c, anon := false, reqCert := false, alpn := [], sni := "" }
def anonServer : ServerCfg :=
  { hasDB := false, srpBits := 0, cred := none, anon := true, reqCert := false, alpn := [], sni := "" }

def srpClient : ClientCfg := { flavour := .srp, cred := none, alpn := [], serverName := "" }
def srpServer : ServerCfg :=
  { hasDB := true, srpBits := 2048, cred := none, anon := false, reqCert := false, alpn := [], sni := "" }
def srpCertServer (c : Cred) : ServerCfg := { srpServer with cred := some c }

def selOf (o : Outcome Selection) : Option Selection :=
  match o with
  | .ok s => some s
  | _ => none

/-- a trivial key schedule (the view theorems hold for every one) -/
def K0 : KeySched :=
  { master := fun _ _ _ pm cr sr _ => pm ++ cr ++ sr, derive := fun _ _ m _ => m,
    exportKm := fun _ _ sec _ _ label n => (sec ++ label).take n }

def transcriptOf (cs ss : Settings) (cc : ClientCfg) (sc : ServerCfg) (serverChain clientChain : List Bytes) :
    Option Transcript :=
  (selOf (serverSelect ss sc (clientOffer cs cc))).map fun sel =>
    { offer := clientOffer cs cc, selection := sel, clientRandom := [1], serverRandom := [2], messages := [3]
      serverChain := serverChain, clientChain := clientChain }

def withTranscript (o : Option Transcript) (f : Transcript → Bool) : Bool :=
  match o with
  | some t => f t
  | none => false

def Settings.VersionsExact (st : Settings) : Prop :=
  ∀ w, w ∈ st.versions ↔ (st.minVersion ≤ w ∧ w ≤ st.maxVersion)

end Tls.Neg
