import TlsModel.CT
/- The constant-time helpers as conditionals on their arguments mod 2^32 (`ct…_spec`), from two facts about the top bit
   of a `BitVec 32` expression: `msb_ctLt` (the borrow of the subtraction) and `msb_or_neg` (a non-zero word or its
   negation has its top bit set).  Used by the C11 and C12 trees.  At the end the model's byte read `byteAt` inside
   the string. -/
namespace Tls.CT

theorem ushiftRight31 (x : BitVec 32) : (x >>> 31).toNat = if x.msb then 1 else 0 := by
  rw [BitVec.toNat_ushiftRight, Nat.shiftRight_eq_div_pow, BitVec.msb_eq_decide]
  have := x.isLt
  split <;> simp_all <;> omega

/-- The top bit of the `ct_lt_u32` expression is the unsigned comparison: with equal top bits the
    difference does not wrap past 2^31, so its top bit is the borrow; with different top bits the
    operand whose top bit is clear is the smaller one. -/
theorem msb_ctLt (x y : BitVec 32) :
    (x ^^^ ((x ^^^ y) ||| ((x - y) ^^^ y))).msb = decide (x.toNat < y.toNat) := by
  have hb : ∀ a b d : Bool, (a ^^ ((a ^^ b) || (d ^^ b))) = if a = b then d else !a := by decide
  rw [BitVec.msb_xor, BitVec.msb_or, BitVec.msb_xor, BitVec.msb_xor, hb]
  simp only [BitVec.msb_eq_decide, BitVec.toNat_sub, decide_eq_decide]
  have := x.isLt
  have := y.isLt
  split
  · rw [decide_eq_decide]; omega
  · rw [← decide_not, decide_eq_decide]; omega

/-- what `ct_isnonzero_u32` computes, and `ct_neq_u32` on the difference (`y - x = -(x - y)`) -/
theorem msb_or_neg (z : BitVec 32) : (z ||| -z).msb = decide (z ≠ 0#32) := by
  rw [BitVec.msb_or, BitVec.msb_neg]
  by_cases h0 : z = 0#32
  · subst h0; decide
  · by_cases hm : z = BitVec.intMin 32
    · subst hm; decide
    · rw [bne_iff_ne.mpr h0, bne_iff_ne.mpr hm, decide_eq_true h0]
      cases z.msb <;> rfl

theorem msb_ctNeq (x y : BitVec 32) :
    ((x - y) ||| (y - x)).msb = decide (x.toNat ≠ y.toNat) := by
  have e : y - x = -(x - y) := by rw [BitVec.neg_sub, BitVec.sub_eq_add_neg, BitVec.add_comm]
  have hz : x - y = 0#32 ↔ x = y :=
    ⟨fun h => by rw [← BitVec.sub_add_cancel x y, h, BitVec.zero_add], fun h => h ▸ BitVec.sub_self x⟩
  rw [e, msb_or_neg, decide_eq_decide, ne_eq, ne_eq, BitVec.toNat_inj, hz]

theorem ctLtU32_spec (a b : Nat) :
    ctLtU32 a b = if a % 2^32 < b % 2^32 then 1 else 0 := by
  simp only [ctLtU32, ushiftRight31, msb_ctLt, BitVec.toNat_ofNat, decide_eq_true_eq]

theorem ctGtU32_spec (a b : Nat) :
    ctGtU32 a b = if a % 2^32 > b % 2^32 then 1 else 0 :=
  ctLtU32_spec b a

theorem ctLeU32_spec (a b : Nat) :
    ctLeU32 a b = if a % 2^32 ≤ b % 2^32 then 1 else 0 := by
  simp only [ctLeU32, ctGtU32_spec, ← Nat.not_lt, ite_not, gt_iff_lt]
  split <;> rfl

theorem ctNeqU32_spec (a b : Nat) :
    ctNeqU32 a b = if a % 2^32 = b % 2^32 then 0 else 1 := by
  simp only [ctNeqU32, ushiftRight31, msb_ctNeq, BitVec.toNat_ofNat, decide_eq_true_eq, ne_eq, ite_not]

theorem ctEqU32_spec (a b : Nat) :
    ctEqU32 a b = if a % 2^32 = b % 2^32 then 1 else 0 := by
  rw [ctEqU32, ctNeqU32_spec]
  split <;> rfl

theorem ctIsNonZeroU32_spec (v : Nat) :
    ctIsNonZeroU32 v = if v % 2^32 = 0 then 0 else 1 := by
  have : ctIsNonZeroU32 v = ctNeqU32 v 0 := by
    simp only [ctIsNonZeroU32, ctNeqU32, BitVec.sub_zero, BitVec.ofNat_eq_ofNat]
  rw [this, ctNeqU32_spec]

theorem ctLsbPropU8_spec (v : Nat) : ctLsbPropU8 v = if v % 2 = 1 then 255 else 0 := by
  rw [ctLsbPropU8, Nat.and_one_is_mod]
  rcases Nat.mod_two_eq_zero_or_one v with h | h <;> rw [h] <;> rfl

theorem ctLsbPropU16_spec (v : Nat) : ctLsbPropU16 v = if v % 2 = 1 then 65535 else 0 := by
  rw [ctLsbPropU16, Nat.and_one_is_mod]
  rcases Nat.mod_two_eq_zero_or_one v with h | h <;> rw [h] <;> rfl

theorem byteAt_lt (d : Bytes) (i : Nat) : byteAt d i < 256 := by
  unfold byteAt
  exact (d.getD i 0).toNat_lt

theorem byteAt_eq_getElem (d : Bytes) (i : Nat) (h : i < d.length) : byteAt d i = d[i].toNat := by
  unfold byteAt
  simp [List.getD_eq_getElem?_getD, h]

end Tls.CT
