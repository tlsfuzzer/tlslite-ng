import TlsModel.Conc
/-
  C18 — proof that the lock discipline gives atomicity: a simulation between the interleaving
  semantics and the serial execution that runs each operation whole at the step where it releases
  the lock (at its end, if it never took it).
-/
namespace Tls.Conc

variable {σ ρ : Type}

def runLoc : List (Act σ ρ) → ρ → ρ
  | [], l => l
  | .loc f :: r, l => runLoc r (f l)
  | .sh _ :: r, l => runLoc r l
  | .acq :: r, l => runLoc r l
  | .rel :: r, l => runLoc r l

def AllLoc (as : List (Act σ ρ)) : Prop := ∀ a ∈ as, Act.kind a = Kind.loc

theorem runActs_append (a b : List (Act σ ρ)) (x : σ × ρ) :
    runActs (a ++ b) x = runActs b (runActs a x) := by
  simp [runActs, List.foldl_append]

theorem runActs_cons (a : Act σ ρ) (b : List (Act σ ρ)) (x : σ × ρ) :
    runActs (a :: b) x = runActs b (runAct a x) := rfl

theorem runActs_allLoc (as : List (Act σ ρ)) (h : AllLoc as) (s : σ) (l : ρ) :
    runActs as (s, l) = (s, runLoc as l) := by
  induction as generalizing l with
  | nil => rfl
  | cons a as ih =>
    have ha : Act.kind a = Kind.loc := h a (by simp)
    have hr : AllLoc as := fun b hb => h b (by simp [hb])
    cases a with
    | loc f => rw [runActs_cons]; simp only [runAct, runLoc]; exact ih hr _
    | _ => simp [Act.kind] at ha

theorem runLoc_append_loc (as : List (Act σ ρ)) (f : ρ → ρ) (l : ρ) :
    runLoc (as ++ [Act.loc f]) l = f (runLoc as l) := by
  induction as generalizing l with
  | nil => rfl
  | cons a as ih => cases a <;> simp [runLoc, ih]

theorem allLoc_append_loc (as : List (Act σ ρ)) (f : ρ → ρ) (h : AllLoc as) :
    AllLoc (as ++ [Act.loc f]) := by
  intro a ha
  rw [List.mem_append] at ha
  rcases ha with ha | ha
  · exact h a ha
  · simp at ha; subst ha; rfl

theorem shape2_allLoc (as : List (Act σ ρ)) (h : shapeOK 2 (kinds as) = true) : AllLoc as := by
  induction as with
  | nil => intro a ha; simp at ha
  | cons a as ih =>
    cases a with
    | loc f =>
      simp only [kinds, List.map_cons, Act.kind, shapeOK] at h
      intro b hb
      simp only [List.mem_cons] at hb
      rcases hb with hb | hb
      · subst hb; rfl
      · exact ih h b hb
    | _ => simp [kinds, Act.kind, shapeOK] at h

def WFops (r : List (List (Act σ ρ))) : Prop := ∀ op ∈ r, shapeOK 0 (kinds op) = true

/-- Thread `t` in the interleaved run (`ct`) against the serial run (`st`), by the phase of its current operation
    (`shapeOK 0/1/2` of what is left of it).  `before` and `inside` the lock the serial thread still has the whole
    operation `done ++ cur`, and the interleaved one is `done` ahead: local actions only while `before` (`runLoc`, the
    local part of `runActs`), the shared state too once `inside`.  `after` the release the serial thread has run the
    operation whole and is `cur` ahead, which is local again. -/
inductive TRel (lock : Option Nat) (t : Nat) (csh ssh : σ) (ct st : Thread σ ρ) : Prop
  | idle : ct.ops = [] → st.ops = [] → ct.loc = st.loc → lock ≠ some t → TRel lock t csh ssh ct st
  | before (done cur : List (Act σ ρ)) (r : List (List (Act σ ρ))) :
      st.ops = (done ++ cur) :: r → ct.ops = cur :: r → AllLoc done →
      shapeOK 0 (kinds cur) = true → ct.loc = runLoc done st.loc → lock ≠ some t → WFops r →
      TRel lock t csh ssh ct st
  | inside (done cur : List (Act σ ρ)) (r : List (List (Act σ ρ))) :
      st.ops = (done ++ cur) :: r → ct.ops = cur :: r →
      shapeOK 1 (kinds cur) = true → lock = some t → (csh, ct.loc) = runActs done (ssh, st.loc) →
      WFops r → TRel lock t csh ssh ct st
  | after (cur : List (Act σ ρ)) (r : List (List (Act σ ρ))) :
      st.ops = r → ct.ops = cur :: r → shapeOK 2 (kinds cur) = true →
      st.loc = runLoc cur ct.loc → lock ≠ some t → WFops r → TRel lock t csh ssh ct st

structure Rel (c : Cfg σ ρ) (s : SCfg σ ρ) : Prop where
  sh : c.lock = none → c.sh = s.sh
  th : ∀ t, TRel c.lock t c.sh s.sh (c.th t) (s.th t)

theorem TRel.change {lock lock' : Option Nat} {u : Nat} {csh ssh csh' ssh' : σ} {ct st : Thread σ ρ}
    (h : TRel lock u csh ssh ct st) (hl : lock ≠ some u) (hl' : lock' ≠ some u) :
    TRel lock' u csh' ssh' ct st := by
  cases h with
  | idle h1 h2 h3 _ => exact .idle h1 h2 h3 hl'
  | before done cur r h1 h2 h3 h4 h5 _ h7 => exact .before done cur r h1 h2 h3 h4 h5 hl' h7
  | inside done cur r h1 h2 h3 h4 h5 h6 => exact absurd h4 hl
  | after cur r h1 h2 h3 h4 _ h6 => exact .after cur r h1 h2 h3 h4 hl' h6

theorem setTh_same (th : Nat → Thread σ ρ) (t : Nat) (x : Thread σ ρ) : setTh th t x t = x := by
  simp [setTh]

theorem setTh_other (th : Nat → Thread σ ρ) (t u : Nat) (x : Thread σ ρ) (h : u ≠ t) :
    setTh th t x u = th u := by
  simp [setTh, h]

theorem TRel.start {lock : Option Nat} {t : Nat} {csh ssh : σ} (l : ρ) (r : List (List (Act σ ρ)))
    (hl : lock ≠ some t) (hw : WFops r) : TRel lock t csh ssh ⟨l, r⟩ ⟨l, r⟩ := by
  cases r with
  | nil => exact .idle rfl rfl rfl hl
  | cons op r' =>
    exact .before [] op r' rfl rfl (fun a ha => by simp at ha) (hw op (by simp)) rfl hl
      (fun o ho => hw o (by simp [ho]))

theorem TRel.of_ops {lock : Option Nat} {t : Nat} {csh ssh : σ} {ct st : Thread σ ρ}
    (h : TRel lock t csh ssh ct st) {cur : List (Act σ ρ)} {r : List (List (Act σ ρ))}
    (hops : ct.ops = cur :: r) :
    (∃ done, st.ops = (done ++ cur) :: r ∧ AllLoc done ∧ shapeOK 0 (kinds cur) = true ∧
      ct.loc = runLoc done st.loc ∧ lock ≠ some t ∧ WFops r) ∨
    (∃ done, st.ops = (done ++ cur) :: r ∧ shapeOK 1 (kinds cur) = true ∧ lock = some t ∧
      (csh, ct.loc) = runActs done (ssh, st.loc) ∧ WFops r) ∨
    (st.ops = r ∧ shapeOK 2 (kinds cur) = true ∧ st.loc = runLoc cur ct.loc ∧ lock ≠ some t ∧ WFops r) := by
  cases h with
  | idle h1 _ _ _ => rw [hops] at h1; cases h1
  | before done cur' r' h1 h2 h3 h4 h5 h6 h7 =>
    obtain ⟨rfl, rfl⟩ := List.cons.inj (hops.symm.trans h2)
    exact Or.inl ⟨done, h1, h3, h4, h5, h6, h7⟩
  | inside done cur' r' h1 h2 h3 h4 h5 h6 =>
    obtain ⟨rfl, rfl⟩ := List.cons.inj (hops.symm.trans h2)
    exact Or.inr (Or.inl ⟨done, h1, h3, h4, h5, h6⟩)
  | after cur' r' h1 h2 h3 h4 h5 h6 =>
    obtain ⟨rfl, rfl⟩ := List.cons.inj (hops.symm.trans h2)
    exact Or.inr (Or.inr ⟨h1, h3, h4, h5, h6⟩)

theorem serialStep_cons {s : SCfg σ ρ} {t : Nat} {op : List (Act σ ρ)} {r : List (List (Act σ ρ))}
    (h : (s.th t).ops = op :: r) :
    serialStep s t = ⟨(runActs op (s.sh, (s.th t).loc)).1,
      setTh s.th t ⟨(runActs op (s.sh, (s.th t).loc)).2, r⟩⟩ := by
  simp only [serialStep, h]

theorem step_sim (c c' : Cfg σ ρ) (s : SCfg σ ρ) (hrel : Rel c s) (hstep : Step c c') :
    ∃ s', (s' = s ∨ ∃ t, s' = serialStep s t) ∧ Rel c' s' := by
  cases hstep with
  | loc t f as r hops =>
    refine ⟨s, Or.inl rfl, ⟨hrel.sh, ?_⟩⟩
    intro u
    by_cases hu : u = t
    · subst hu
      simp only [setTh_same]
      rcases (hrel.th u).of_ops hops with ⟨done, h1, h3, h4, h5, h6, h7⟩ | ⟨done, h1, h3, h4, h5, h6⟩ |
        ⟨h1, h3, h4, h5, h6⟩
      · refine .before (done ++ [Act.loc f]) as r (by simpa using h1) rfl
          (allLoc_append_loc done f h3) h4 ?_ h6 h7
        simp only [runLoc_append_loc, h5]
      · refine .inside (done ++ [Act.loc f]) as r (by simpa using h1) rfl h3 h4 ?_ h6
        rw [runActs_append, ← h5]; rfl
      · exact .after as r h1 rfl h3 h4 h5 h6
    · simp only [setTh_other _ _ _ _ hu]
      exact hrel.th u
  | sh t f as r hops =>
    rcases (hrel.th t).of_ops hops with ⟨done, h1, h3, h4, h5, h6, h7⟩ | ⟨done, h1, h3, h4, h5, h6⟩ |
      ⟨h1, h3, h4, h5, h6⟩
    · cases h4
    · refine ⟨s, Or.inl rfl, ⟨?_, ?_⟩⟩
      · intro hn; simp only at hn; rw [h4] at hn; cases hn
      · intro u
        by_cases hu : u = t
        · subst hu
          simp only [setTh_same]
          refine .inside (done ++ [Act.sh f]) as r (by simpa using h1) rfl h3 h4 ?_ h6
          rw [runActs_append, ← h5]; rfl
        · simp only [setTh_other _ _ _ _ hu]
          have hne : c.lock ≠ some u := by rw [h4]; intro h; cases h; exact hu rfl
          exact (hrel.th u).change hne hne
    · cases h3
  | acq t as r hops hfree =>
    have hsh := hrel.sh hfree
    rcases (hrel.th t).of_ops hops with ⟨done, h1, h3, h4, h5, h6, h7⟩ | ⟨done, h1, h3, h4, h5, h6⟩ |
      ⟨h1, h3, h4, h5, h6⟩
    · refine ⟨s, Or.inl rfl, ⟨?_, ?_⟩⟩
      · intro hn; cases hn
      · intro u
        by_cases hu : u = t
        · subst hu
          simp only [setTh_same]
          refine .inside (done ++ [Act.acq]) as r (by simpa using h1) rfl h4 rfl ?_ h7
          rw [runActs_append, runActs_allLoc done h3, hsh, h5]; rfl
        · simp only [setTh_other _ _ _ _ hu]
          have hne : c.lock ≠ some u := by rw [hfree]; intro h; cases h
          have hne' : (some t : Option Nat) ≠ some u := by intro h; cases h; exact hu rfl
          exact (hrel.th u).change hne hne'
    · rw [hfree] at h4; cases h4
    · cases h3
  | rel t as r hops hheld =>
    rcases (hrel.th t).of_ops hops with ⟨done, h1, h3, h4, h5, h6, h7⟩ | ⟨done, h1, h3, h4, h5, h6⟩ |
      ⟨h1, h3, h4, h5, h6⟩
    · exact absurd hheld h6
    · have hall := shape2_allLoc as h3
      have hrun : runActs (done ++ Act.rel :: as) (s.sh, (s.th t).loc) = (c.sh, runLoc as (c.th t).loc) := by
        rw [runActs_append, ← h5, runActs_cons]
        simp only [runAct]
        exact runActs_allLoc as hall _ _
      refine ⟨serialStep s t, Or.inr ⟨t, rfl⟩, ?_⟩
      rw [serialStep_cons h1, hrun]
      refine ⟨fun _ => rfl, fun u => ?_⟩
      by_cases hu : u = t
      · subst hu
        simp only [setTh_same]
        exact .after as r rfl rfl h3 rfl (by intro h; cases h) h6
      · simp only [setTh_other _ _ _ _ hu]
        have hne : c.lock ≠ some u := by rw [hheld]; intro h; cases h; exact hu rfl
        exact (hrel.th u).change hne (by intro h; cases h)
    · exact absurd hheld h5
  | endOp t r hops =>
    rcases (hrel.th t).of_ops hops with ⟨done, h1, h3, h4, h5, h6, h7⟩ | ⟨done, h1, h3, h4, h5, h6⟩ |
      ⟨h1, h3, h4, h5, h6⟩
    · -- an operation without a critical section: it is serialised where it ends
      have hrun : runActs (done ++ []) (s.sh, (s.th t).loc) = (s.sh, (c.th t).loc) := by
        rw [List.append_nil, runActs_allLoc done h3, h5]
      refine ⟨serialStep s t, Or.inr ⟨t, rfl⟩, ?_⟩
      rw [serialStep_cons h1, hrun]
      refine ⟨hrel.sh, fun u => ?_⟩
      by_cases hu : u = t
      · subst hu
        simp only [setTh_same]
        exact TRel.start _ _ h6 h7
      · simp only [setTh_other _ _ _ _ hu]
        exact hrel.th u
    · cases h3
    · refine ⟨s, Or.inl rfl, ⟨hrel.sh, ?_⟩⟩
      intro u
      by_cases hu : u = t
      · subst hu
        simp only [setTh_same]
        have : s.th u = ⟨(c.th u).loc, r⟩ := by
          cases hs : s.th u with
          | mk l o => rw [hs] at h1 h4; simp only at h1 h4; rw [h1, h4]; rfl
        rw [this]
        exact TRel.start _ _ h5 h6
      · simp only [setTh_other _ _ _ _ hu]
        exact hrel.th u

theorem rel_init (P : Nat → List (List (Act σ ρ))) (hwf : AllSharedAccessInsideLock P) (s0 : σ)
    (l0 : Nat → ρ) : Rel (initCfg P s0 l0) (initSCfg P s0 l0) := by
  refine ⟨fun _ => rfl, ?_⟩
  intro t
  exact TRel.start _ _ (by intro h; cases h) (hwf t)

theorem serialRun_snoc (order : List Nat) (t : Nat) (s : SCfg σ ρ) :
    serialRun (order ++ [t]) s = serialStep (serialRun order s) t := by
  simp [serialRun, List.foldl_append]

theorem steps_sim (c0 c : Cfg σ ρ) (s0 : SCfg σ ρ) (h0 : Rel c0 s0) (hs : Steps c0 c) :
    ∃ order, Rel c (serialRun order s0) := by
  induction hs with
  | refl => exact ⟨[], h0⟩
  | tail _ hstep ih =>
    obtain ⟨order, hrel⟩ := ih
    obtain ⟨s', hs', hrel'⟩ := step_sim _ _ _ hrel hstep
    rcases hs' with hs' | ⟨t, hs'⟩
    · exact ⟨order, hs' ▸ hrel'⟩
    · exact ⟨order ++ [t], by rw [serialRun_snoc]; exact hs' ▸ hrel'⟩

theorem rel_final (c : Cfg σ ρ) (s : SCfg σ ρ) (h : Rel c s) (hf : Final c) :
    s.sh = c.sh ∧ (∀ t, (s.th t).loc = (c.th t).loc) ∧ ∀ t, (s.th t).ops = [] := by
  have hth : ∀ t, (s.th t).loc = (c.th t).loc ∧ (s.th t).ops = [] ∧ c.lock ≠ some t := by
    intro t
    have := h.th t
    cases this with
    | idle h1 h2 h3 h4 => exact ⟨h3.symm, h2, h4⟩
    | before done cur r h1 h2 _ _ _ _ _ => rw [hf t] at h2; cases h2
    | inside done cur r h1 h2 _ _ _ _ => rw [hf t] at h2; cases h2
    | after cur r h1 h2 _ _ _ _ => rw [hf t] at h2; cases h2
  have hlock : c.lock = none := by
    cases hl : c.lock with
    | none => rfl
    | some t => exact absurd hl (hth t).2.2
  exact ⟨(h.sh hlock).symm, fun t => (hth t).1, fun t => (hth t).2.1⟩

end Tls.Conc
