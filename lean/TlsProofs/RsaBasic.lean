import TlsModel.Rsa
import TlsProofs.Crypto.BE
/-
  Core-Lean lemmas about the RSA model: square-and-multiply = `b ^ e % m`, bit/byte lengths against powers of
  2 and 256, the minimal big-endian string of a number (`beDecode_minimal`).  (No Mathlib here.)
-/
namespace Tls.Rsa

theorem powModFuel_eq (f b e m : Nat) (h : e < 2 ^ f) : powModFuel f b e m = b ^ e % m := by
  induction f generalizing e with
  | zero =>
    have : e = 0 := by simpa using h
    subst this; simp [powModFuel]
  | succ f ih =>
    unfold powModFuel
    by_cases he : e = 0
    · subst he; simp
    · simp only [he, if_false]
      have h2 : e / 2 < 2 ^ f := by
        rw [Nat.pow_succ] at h; omega
      rw [ih _ h2]
      have hsq : b ^ (e / 2) % m * (b ^ (e / 2) % m) % m = b ^ (2 * (e / 2)) % m := by
        rw [← Nat.mul_mod, ← Nat.pow_add]; congr 2; omega
      rw [hsq]
      by_cases ho : e % 2 = 1
      · simp only [ho, if_true]
        rw [Nat.mod_mul_mod, ← Nat.pow_succ]; congr 2; omega
      · simp only [ho, if_false]
        congr 2; omega

theorem lt_two_pow_numBits (n : Nat) : n < 2 ^ numBits n := by
  unfold numBits
  by_cases h : n = 0
  · subst h; simp
  · simp only [h, if_false]; exact Nat.lt_log2_self

theorem powMod_eq (b e m : Nat) : powMod b e m = b ^ e % m :=
  powModFuel_eq _ _ _ _ (lt_two_pow_numBits e)

theorem powMod_lt (b e m : Nat) (hm : 0 < m) : powMod b e m < m := by
  rw [powMod_eq]; exact Nat.mod_lt _ hm

theorem two_pow_numBits_le (n : Nat) (h : n ≠ 0) : 2 ^ (numBits n - 1) ≤ n := by
  unfold numBits
  simp only [h, if_false, Nat.add_sub_cancel]
  exact Nat.log2_self_le h

theorem numBits_pos (n : Nat) (h : n ≠ 0) : 0 < numBits n := by
  unfold numBits; simp [h]

theorem lt_pow_numBytes (n : Nat) : n < 256 ^ numBytes n := by
  rw [pow256]
  have h1 := lt_two_pow_numBits n
  have h2 : numBits n ≤ 8 * numBytes n := by unfold numBytes; omega
  exact Nat.lt_of_lt_of_le h1 (Nat.pow_le_pow_right (by omega) h2)

theorem pow_numBytes_pred_le (n : Nat) (h : n ≠ 0) : 256 ^ (numBytes n - 1) ≤ n := by
  rw [pow256]
  have h1 := two_pow_numBits_le n h
  have h0 := numBits_pos n h
  have h2 : 8 * (numBytes n - 1) ≤ numBits n - 1 := by unfold numBytes; omega
  exact Nat.le_trans (Nat.pow_le_pow_right (by omega) h2) h1

theorem numBytes_le_of_lt_pow (n k : Nat) (h : n < 256 ^ k) : numBytes n ≤ k := by
  by_cases hn : n = 0
  · subst hn; simp [numBytes, numBits]
  · rcases Nat.lt_or_ge k (numBytes n) with hc | hc
    · have h1 := pow_numBytes_pred_le n hn
      have h2 : 256 ^ k ≤ 256 ^ (numBytes n - 1) := Nat.pow_le_pow_right (by omega) (by omega)
      omega
    · exact hc

/-- the `if` is the body that `Der.hexBytes` and `Dh.minimalBytes` share -/
theorem beDecode_minimal (n : Nat) : beDecode (if n = 0 then [0] else beEncode (numBytes n) n) = n := by
  split
  · subst_vars; rfl
  · exact beDecode_beEncode_of_lt _ _ (lt_pow_numBytes n)

end Tls.Rsa
