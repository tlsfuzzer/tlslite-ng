import TlsProofs.Transcript
/-
  Soundness of the HelloRetryRequest comparison `hrrConsistent` (TlsModel/Transcript.lean): the list
  operations it performs on the first hello leave every extension outside {key_share, cookie, padding,
  pre_shared_key, early_data} where it is — provided the first hello has its pre_shared_key extension
  last (`pskLast`, the server's own guard on it).  The pre_shared_key step is `setLast`, which overwrites
  whatever extension stands last; `LastIn` carries "the last one may be overwritten" through the edits
  that come before it.
-/
namespace Tls.Transcript

def keepExt (e : Ext) : Bool := !hrrMutable e.typ

theorem filter_setExtData (l : List Ext) (t : Nat) (d : Bytes) (ht : hrrMutable t = true) :
    (setExtData l t d).filter keepExt = l.filter keepExt := by
  induction l with
  | nil => rfl
  | cons e r ih =>
    rw [setExtData]
    split
    · next h => simp [keepExt, beq_iff_eq.mp h, ht]
    · simp [List.filter_cons, ih]

/-- Python's `list.insert` -/
theorem insertAt_eq (l : List Ext) (i : Nat) (x : Ext) : insertAt l i x = l.take i ++ x :: l.drop i := by
  induction l generalizing i with
  | nil => cases i <;> rfl
  | cons a r ih => cases i <;> simp [insertAt, ih]

theorem filter_insertAt (l : List Ext) (i : Nat) (x : Ext) (hx : hrrMutable x.typ = true) :
    (insertAt l i x).filter keepExt = l.filter keepExt := by
  have hk : ¬ keepExt x = true := by simp [keepExt, hx]
  rw [insertAt_eq, List.filter_append, List.filter_cons_of_neg hk, ← List.filter_append,
    List.take_append_drop]

theorem filter_dropPadding (l : List Ext) :
    (l.filter (fun e => e.typ != extPadding)).filter keepExt = l.filter keepExt := by
  rw [List.filter_filter]
  refine List.filter_congr fun e _ => ?_
  by_cases h : e.typ = extPadding
  · simp [keepExt, hrrMutable, h]
  · simp [h]

theorem filter_erase (l : List Ext) (x : Ext) (hx : hrrMutable x.typ = true) :
    (l.erase x).filter keepExt = l.filter keepExt := by
  have hk : ¬ keepExt x = true := by simp [keepExt, hx]
  -- `erase` removes at most one occurrence of `x`, which the filter drops anyway
  rcases List.erase_eq_iff.mp (rfl : l.erase x = _) with ⟨_, h⟩ | ⟨l₁, l₂, _, hl, he⟩
  · rw [← h]
  · rw [he, hl, List.filter_append, List.filter_append, List.filter_cons_of_neg hk]

theorem find_typ {l : List Ext} {t : Nat} {x : Ext} (h : l.find? (fun e => e.typ == t) = some x) :
    x.typ = t := by
  simpa using List.find?_some h

theorem setLast_eq (l : List Ext) (x : Ext) :
    setLast l x = l.getLast?.map fun _ => l.dropLast ++ [x] := by
  induction l with
  | nil => rfl
  | cons a r ih => cases r <;> simp_all [setLast, Function.comp_def]

theorem filter_setLast {l l' : List Ext} {x : Ext} (h : setLast l x = some l')
    (hx : hrrMutable x.typ = true) (hl : ∀ e, l.getLast? = some e → hrrMutable e.typ = true) :
    l'.filter keepExt = l.filter keepExt := by
  rw [setLast_eq] at h
  cases hq : l.getLast? with
  | none => rw [hq] at h; cases h
  | some q =>
    have hk := hl q hq
    obtain ⟨ys, rfl⟩ := List.getLast?_eq_some_iff.mp hq
    rw [hq] at h
    cases h
    simp [List.filter_append, keepExt, hx, hk]

theorem map_typ_setExtData (l : List Ext) (t : Nat) (d : Bytes) :
    (setExtData l t d).map (·.typ) = l.map (·.typ) := by
  induction l with
  | nil => rfl
  | cons a r ih => rw [setExtData]; split <;> simp [ih]

theorem mem_setExtData {l : List Ext} {t : Nat} {d : Bytes} {e : Ext} (h : e ∈ setExtData l t d) :
    ∃ e' ∈ l, e'.typ = e.typ := by
  have := List.mem_map_of_mem (f := (·.typ)) h
  rwa [map_typ_setExtData, List.mem_map] at this

theorem getLast_setExtData {l : List Ext} {t : Nat} {d : Bytes} {e : Ext}
    (h : (setExtData l t d).getLast? = some e) : ∃ q, l.getLast? = some q ∧ q.typ = e.typ := by
  have := congrArg (Option.map (·.typ)) h
  rwa [← List.getLast?_map, map_typ_setExtData, List.getLast?_map, Option.map_some,
    Option.map_eq_some_iff] at this

theorem mem_insertAt {l : List Ext} {i : Nat} {x e : Ext} (h : e ∈ insertAt l i x) : e = x ∨ e ∈ l := by
  rw [insertAt_eq, List.mem_append, List.mem_cons] at h
  rcases h with h | h | h
  · exact Or.inr (List.mem_of_mem_take h)
  · exact Or.inl h
  · exact Or.inr (List.mem_of_mem_drop h)

theorem getLast_insertAt {l : List Ext} {i : Nat} {x e : Ext} (h : (insertAt l i x).getLast? = some e) :
    e = x ∨ l.getLast? = some e := by
  rw [insertAt_eq, List.getLast?_append, List.getLast?_cons, List.getLast?_drop] at h
  split at h
  · exact Or.inl (by simpa using h.symm)
  · cases hl : l.getLast? with
    | none => rw [hl] at h; exact Or.inl (by simpa using h.symm)
    | some q => rw [hl] at h; exact Or.inr (by simpa using h)

theorem getLast_filter_keep {l : List Ext} {p : Ext → Bool} {e : Ext} (h : l.getLast? = some e)
    (hp : p e = true) : (l.filter p).getLast? = some e := by
  obtain ⟨ys, rfl⟩ := List.getLast?_eq_some_iff.mp h
  rw [List.getLast?_filter, List.reverse_append, List.reverse_singleton, List.singleton_append,
    List.find?_cons_of_pos hp]

theorem indexOfType_get {l : List Ext} {t i : Nat} {x : Ext} (h : indexOfType l t = some i)
    (hx : l[i]? = some x) : x.typ = t := by
  induction l generalizing i with
  | nil => cases h
  | cons a r ih =>
    rw [indexOfType] at h
    split at h
    · next hc => cases h; cases hx; exact beq_iff_eq.mp hc
    · cases hr : indexOfType r t with
      | none => rw [hr] at h; cases h
      | some j => rw [hr] at h; cases h; exact ih hr hx

/-- the code's own guard on the first hello ("PSK extension not last in client hello") -/
def pskLast (l : List Ext) : Prop :=
  (∃ e ∈ l, e.typ = extPsk) → ∃ e, l.getLast? = some e ∧ e.typ = extPsk

/-- what `pskLast` says of the first hello, in the form the list edits of the comparison preserve.  `ok` is a
    parameter because removing the padding keeps the last element only if it is not padding (`LastIn.dropPadding`
    asks `ok extPadding = false`), which `hrrMutable` does not give. -/
def LastIn (ok : Nat → Bool) (l : List Ext) : Prop :=
  (∃ e ∈ l, e.typ = extPsk) → ∀ e, l.getLast? = some e → ok e.typ = true

theorem LastIn.mono {ok ok' : Nat → Bool} {l : List Ext} (h : LastIn ok l)
    (hok : ∀ t, ok t = true → ok' t = true) : LastIn ok' l :=
  fun hex e hl => hok _ (h hex e hl)

theorem LastIn.setExtData {ok : Nat → Bool} {l : List Ext} (h : LastIn ok l) (t : Nat) (d : Bytes) :
    LastIn ok (setExtData l t d) := by
  intro ⟨e, he, ht⟩ e' hl
  obtain ⟨a, ha, hat⟩ := mem_setExtData he
  obtain ⟨q, hq, hqt⟩ := getLast_setExtData hl
  rw [← hqt]
  exact h ⟨a, ha, hat.trans ht⟩ q hq

theorem LastIn.insertAt {ok : Nat → Bool} {l : List Ext} (h : LastIn ok l) (i : Nat) {x : Ext}
    (hx : x.typ ≠ extPsk) (hok : ok x.typ = true) : LastIn ok (insertAt l i x) := by
  intro ⟨e, he, ht⟩ e' hl
  rcases getLast_insertAt hl with rfl | hl'
  · exact hok
  · rcases mem_insertAt he with rfl | hm
    · exact absurd ht hx
    · exact h ⟨e, hm, ht⟩ e' hl'

theorem LastIn.dropPadding {ok : Nat → Bool} {l : List Ext} (h : LastIn ok l)
    (hok : ok extPadding = false) : LastIn ok (l.filter (fun e => e.typ != extPadding)) := by
  intro ⟨e, he, ht⟩ e' hl
  cases hl2 : l.getLast? with
  | none => rw [List.getLast?_eq_none_iff.mp hl2] at hl; cases hl
  | some q =>
    have hq := h ⟨e, (List.mem_filter.mp he).1, ht⟩ q hl2
    -- the last element is not padding, so the filter keeps it
    have hkeep : (q.typ != extPadding) = true := by
      rw [bne_iff_ne]; intro hp; rw [hp, hok] at hq; cases hq
    rw [getLast_filter_keep hl2 hkeep] at hl
    cases hl
    exact hq

theorem hrrConsistent_sound (ch1 ch2 : Hello) (groups : List Nat) (sel : Nat) (cookie : Bytes)
    (hpsk : pskLast ch1.exts) (h : hrrConsistent ch1 ch2 groups sel cookie = .ok ()) :
    ch2.version = ch1.version ∧ ch2.random = ch1.random ∧ ch2.sessionId = ch1.sessionId ∧
    ch2.suites = ch1.suites ∧ ch2.compression = ch1.compression ∧
    ch2.exts.filter keepExt = ch1.exts.filter keepExt := by
  unfold hrrConsistent at h
  -- the guards are peeled off one discriminant at a time (`split` on the whole comparison is slow)
  cases hks : getExt ch2 extKeyShare with
  | none => rw [hks] at h; cases h
  | some newKs =>
  rw [hks] at h
  dsimp only at h
  replace h := (ite_eq_right (ite_eq_right h nofun).2 nofun).2
  cases hidx : indexOfType ch2.exts extCookie with
  | none => rw [hidx] at h; cases h
  | some i =>
  rw [hidx] at h
  dsimp only at h
  cases hck : ch2.exts[i]? with
  | none => rw [hck] at h; cases h
  | some ck =>
  rw [hck] at h
  dsimp only at h
  replace h := (ite_eq_right h nofun).2
  generalize he1 : setExtData ch1.exts extKeyShare newKs.data = e1 at h
  generalize he2 : insertAt e1 i ck = e2 at h
  have hckt : ck.typ = extCookie := indexOfType_get hidx hck
  have f2 : e2.filter keepExt = ch1.exts.filter keepExt := by
    rw [← he2, ← he1, filter_insertAt _ _ _ (by rw [hckt]; rfl), filter_setExtData _ _ _ rfl]
  -- if there is a psk extension, the last one is psk or the inserted cookie
  have l2 : LastIn (fun t => t == extPsk || t == extCookie) e2 := by
    rw [← he2, ← he1]
    refine LastIn.insertAt (LastIn.setExtData ?_ _ _) _ (by rw [hckt]; decide) (by rw [hckt]; rfl)
    intro hex e hl
    obtain ⟨q, hq, hqt⟩ := hpsk hex
    rw [hq] at hl; cases hl
    rw [hqt]; rfl
  have weaken (t : Nat) (ht : (t == extPsk || t == extCookie) = true) : hrrMutable t = true := by
    rcases Bool.or_eq_true _ _ ▸ ht with ht | ht <;> rw [beq_iff_eq.mp ht] <;> rfl
  -- the arm that removes the padding needs `l2` itself (see `LastIn`); the other arms and `setLast` the weaker `l2'`
  have l2' : LastIn hrrMutable e2 := l2.mono weaken
  -- the padding step: padding inserted, removed, replaced or left alone
  generalize he3 : (if (e2.find? _ == _) = true then e2 else _) = e3 at h
  have f3 : e3.filter keepExt = ch1.exts.filter keepExt ∧ LastIn hrrMutable e3 := by
    rw [← he3]
    split
    · exact ⟨f2, l2'⟩
    · split
      · rename_i p j _ hnp _
        have hpt : p.typ = extPadding := find_typ hnp
        exact ⟨by rw [filter_insertAt _ _ _ (by rw [hpt]; rfl), f2],
          l2'.insertAt _ (by rw [hpt]; decide) (by rw [hpt]; rfl)⟩
      · exact ⟨by rw [filter_dropPadding, f2], (l2.dropPadding rfl).mono weaken⟩
      · exact ⟨by rw [filter_setExtData _ _ _ rfl, f2], l2'.setExtData _ _⟩
      · exact ⟨f2, l2'⟩
  obtain ⟨f3a, l3⟩ := f3
  split at h
  · cases h
  · rename_i e4 hr4
    have f4 : e4.filter keepExt = ch1.exts.filter keepExt := by
      split at hr4
      · rename_i q p hold hnew
        split at hr4
        · cases hr4
        · rename_i l4 hsl
          obtain ⟨_, hr4⟩ := ite_eq_right hr4 nofun
          cases hr4
          have hpm : hrrMutable p.typ = true := by rw [find_typ hnew]; rfl
          rw [filter_setLast hsl hpm (l3 ⟨q, List.mem_of_find?_eq_some hold, find_typ hold⟩), f3a]
      · cases hr4; exact f3a
    rw [← Decidable.not_not.mp (ite_eq_right h nofun).1]
    refine ⟨rfl, rfl, rfl, rfl, rfl, ?_⟩
    dsimp only
    split
    · next x hx => rw [filter_erase _ _ (by rw [find_typ hx]; rfl), f4]
    · exact f4

end Tls.Transcript
