import TlsModel.Transcript
import TlsProofs.Guards
import TlsProofs.Crypto.BE
/-
  C04, the part about runs: the transcript encoding is injective on well-formed message lists; what one
  step of an endpoint does (`step_effect`) and the invariant of a run (`runFrom_effect`); from these,
  for any scripts, the reduction (`both_complete_of_twoFins`) and the state after a restart
  (`run_restart_head`).  What the flow scripts are is in TranscriptFlows.lean.  The second component of
  `step_effect` / `runFrom_effect` ties a run to `shapeOf`, which the driver prints; `vlt_false_of_vle_of_vle`
  is the one fact about the version order that `fallback_scsv_enforced` needs.
-/
namespace Tls.Transcript

theorem be24_length (n : Nat) : (be24 n).length = 3 := rfl

theorem be24_eq (n : Nat) : be24 n = beEncode 3 n := by simp [be24, beEncode]

theorem be24_inj {n m : Nat} (hn : n < 2 ^ 24) (hm : m < 2 ^ 24) (h : be24 n = be24 m) : n = m := by
  rw [be24_eq, be24_eq] at h
  exact beEncode_inj 3 n m hn hm h

def AllWF (ms : List Msg) : Prop := ∀ m ∈ ms, m.WF

theorem enc_append_inj {m1 m2 : Msg} {r1 r2 : Bytes} (h1 : m1.WF) (h2 : m2.WF)
    (h : m1.enc ++ r1 = m2.enc ++ r2) : m1 = m2 ∧ r1 = r2 := by
  unfold Msg.enc at h
  simp only [List.cons_append, List.cons.injEq, List.append_assoc] at h
  obtain ⟨hl, hrest⟩ := List.append_inj h.2 rfl
  obtain ⟨hb, hr⟩ := List.append_inj hrest (be24_inj h1 h2 hl)
  cases m1; cases m2; simp_all

theorem enc_ne_nil (m : Msg) : m.enc ≠ [] := by simp [Msg.enc]

theorem encAll_inj : ∀ {a b : List Msg}, AllWF a → AllWF b → encAll a = encAll b → a = b
  | [], [], _, _, _ => rfl
  | [], m :: _, _, _, h => by simp [encAll, Msg.enc] at h
  | m :: _, [], _, _, h => by simp [encAll, Msg.enc] at h
  | m1 :: r1, m2 :: r2, ha, hb, h => by
    obtain ⟨h1, ha⟩ := List.forall_mem_cons.mp ha
    obtain ⟨h2, hb⟩ := List.forall_mem_cons.mp hb
    obtain ⟨hm, hr⟩ := enc_append_inj h1 h2 h
    rw [hm, encAll_inj ha hb hr]

theorem encAll_append (a b : List Msg) : encAll (a ++ b) = encAll a ++ encAll b := by
  induction a with
  | nil => rfl
  | cons m r ih => simp [encAll, ih]

theorem vlt_false_of_vle_of_vle {a b c : Version} (h1 : vle a b = true) (h2 : vle b c = true) :
    vlt c a = false := by
  rcases a with ⟨a1, a2⟩
  rcases b with ⟨b1, b2⟩
  rcases c with ⟨c1, c2⟩
  simp only [vle, vlt, Bool.or_eq_true, Bool.and_eq_true, decide_eq_true_eq, beq_iff_eq, Prod.mk.injEq,
    Bool.or_eq_false_iff, Bool.and_eq_false_imp, decide_eq_false_iff_not] at *
  omega

theorem mkFin_vd (P : Prims) (s : Side) (tr : List Msg) (k : Bytes) :
    (mkFin P s tr k).vd = P.outer (mkFin P s tr k).key (mkFin P s tr k).sender (mkFin P s tr k).digest := rfl

variable {P : Prims} {me : Side} {B : Beh} {e e' : EP}

theorem runFrom_append (P : Prims) (me : Side) (B : Beh) (a b : List Ev) (e : EP) :
    runFrom P me B e (a ++ b) =
      (match runFrom P me B e a with
       | .ok e' => runFrom P me B e' b
       | .error x => .error x) := by
  induction a generalizing e with
  | nil => simp [runFrom]
  | cons ev r ih =>
    simp only [List.cons_append, runFrom]
    cases step P me B e ev with
    | error x => rfl
    | ok e' => exact ih e'

theorem runFrom_append_ok {a b : List Ev}
    (h : runFrom P me B e (a ++ b) = .ok e') :
    ∃ e1, runFrom P me B e a = .ok e1 ∧ runFrom P me B e1 b = .ok e' := by
  rw [runFrom_append] at h
  cases h1 : runFrom P me B e a with
  | error x => rw [h1] at h; cases h
  | ok e1 => rw [h1] at h; exact ⟨e1, rfl, h⟩

theorem runFrom_cons_ok {ev : Ev} {r : List Ev}
    (h : runFrom P me B e (ev :: r) = .ok e') :
    ∃ e1, step P me B e ev = .ok e1 ∧ runFrom P me B e1 r = .ok e' := by
  rw [runFrom] at h
  cases hs : step P me B e ev with
  | error x => rw [hs] at h; cases h
  | ok e1 => rw [hs] at h; exact ⟨e1, rfl, h⟩

theorem step_msg {s : Side} {k : Kind}
    (h : step P me B e (.msg s k) = .ok e') :
    ∃ m : Msg, m.htype = k.htype ∧ m.WF ∧ e'.tr = e.tr ++ [m] ∧
      e'.pre = e.pre ∧ e'.computed = e.computed ∧ e'.accepted = e.accepted := by
  simp only [step] at h
  by_cases hs : s = me
  · rw [if_pos hs] at h
    obtain ⟨hwf, h⟩ := ite_eq_left h nofun
    cases h
    exact ⟨_, rfl, hwf, rfl, rfl, rfl, rfl⟩
  · rw [if_neg hs] at h
    rcases hin : e.input with _ | ⟨m | _, rest⟩ <;> rw [hin] at h <;> try cases h
    obtain ⟨ht, h⟩ := ite_eq_right h nofun
    obtain ⟨hwf, h⟩ := ite_eq_right h nofun
    obtain ⟨_, h⟩ := ite_eq_right h nofun
    cases h
    exact ⟨m, Decidable.not_not.mp ht, Decidable.not_not.mp hwf, rfl, rfl, rfl, rfl⟩

theorem step_ccs {s : Side}
    (h : step P me B e (.ccs s) = .ok e') :
    e'.tr = e.tr ∧ e'.pre = e.pre ∧ e'.computed = e.computed ∧ e'.accepted = e.accepted := by
  simp only [step] at h
  by_cases hs : s = me
  · rw [if_pos hs] at h; cases h
    exact ⟨rfl, rfl, rfl, rfl⟩
  · rw [if_neg hs] at h
    rcases hin : e.input with _ | ⟨m | _, rest⟩ <;> rw [hin] at h <;> cases h
    exact ⟨rfl, rfl, rfl, rfl⟩

theorem step_fin {s : Side}
    (h : step P me B e (.fin s) = .ok e') :
    (⟨Kind.finished.htype, (mkFin P s e.tr (B.secret e.tr)).vd⟩ : Msg).WF ∧
    e'.tr = e.tr ++ [⟨Kind.finished.htype, (mkFin P s e.tr (B.secret e.tr)).vd⟩] ∧
    e'.pre = e.pre ∧
    e'.computed = e.computed ++ (if s = me then [mkFin P s e.tr (B.secret e.tr)] else []) ∧
    e'.accepted = e.accepted ++ (if s = me then [] else [mkFin P s e.tr (B.secret e.tr)]) := by
  simp only [step] at h
  by_cases hs : s = me
  · rw [if_pos hs] at h
    obtain ⟨hwf, h⟩ := ite_eq_left h nofun
    cases h
    subst hs
    exact ⟨hwf, rfl, rfl, by rw [if_pos rfl], by rw [if_pos rfl, List.append_nil]⟩
  · rw [if_neg hs] at h
    rcases hin : e.input with _ | ⟨m | _, rest⟩ <;> rw [hin] at h <;> try cases h
    obtain ⟨ht, h⟩ := ite_eq_right h nofun
    obtain ⟨hwf, h⟩ := ite_eq_right h nofun
    obtain ⟨hacc, h⟩ := ite_eq_left h nofun
    cases h
    -- the accepted message is the Finished this endpoint computes itself
    have hm : m = ⟨Kind.finished.htype, (mkFin P s e.tr (B.secret e.tr)).vd⟩ := by
      cases m
      simp only [Msg.mk.injEq]
      exact ⟨Decidable.not_not.mp ht, by simpa [finishedAccept, mkFin] using hacc⟩
    subst hm
    exact ⟨Decidable.not_not.mp hwf, rfl, rfl, by rw [if_neg hs, List.append_nil], by rw [if_neg hs]⟩

theorem step_restart (h : step P me B e .restart = .ok e') :
    (⟨Kind.messageHash.htype, P.H (encAll e.tr)⟩ : Msg).WF ∧
    e'.tr = [⟨Kind.messageHash.htype, P.H (encAll e.tr)⟩] ∧ e'.pre = e.tr ∧
    e'.computed = e.computed ∧ e'.accepted = e.accepted := by
  simp only [step] at h
  obtain ⟨hwf, h⟩ := ite_eq_left h nofun
  cases h
  exact ⟨hwf, rfl, rfl, rfl, rfl⟩

theorem allWF_append {a : List Msg} {m : Msg} (ha : AllWF a) (hm : m.WF) : AllWF (a ++ [m]) :=
  fun x hx => (List.mem_append.mp hx).elim (ha x) fun h => List.mem_singleton.mp h ▸ hm

/-- the Finished records of direction `z` that endpoint `me` holds: computed if `z` is its own direction, accepted
    otherwise; so `step_effect` says what `.fin` does in one clause for sender and receiver -/
def fins (me z : Side) (e : EP) : List FinRec := if z = me then e.computed else e.accepted

/-- the Finished message of direction `z` over the transcript `t`, as sender and receiver alike
    append it -/
def finMsg (P : Prims) (B : Beh) (z : Side) (t : List Msg) : Msg :=
  ⟨Kind.finished.htype, (mkFin P z t (B.secret t)).vd⟩

theorem step_effect {ev : Ev}
    (h : step P me B e ev = .ok e') (hwf : AllWF e.tr) :
    AllWF e'.tr ∧ e'.tr.map Msg.htype = shapeStep (e.tr.map Msg.htype) ev ∧
    (∀ z, fins me z e' = fins me z e ++ (if isFin z ev then [mkFin P z e.tr (B.secret e.tr)] else [])) ∧
    (ev ≠ .restart → e.tr <+: e'.tr ∧ e'.pre = e.pre) := by
  cases ev with
  | msg s k =>
    obtain ⟨m, ht, hm, htr, hp, hc, ha⟩ := step_msg h
    refine ⟨?_, ?_, by simp [fins, isFin, hc, ha], fun _ => ⟨htr ▸ List.prefix_append _ _, hp⟩⟩
    · rw [htr]; exact allWF_append hwf hm
    · rw [htr]; simp [shapeStep, ht]
  | ccs s =>
    obtain ⟨htr, hp, hc, ha⟩ := step_ccs h
    exact ⟨by rw [htr]; exact hwf, by rw [htr]; rfl, by simp [fins, isFin, hc, ha],
      fun _ => ⟨htr ▸ List.prefix_refl _, hp⟩⟩
  | fin s =>
    obtain ⟨hm, htr, hp, hc, ha⟩ := step_fin h
    refine ⟨?_, ?_, ?_, fun _ => ⟨htr ▸ List.prefix_append _ _, hp⟩⟩
    · rw [htr]; exact allWF_append hwf hm
    · rw [htr]; simp [shapeStep]
    · -- two sides: a Finished not of my direction is of the other
      intro z
      cases s <;> cases me <;> cases z <;> simp [fins, isFin, hc, ha]
  | restart =>
    obtain ⟨hm, htr, _, hc, ha⟩ := step_restart h
    refine ⟨?_, by rw [htr]; rfl, by simp [fins, isFin, hc, ha], fun hne => absurd rfl hne⟩
    rw [htr]
    exact fun x hx => List.mem_singleton.mp hx ▸ hm

def noRestart (l : List Ev) : Bool := l.all (fun ev => ev != .restart)

theorem runFrom_effect {script : List Ev}
    (h : runFrom P me B e script = .ok e') (hwf : AllWF e.tr) :
    AllWF e'.tr ∧ e'.tr.map Msg.htype = shapeOf script (e.tr.map Msg.htype) ∧
    (∀ z, noFin z script = true → fins me z e' = fins me z e) ∧
    (noRestart script = true → e.tr <+: e'.tr ∧ e'.pre = e.pre) := by
  induction script generalizing e with
  | nil => cases h; exact ⟨hwf, rfl, fun _ _ => rfl, fun _ => ⟨List.prefix_refl _, rfl⟩⟩
  | cons ev r ih =>
    obtain ⟨e1, hs, h⟩ := runFrom_cons_ok h
    obtain ⟨hwf1, hsh1, hf1, hp1⟩ := step_effect hs hwf
    obtain ⟨hwf', hsh', hf', hp'⟩ := ih h hwf1
    refine ⟨hwf', by rw [hsh', hsh1]; rfl, fun z hn => ?_, fun hn => ?_⟩
    · simp only [noFin, List.all_cons, Bool.and_eq_true, Bool.not_eq_true'] at hn
      rw [hf' z hn.2, hf1, hn.1]
      exact List.append_nil _
    · simp only [noRestart, List.all_cons, Bool.and_eq_true, bne_iff_ne, ne_eq] at hn
      obtain ⟨hp, hq⟩ := hp1 hn.1
      obtain ⟨hp2, hq2⟩ := hp' hn.2
      exact ⟨hp.trans hp2, hq2.trans hq⟩

theorem splitAtFin_spec {z : Side} : ∀ {l a b : List Ev}, splitAtFin z l = some (a, b) →
    l = a ++ .fin z :: b ∧ noFin z a = true
  | [], _, _, h => by cases h
  | ev :: r, a, b, h => by
    rw [splitAtFin] at h
    by_cases hf : isFin z ev = true
    · rw [if_pos hf] at h
      cases h
      cases ev <;> simp only [isFin, beq_iff_eq, Bool.false_eq_true] at hf
      subst hf
      exact ⟨rfl, rfl⟩
    · rw [if_neg hf] at h
      cases hr : splitAtFin z r with
      | none => rw [hr] at h; cases h
      | some ab =>
        rw [hr] at h
        cases h
        obtain ⟨hl, hn⟩ := splitAtFin_spec hr
        exact ⟨by rw [hl]; rfl, by simpa [noFin, hf] using hn⟩

/-- A script with one Finished per direction, that of `z` ending it, and no restart of the
    transcript between the two: what the reduction needs of a flow. -/
def TwoFins (l : List Ev) (z : Side) : Prop :=
  ∃ a b, l = a ++ .fin z.other :: (b ++ [.fin z]) ∧ (∀ d, noFin d a = true) ∧ (∀ d, noFin d b = true) ∧
    noRestart b = true

/-- `T d` is the transcript over which the Finished of direction `d` was computed or checked; the endpoint holds that
    one record per direction.  The first Finished is over a strictly shorter transcript (no restart in between),
    from which `both_complete_of_twoFins` gets that both sides have the same last sender. -/
theorem run_twoFins {l : List Ev} {z : Side} {input : List Wire}
    (hl : TwoFins l z) (h : runSide P me B l input = .ok e) :
    ∃ T : Side → List Msg, (∀ d, AllWF (T d)) ∧
      (∀ d, fins me d e = [mkFin P d (T d) (B.secret (T d))]) ∧
      (T z.other).length < (T z).length ∧ e.tr = T z ++ [finMsg P B z (T z)] := by
  obtain ⟨a, b, rfl, hna, hnb, hrb⟩ := hl
  obtain ⟨e1, h1, h⟩ := runFrom_append_ok h
  obtain ⟨e2, hs2, h⟩ := runFrom_cons_ok h
  obtain ⟨e3, h3, h⟩ := runFrom_append_ok h
  obtain ⟨e4, hs4, h⟩ := runFrom_cons_ok h
  cases h
  obtain ⟨w1, _, f1, _⟩ := runFrom_effect h1 (fun _ hx => nomatch hx)
  obtain ⟨w2, _, f2, _⟩ := step_effect hs2 w1
  obtain ⟨w3, _, f3, p3⟩ := runFrom_effect h3 w2
  obtain ⟨_, _, f4, _⟩ := step_effect hs4 w3
  have hne : z ≠ z.other := by cases z <;> simp [Side.other]
  obtain ⟨T, hz, ho⟩ : ∃ T : Side → List Msg, T z = e3.tr ∧ T z.other = e1.tr :=
    ⟨fun d => if d = z then e3.tr else e1.tr, if_pos rfl, if_neg hne.symm⟩
  have side (d : Side) : d = z ∨ d = z.other := by cases d <;> cases z <;> simp [Side.other]
  refine ⟨T, fun d => ?_, fun d => ?_, ?_, ?_⟩
  · rcases side d with rfl | rfl
    · rw [hz]; exact w3
    · rw [ho]; exact w1
  · rw [f4, f3 d (hnb d), f2, f1 d (hna d)]
    rcases side d with rfl | rfl
    · simp [fins, isFin, hne.symm, hz]
    · simp [fins, isFin, hne, ho]
  · have := (p3 hrb).1.length_le
    rw [(step_fin hs2).2.1, List.length_append] at this
    rw [hz, ho]
    exact this
  · rw [hz]; exact (step_fin hs4).2.1

theorem run_restart_head {s : Side} {k : Kind} {rest : List Ev} {input : List Wire}
    (hk : noRestart rest = true) (h : runSide P me B (.msg s k :: .restart :: rest) input = .ok e) :
    ∃ m tail, e.pre = [m] ∧ m.htype = k.htype ∧ m.WF ∧
      e.tr = ⟨Kind.messageHash.htype, P.H (encAll [m])⟩ :: tail := by
  obtain ⟨e1, h1, h2⟩ := runFrom_cons_ok h
  obtain ⟨e2, h3, h4⟩ := runFrom_cons_ok h2
  obtain ⟨m, hm, hmwf, htr1, _, _, _⟩ := step_msg h1
  obtain ⟨hw2, htr2, hpre2, _, _⟩ := step_restart h3
  obtain ⟨⟨tail, htail⟩, hpre⟩ :=
    (runFrom_effect h4 (htr2 ▸ fun x hx => List.mem_singleton.mp hx ▸ hw2)).2.2.2 hk
  have htr1' : e1.tr = [m] := by simpa using htr1
  refine ⟨m, tail, by rw [hpre, hpre2, htr1'], hm, hmwf, ?_⟩
  rw [← htail, htr2, htr1']; rfl

theorem mem_recs {r : FinRec} (me : Side) : r ∈ e.recs ↔ ∃ d, r ∈ fins me d e := by
  unfold fins EP.recs
  rw [List.mem_append]
  constructor
  · rintro (h | h)
    · exact ⟨me, by rwa [if_pos rfl]⟩
    · exact ⟨me.other, by rwa [if_neg (by cases me <;> simp [Side.other])]⟩
  · rintro ⟨d, h⟩
    by_cases hd : d = me
    · rw [if_pos hd] at h; exact .inl h
    · rw [if_neg hd] at h; exact .inr h

theorem fin_match {d : Side} {Bc Bs : Beh} {c s : EP} {tc ts : List Msg}
    (hc : fins .client d c = [mkFin P d tc (Bc.secret tc)])
    (hs : fins .server d s = [mkFin P d ts (Bs.secret ts)]) (wc : AllWF tc) (ws : AllWF ts) :
    (tc = ts ∧ Bc.secret tc = Bs.secret ts) ∨ HashCollision P c s ∨ FinishedForgery c s := by
  by_cases hin : (mkFin P d tc (Bc.secret tc)).input = (mkFin P d ts (Bs.secret ts)).input
  · -- the receiver's accepted input is the one the sender authenticated
    simp only [FinRec.input, mkFin, Prod.mk.injEq, true_and] at hin
    by_cases htb : encAll tc = encAll ts
    · exact Or.inl ⟨encAll_inj wc ws htb, hin.1⟩
    · refine Or.inr (Or.inl (Or.inl
        ⟨mkFin P d tc (Bc.secret tc), (mem_recs .client).mpr ⟨d, hc ▸ List.mem_singleton_self _⟩,
          mkFin P d ts (Bs.secret ts), (mem_recs .server).mpr ⟨d, hs ▸ List.mem_singleton_self _⟩,
          hin.1, rfl, htb, hin.2⟩))
  · -- the receiver is the server for the client's Finished and the other way round
    refine Or.inr (Or.inr ?_)
    cases d <;> simp only [fins, if_true, reduceCtorEq, if_false] at hc hs
    · refine Or.inr ⟨mkFin P .client ts (Bs.secret ts), by simp [hs], fun r' hr' => ?_⟩
      rw [hc, List.mem_singleton] at hr'
      rw [hr']; exact hin
    · refine Or.inl ⟨mkFin P .server tc (Bc.secret tc), by simp [hc], fun r' hr' => ?_⟩
      rw [hs, List.mem_singleton] at hr'
      rw [hr']; exact fun h => hin h.symm

/-- Which Finished comes last need not be given to be the same on the two sides: if it were not, each side's
    transcript at its last Finished would extend the other's. -/
theorem both_complete_of_twoFins {lc ls : List Ev} {zc zs : Side} {Bc Bs : Beh}
    {inC inS : List Wire} {c s : EP} (hlc : TwoFins lc zc) (hls : TwoFins ls zs)
    (hc : runSide P .client Bc lc inC = .ok c) (hs : runSide P .server Bs ls inS = .ok s) :
    (c.tr = s.tr ∧ finKeysAgree c s) ∨ HashCollision P c s ∨ FinishedForgery c s := by
  obtain ⟨Tc, wc, fc, lenc, trc⟩ := run_twoFins hlc hc
  obtain ⟨Ts, ws, fs, lens, trs⟩ := run_twoFins hls hs
  have m (d : Side) := fin_match (fc d) (fs d) (wc d) (ws d)
  rcases m .client with h1 | bad
  rcases m .server with h2 | bad
  · have ht : ∀ d, Tc d = Ts d := fun | .client => h1.1 | .server => h2.1
    have hk : ∀ d, Bc.secret (Tc d) = Bs.secret (Ts d) := fun | .client => h1.2 | .server => h2.2
    refine Or.inl ⟨?_, ?_⟩
    · have hz : zc = zs := by
        cases zc <;> cases zs <;> first | rfl | (simp only [Side.other, ht] at lenc lens; omega)
      subst hz
      rw [trc, trs, finMsg, finMsg, hk, ht]
    · intro ra hra rb hrb hsnd
      obtain ⟨d, hd⟩ := (mem_recs .client).mp hra
      obtain ⟨d', hd'⟩ := (mem_recs .server).mp hrb
      rw [fc, List.mem_singleton] at hd
      rw [fs, List.mem_singleton] at hd'
      subst hd hd'
      cases (hsnd : d = d')
      exact hk d
  · exact Or.inr bad
  · exact Or.inr bad

end Tls.Transcript
