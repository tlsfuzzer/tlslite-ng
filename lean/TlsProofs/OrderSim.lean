import TlsProofs.OrderRun
/-
  C06: the simulation between the automaton and the grammar.  `rest c s` is the part
  of the RFC grammar that is still to come at position `s` of the flow; a message the flow accepts
  consumes the head of it (`flow_go`, `stepHs_next`), a message that is dropped is a transparent one
  (`stepHs_ignore`), and at the first position it is the whole grammar (`rest_start`).  Hence
  `hsRunK_allowed`, for every configuration, negotiable or not; no configuration is evaluated.
  `flow_bump`, the other fact read off the arms of `flow`, is here too: modules that walk `flow`
  independently of each other cannot be imported together (Lean makes the same auxiliary
  declarations in both).
-/
namespace Tls.Order

theorem matchSeq_req (ks : List MsgKind) (is : List Item) (k : MsgKind) (t : List MsgKind) :
    matchSeq (.req ks :: is) (k :: t) = (ks.contains k && matchSeq is t) := rfl

theorem matchSeq_opt (ks : List MsgKind) (is : List Item) (k : MsgKind) (t : List MsgKind) :
    matchSeq (.opt ks :: is) (k :: t) = (matchSeq is (k :: t) || (ks.contains k && matchSeq is t)) := rfl

theorem matchSeq_opt_skip {ks : List MsgKind} {is : List Item} {t : List MsgKind}
    (h : matchSeq is t = true) : matchSeq (.opt ks :: is) t = true := by
  cases t <;> simp [matchSeq, h]

theorem matchSeq_reqIf (b : Bool) (ks : List MsgKind) (is : List Item) (t : List MsgKind) :
    matchSeq (reqIf b ks ++ is) t = if b then matchSeq (.req ks :: is) t else matchSeq is t := by
  cases b <;> rfl

theorem matchSeq_optIf (b : Bool) (ks : List MsgKind) (is : List Item) (k : MsgKind) (t : List MsgKind) :
    matchSeq (optIf b ks ++ is) (k :: t) = (matchSeq is (k :: t) || (b && ks.contains k && matchSeq is t)) := by
  cases b <;> simp [optIf, matchSeq_opt]

def certItem (c : Cfg) : Item :=
  .req (if c.compCert then [.certificate, .compressed_certificate] else [.certificate])

/-- after the ≤ 1.2 ChangeCipherSpec: NextProtocol goes to the server only -/
def gfTail (c : Cfg) : List Item :=
  (if c.role == .server then (if c.resumed then optIf c.npn else reqIf c.npn) [.next_protocol] else []) ++
  [.req [.finished]]

/-- `_getFinished` -/
def gfItems (c : Cfg) : List Item := reqIf (expectsNST c) [.new_session_ticket] ++ .req [.ccs] :: gfTail c

/-- client ≤ 1.2 after the ServerKeyExchange -/
def c12Tail (c : Cfg) : List Item :=
  optIf c.certKx [.certificate_request] ++ .req [.server_hello_done] :: gfItems c

/-- client TLS 1.3 after the ServerHello -/
def c13Tail (c : Cfg) : List Item :=
  .req [.encrypted_extensions] ::
    (if c.pskMode then [] else [.opt [.certificate_request], certItem c, .req [.certificate_verify]]) ++
    [.req [.finished]]

/-- server TLS 1.3 after its flight -/
def s13Tail (c : Cfg) : List Item :=
  (if c.reqCert && !c.pskMode then certItem c :: reqIf c.clientCert [.certificate_verify] else []) ++
  [.req [.finished]]

/-- server ≤ 1.2 from the ClientKeyExchange on -/
def ckeTail (c : Cfg) (cv : Bool) : List Item :=
  .req [.client_key_exchange] :: reqIf cv [.certificate_verify] ++ gfItems c

def rest (c : Cfg) : St → List Item
  | .cWaitSH =>
      if c.isTls13 then optIf c.hrr [.hrr] ++ .req [.server_hello] :: c13Tail c
      else .req [.server_hello] ::
        (if c.resumed then gfItems c
         else reqIf c.certKx [.certificate] ++ reqIf c.skeKx [.server_key_exchange] ++ c12Tail c)
  | .cWaitSH2 => .req [.server_hello] :: c13Tail c
  | .cWaitCert => .req [.certificate] :: reqIf c.skeKx [.server_key_exchange] ++ c12Tail c
  | .cWaitSKE => .req [.server_key_exchange] :: c12Tail c
  | .cWaitCRorSHD => c12Tail c
  | .cWaitSHD => .req [.server_hello_done] :: gfItems c
  | .c13WaitEE => c13Tail c
  | .c13WaitCRorCert => [.opt [.certificate_request], certItem c, .req [.certificate_verify], .req [.finished]]
  | .c13WaitCert => [certItem c, .req [.certificate_verify], .req [.finished]]
  | .c13WaitCV | .s13WaitCV => [.req [.certificate_verify], .req [.finished]]
  | .c13WaitFin | .s13WaitFin | .gfFin => [.req [.finished]]
  | .sWaitCH => .req [.client_hello] ::
      (if c.isTls13 then reqIf c.hrr [.client_hello] ++ s13Tail c
       else if c.resumed then gfItems c
       else reqIf c.reqCert [.certificate] ++ ckeTail c (c.reqCert && c.clientCert))
  | .sWaitCH2 => .req [.client_hello] :: s13Tail c
  | .sWaitCert => .req [.certificate] :: ckeTail c c.clientCert
  | .sWaitCKE cv => ckeTail c cv
  | .sWaitCV => .req [.certificate_verify] :: gfItems c
  | .gfFirst => gfItems c
  | .gfCCS => .req [.ccs] :: gfTail c
  | .gfNP => [.req [.next_protocol], .req [.finished]]
  | .s13WaitCert => certItem c :: reqIf c.clientCert [.certificate_verify] ++ [.req [.finished]]
  | _ => []

/-- SSLv3: the second sequence a server that asked for a certificate takes (no_certificate alert) -/
def takesAlt (c : Cfg) : St → List MsgKind → Bool
  | .sWaitCH, t =>
      c.reqCert && !c.resumed &&
        matchSeq (.req [.client_hello] :: .req [.no_certificate_alert] :: ckeTail c false) t
  | .sWaitCert, t => matchSeq (.req [.no_certificate_alert] :: ckeTail c false) t
  | _, _ => false

/-- the relation the simulation keeps: `rest` alone is not enough, since under SSLv3 `sWaitCH` / `sWaitCert` have a
    second continuation -/
def takes (c : Cfg) (s : St) (t : List MsgKind) : Bool :=
  matchSeq (rest c s) t || (c.ver == .ssl3 && takesAlt c s t)

/-- the position belongs to the flow of the negotiated version -/
def fits (c : Cfg) : St → Bool
  | .cWaitSH2 | .c13WaitEE | .c13WaitCRorCert | .c13WaitCert | .c13WaitCV | .c13WaitFin
  | .sWaitCH2 | .s13WaitCert | .s13WaitCV | .s13WaitFin | .phaWaitCV | .phaWaitFin => c.isTls13
  | .cWaitCert | .cWaitSKE | .cWaitCRorSHD | .cWaitSHD | .sWaitCert | .sWaitCKE _ | .sWaitCV
  | .gfFirst | .gfCCS | .gfNP | .gfFin => !c.isTls13
  | _ => true

theorem matchSeq_certItem (c : Cfg) (is : List Item) (k : MsgKind) (t : List MsgKind) :
    matchSeq (certItem c :: is) (k :: t) = true ↔
      (k = .certificate ∨ (k = .compressed_certificate ∧ c.compCert = true)) ∧ matchSeq is t = true := by
  cases h : c.compCert <;> simp [certItem, matchSeq_req, h]

theorem takes_afterCCS (c : Cfg) (t : List MsgKind) (h : takes c (afterCCS c) t = true) :
    matchSeq (gfTail c) t = true := by
  revert h
  unfold afterCCS gfTail
  cases hr : c.role == .server <;> cases hn : c.npn <;> cases hres : c.resumed <;>
    simp [takes, rest, takesAlt, reqIf, optIf] <;> exact matchSeq_opt_skip

theorem fits_afterCCS (c : Cfg) : fits c (afterCCS c) = !c.isTls13 := by
  unfold afterCCS; split <;> rfl

theorem takes_s13AfterFlight (c : Cfg) (t : List MsgKind) :
    takes c (s13AfterFlight c) t = matchSeq (s13Tail c) t := by
  unfold s13AfterFlight s13Tail; split <;> simp_all [takes, rest, takesAlt]

theorem fits_s13AfterFlight (c : Cfg) : fits c (s13AfterFlight c) = c.isTls13 := by
  unfold s13AfterFlight; split <;> rfl

theorem Cfg.skeKx_of_not_certKx (c : Cfg) (h : c.certKx = false) : c.skeKx = true := by
  cases hk : c.kx <;> simp_all [Cfg.certKx, Cfg.skeKx]

theorem Cfg.certKx_of_certReqKx (c : Cfg) (h : c.certReqKx = true) : c.certKx = true := by
  cases hk : c.kx <;> simp_all [Cfg.certKx, Cfg.certReqKx]

/-- `hx` is what one arm needs: at `gfFirst` `flow` goes on with a NewSessionTicket whether or not one is expected (the
    gate of `stepHs` refuses the unexpected one), and `rest c .gfFirst` has it only if `expectsNST` -/
theorem flow_go (c : Cfg) (s s' : St) (k : MsgKind) (b : Bool) (hw : fits c s = true)
    (hx : expectsHandshake c s = true) (h : flow c s k = some (.go s' b)) :
    fits c s' = true ∧ nt c k = true ∧ ∀ t, takes c s' t = true → takes c s (k :: t) = true := by
  revert h
  fun_cases flow c s k <;> intro h <;> first | (cases h; done) | skip
  all_goals
    (repeat' split at h) <;> cases h <;>
      simp_all [↓takes_s13AfterFlight, ↓fits_s13AfterFlight, Cfg.skeKx_of_not_certKx, Cfg.certKx_of_certReqKx,
        takes, rest, takesAlt, fits, nt, transparent, matchSeq_req, matchSeq_opt, matchSeq_reqIf,
        matchSeq_optIf, matchSeq_certItem, c12Tail, c13Tail, s13Tail, ckeTail, gfItems, expectsHandshake]

/-- the flows change the read keys only on messages that must end their record, at positions where
    either `_getMsg` (TLS 1.3 version already set) or the flow (first hello) checks that -/
theorem flow_bump (c : Cfg) (s s' : St) (k : MsgKind) (h : flow c s k = some (.go s' true)) :
    mustAlign k = true ∧ (firstHello c s k = true ∨ v13Active c s = true) := by
  revert h
  -- most arms of `flow` answer `go _ false`, a rejection or nothing
  fun_cases flow c s k <;> intro h <;> first | (cases h; done) | skip
  all_goals
    revert h
    simp [mustAlign, firstHello, v13Active] <;> (repeat' split) <;> simp_all

theorem v13Active_fits (c : Cfg) (s : St) (hw : fits c s = true) (h : v13Active c s = true) :
    c.isTls13 = true ∧ s ≠ .cWaitSH ∧ s ≠ .sWaitCH := by
  cases s <;> simp_all [v13Active, fits]

theorem stepHs_next (c : Cfg) (s s' : St) (k : MsgKind) (b : Bool) (hw : fits c s = true)
    (h : stepHs c s k = .next s' b) :
    fits c s' = true ∧ nt c k = true ∧ ∀ t, takes c s' t = true → takes c s (k :: t) = true := by
  revert h
  fun_cases stepHs c s k <;> intro h <;> first | (cases h; done) | skip
  · -- SSLv3 server: no_certificate in place of the Certificate
    next hs hk =>
    cases h
    obtain rfl : k = .no_certificate_alert := by simpa using hk
    cases s <;> simp_all [expectsAlert, fits, nt, transparent, takes, takesAlt, rest, matchSeq_req]
  · -- ChangeCipherSpec taken at `_getFinished`: `gfFirst` / `gfCCS` fit only a ≤ 1.2 configuration (`hw`), where it is
    -- not transparent
    next hdrop _ hk hs =>
    cases h
    obtain rfl : k = .ccs := by simpa using hk
    have hs' : s = .gfFirst ∧ expectsNST c = false ∨ s = .gfCCS := by
      revert hs; cases s <;> simp [expectsCCS]
    have h12 : c.isTls13 = false := by rcases hs' with ⟨rfl, _⟩ | rfl <;> simpa [fits] using hw
    refine ⟨by rw [fits_afterCCS, h12]; rfl, by simp [nt, transparent, h12], fun t ht => ?_⟩
    have := takes_afterCCS c t ht
    rcases hs' with ⟨rfl, hn⟩ | rfl
    · simp [takes, takesAlt, rest, gfItems, hn, matchSeq_reqIf, matchSeq_req, this]
    · simp [takes, takesAlt, rest, matchSeq_req, this]
  · next hx _ _ hf =>
    cases h
    exact flow_go c s s' k b hw (by simpa using hx) hf

theorem stepHs_ignore (c : Cfg) (s : St) (k : MsgKind) (hw : fits c s = true) (h : stepHs c s k = .ignore) :
    transparent c k = true ∧ s ≠ .cWaitSH ∧ s ≠ .sWaitCH := by
  revert h
  fun_cases stepHs c s k <;> intro h <;> first | (cases h; done) | skip
  · -- the TLS 1.3 compatibility CCS
    next hk =>
    simp only [Bool.and_eq_true, beq_iff_eq] at hk
    obtain ⟨h13, hs⟩ := v13Active_fits c s hw hk.1.2
    exact ⟨by simp [transparent, hk.1.1, h13], hs⟩
  · -- heartbeat
    next hk hb =>
    simp only [hbActive, Bool.and_eq_true] at hb
    refine ⟨by simp [transparent, hk, hb.1], ?_, ?_⟩ <;> rintro rfl <;> simp at hb

theorem hsRunK_takes (c : Cfg) : ∀ (ks : List MsgKind) (s : St), fits c s = true → hsRunK c s ks = true →
    takes c s (ks.filter (nt c)) = true ∧
    (s = .cWaitSH ∨ s = .sWaitCH → ∃ k ks', ks = k :: ks' ∧ nt c k = true) := by
  intro ks
  induction ks with
  | nil => intro s _ h; simp [hsRunK] at h
  | cons k ks ih =>
    intro s hw h
    unfold hsRunK at h
    by_cases hg : (s == St.dead || s.isPost) = true
    · simp [hg] at h
    simp only [hg, Bool.false_eq_true, if_false] at h
    have hnd : s ≠ .dead := by intro e; simp [e] at hg
    have hpost : s.isPost = false := by simpa [hnd] using hg
    rw [stepK_noPlus, stepK0_pre c s 0 k hpost hnd] at h
    cases ho : stepHs c s k <;> rw [ho] at h <;> simp only [HsOut.toOut] at h <;> try cases h
    · next s' b =>
      obtain ⟨hw', hnt, hstep⟩ := stepHs_next c s s' k b hw ho
      refine ⟨?_, fun _ => ⟨k, ks, rfl, hnt⟩⟩
      simp only [List.filter_cons, hnt, if_true]
      apply hstep
      by_cases hd : (s' == St.done) = true
      · simp only [hd, if_true] at h
        obtain rfl : s' = .done := by simpa using hd
        obtain rfl : ks = [] := by simpa using h
        rfl
      · simp only [hd] at h
        exact (ih s' hw' h).1
    · obtain ⟨htr, hs⟩ := stepHs_ignore c s k hw ho
      have hnt : nt c k = false := by simp [nt, htr]
      simp only [List.filter_cons, hnt]
      exact ⟨(ih s hw h).1, fun hst => (hst.elim hs.1 hs.2).elim⟩

theorem rest_start (c : Cfg) : rest c (start c).st = grammar c := by
  cases hr : c.role <;> cases hv : c.ver <;>
    simp [start, rest, grammar, Cfg.isTls13, hr, hv, c13Tail, s13Tail, c12Tail, ckeTail, gfItems, gfTail,
      certItem, expectsNST] <;>
    split <;> simp [reqIf]

theorem takesAlt_start (c : Cfg) (t : List MsgKind) (h : takesAlt c (start c).st t = true) :
    (c.role == .server && c.reqCert && !c.resumed && matchSeq (grammarNoCert c) t) = true := by
  revert h
  cases hr : c.role <;> simp [start, takesAlt, hr]
  intro hq hres h
  refine ⟨⟨hq, hres⟩, ?_⟩
  simpa [grammarNoCert, ckeTail, gfItems, gfTail, expectsNST, hr, hres, reqIf] using h

theorem takes_start (c : Cfg) (t : List MsgKind) (h : takes c (start c).st t = true) : lang c t = true := by
  simp only [takes, rest_start, Bool.or_eq_true, Bool.and_eq_true] at h
  simp only [lang, Bool.or_eq_true, Bool.and_eq_true]
  exact h.imp id fun ⟨h3, ha⟩ => by simpa [h3] using takesAlt_start c t ha

theorem hsRunK_allowed (c : Cfg) (ks : List MsgKind) (h : hsRunK c (start c).st ks = true) :
    allowed c ks = true := by
  have hfit : fits c (start c).st = true := by unfold start; split <;> rfl
  obtain ⟨h1, h2⟩ := hsRunK_takes c ks _ hfit h
  obtain ⟨k, ks', rfl, hnt⟩ := h2 (by unfold start; split <;> simp)
  simp only [allowed, Bool.and_eq_true]
  exact ⟨hnt, takes_start c _ h1⟩

end Tls.Order
