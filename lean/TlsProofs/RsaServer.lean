import TlsModel.RsaServer
/- The server run after ClientKeyExchange (TlsModel/RsaServer.lean) step by step: `getMsg` consumes exactly one record,
   and whatever it writes on failure is logged at that count (`getMsg_consumed`).  Of the three steps built on it,
   `certVerifyStep_consumed` and `ccsStep_consumed` give the count after a step that succeeded, `finishedStep_consumed`
   the count of everything the last step writes.  Outside
   SSLv3-with-client-certificate the CertificateVerify step never sees the premaster (`certVerifyStep_indep`). -/
namespace Tls.RsaServer
open Tls.RsaDec

theorem sendError_consumed (d c : Nat) : ∀ e ∈ (sendError d c).trace, e.consumed = c := by
  intro e he
  simp [sendError, alertEmit] at he
  rw [he]

theorem getMsg_consumed (S : SrvPrims) (rs : Option Bytes) (expected : Nat) (sec : Option Nat)
    (inc : List WireRec) (c : Nat) :
    match getMsg S rs expected sec inc c with
    | .ok (_, rest, c') => c' = c + 1 ∧ ∃ r, inc = r :: rest
    | .error r => ∀ e ∈ r.trace, e.consumed = c + 1 := by
  unfold getMsg
  cases inc with
  | nil => simp
  | cons r rest =>
    simp only
    cases hr : S.recv rs r with
    | error x => simp only; exact sendError_consumed _ _
    | ok p =>
      simp only
      by_cases hexp : r.ctype = expected
      · simp only [hexp, ne_eq, not_true_eq_false, if_false]
        cases sec with
        | none => simp
        | some sub =>
          simp only
          cases p with
          | nil => simp only; exact sendError_consumed _ _
          | cons t tl =>
            simp only
            by_cases ht : t.toNat = sub
            · simp [ht]
            · simp only [ht, not_false_eq_true, if_true]; exact sendError_consumed _ _
      · simp only [hexp, ne_eq, not_false_eq_true, if_true]
        by_cases h21 : r.ctype = 21
        · simp only [h21, if_true]
          match p with
          | [] => simp only; exact sendError_consumed _ _
          | [_] => simp only; exact sendError_consumed _ _
          | level :: desc :: _ =>
            simp only
            by_cases hw : level.toNat = 1 ∨ desc.toNat = 0
            · simp only [hw, if_true]
              intro e he
              simp [alertEmit] at he
              rw [he]
            · simp only [hw, if_false]
              intro e he
              simp at he
        · simp only [h21, if_false]; exact sendError_consumed _ _

theorem getMsg_ok {S : SrvPrims} {rs : Option Bytes} {expected : Nat} {sec : Option Nat}
    {inc : List WireRec} {c : Nat} {p : Bytes} {rest : List WireRec} {c' : Nat}
    (h : getMsg S rs expected sec inc c = .ok (p, rest, c')) : c' = c + 1 := by
  have := getMsg_consumed S rs expected sec inc c
  rw [h] at this
  exact this.1

theorem certVerifyStep_indep (S : SrvPrims) (E : SrvEnv) (pms1 pms2 : Bytes) (inc : List WireRec)
    (hne : ¬ (E.version = (3, 0) ∧ E.hasClientCert = true)) :
    certVerifyStep S E pms1 inc = certVerifyStep S E pms2 inc := by
  unfold certVerifyStep
  by_cases hc : E.hasClientCert = true
  · have hv : ¬ E.version = (3, 0) := fun h => hne ⟨h, hc⟩
    simp only [hc, hv, if_true, if_false]
  · rw [if_neg hc, if_neg hc]

theorem ccsStep_consumed (S : SrvPrims) (M M' : Mid) (h : ccsStep S M = .ok M') :
    M'.consumed = M.consumed + 1 := by
  unfold ccsStep at h
  split at h
  · cases h
  · next hg =>
    split at h
    · cases h
    · split at h
      · cases h
      · cases h
        exact getMsg_ok hg

theorem certVerifyStep_consumed (S : SrvPrims) (E : SrvEnv) (pms : Bytes) (inc : List WireRec) (M : Mid)
    (h : certVerifyStep S E pms inc = .ok M) :
    M.consumed = E.consumed + (if E.hasClientCert then 1 else 0) := by
  simp only [certVerifyStep] at h
  split at h
  · next hc =>
    rw [if_pos hc]
    split at h
    · cases h
    · next hg =>
      split at h
      · cases h
      · cases h
        exact getMsg_ok hg
  · next hc =>
    cases h
    rw [if_neg hc]
    rfl

theorem finishedStep_consumed (S : SrvPrims) (E : SrvEnv) (pms : Bytes) (M : Mid) :
    ∀ e ∈ (finishedStep S E pms M).trace, e.consumed = M.consumed + 1 := by
  intro e he
  unfold finishedStep at he
  simp only at he
  cases hg : getMsg S (some (keyBlock S E pms)) 22 (some 20) M.rest M.consumed with
  | error r =>
    have hm := getMsg_consumed S (some (keyBlock S E pms)) 22 (some 20) M.rest M.consumed
    rw [hg] at he hm
    exact hm e he
  | ok t =>
    obtain ⟨p, rest, c⟩ := t
    have hc := getMsg_ok hg
    rw [hg] at he
    simp only at he
    split at he
    · have := sendError_consumed 51 c e he; omega
    · simp at he
      rcases he with rfl | rfl <;> exact hc

end Tls.RsaServer
