import Mathlib.Data.Int.ModEq
import TlsModel.X25519
import TlsProofs.RsaBasic
/-
  The Montgomery ladder of tlslite/utils/x25519.py as modelled in TlsModel/X25519.lean, for Props/C10.lean §7.
  The deferred-swap bookkeeping (`swap ^= k_t … swap = k_t`, one final `cswap`) is equivalent to the textbook ladder
  that holds the pair (R0, R1) and chooses by the bit which one is doubled (`x25519Generic_eq_pureLadder`); every
  step depends on its inputs only modulo p; little-endian numbers are big-endian ones read backwards, which with
  `modifyAt` at the first and last position is what clamping and masking need.

  NOT proved (see `x25519_scalar_mult_partial` in Props/C10.lean): that Montgomery's formulas
  compute x(2P) and x(P+Q) on the curve, i.e. the elliptic-curve group law itself.
-/
namespace Tls.X25519
open Tls.Rsa

theorem cswap_zero (a b : ℤ) : cswap 0 a b = (a, b) := by simp [cswap]
theorem cswap_one (a b : ℤ) : cswap 1 a b = (b, a) := by simp [cswap]

/-- a pair of projective x-coordinates (X2 : Z2), (X3 : Z3) -/
structure Pair where
  x2 : ℤ
  z2 : ℤ
  x3 : ℤ
  z3 : ℤ
  deriving DecidableEq

/-- the arithmetic block of one iteration: doubles the first point, adds the two
    (differential addition with difference x1) -/
def core (x1 a24 p : ℤ) (x2 z2 x3 z3 : ℤ) : Pair :=
  let a := (x2 + z2) % p
  let aa := (a * a) % p
  let b := (x2 - z2) % p
  let bb := (b * b) % p
  let e := (aa - bb) % p
  let c := (x3 + z3) % p
  let d := (x3 - z3) % p
  let da := (d * a) % p
  let cb := (c * b) % p
  { x2 := (aa * bb) % p, z2 := (e * (aa + a24 * e)) % p,
    x3 := ((da + cb) * (da + cb)) % p, z3 := (x1 * (((da - cb) * (da - cb)) % p)) % p }

/-- one step of the ladder without any swap bookkeeping: for bit 0 the pair (R0, R1) becomes
    (2·R0, R0+R1), for bit 1 it becomes (R0+R1, 2·R1) -/
def pureStep (x1 a24 p : ℤ) (bit : ℕ) (P : Pair) : Pair :=
  if bit ≠ 0 then
    let r := core x1 a24 p P.x3 P.z3 P.x2 P.z2
    { x2 := r.x3, z2 := r.z3, x3 := r.x2, z3 := r.z2 }
  else core x1 a24 p P.x2 P.z2 P.x3 P.z3

/-- the pair the code logically holds: its registers after the pending swap is applied -/
def Ladder.logical (s : Ladder) : Pair :=
  if s.swap ≠ 0 then { x2 := s.x3, z2 := s.z3, x3 := s.x2, z3 := s.z2 }
  else { x2 := s.x2, z2 := s.z2, x3 := s.x3, z3 := s.z3 }

theorem ladderStep_eq_core (k : ℕ) (x1 a24 p : ℤ) (s : Ladder) (t : ℕ) :
    ladderStep k x1 a24 p s t =
      let sw := s.swap ^^^ ((k >>> t) &&& 1)
      let r := core x1 a24 p (cswap sw s.x2 s.x3).1 (cswap sw s.z2 s.z3).1
                 (cswap sw s.x2 s.x3).2 (cswap sw s.z2 s.z3).2
      { x2 := r.x2, z2 := r.z2, x3 := r.x3, z3 := r.z3, swap := (k >>> t) &&& 1 } := by
  rfl

theorem ladderStep_logical (k : ℕ) (x1 a24 p : ℤ) (s : Ladder) (t : ℕ) (hs : s.swap ≤ 1) :
    (ladderStep k x1 a24 p s t).logical = pureStep x1 a24 p ((k >>> t) &&& 1) s.logical ∧
    (ladderStep k x1 a24 p s t).swap ≤ 1 := by
  have hb : (k >>> t) &&& 1 ≤ 1 := Nat.and_le_right
  rw [ladderStep_eq_core]
  generalize (k >>> t) &&& 1 = kt at hb ⊢
  refine ⟨?_, hb⟩
  have h1 : s.swap = 0 ∨ s.swap = 1 := by omega
  have h2 : kt = 0 ∨ kt = 1 := by omega
  rcases h1 with h1 | h1 <;> rcases h2 with h2 | h2 <;>
    simp [h1, h2, Ladder.logical, pureStep, cswap]

theorem ladder_fold_logical (k : ℕ) (x1 a24 p : ℤ) (ts : List ℕ) (s : Ladder) (hs : s.swap ≤ 1) :
    (ts.foldl (ladderStep k x1 a24 p) s).logical =
      ts.foldl (fun P t => pureStep x1 a24 p ((k >>> t) &&& 1) P) s.logical ∧
    (ts.foldl (ladderStep k x1 a24 p) s).swap ≤ 1 := by
  induction ts generalizing s with
  | nil => exact ⟨rfl, hs⟩
  | cons t ts ih =>
    simp only [List.foldl_cons]
    obtain ⟨h1, h2⟩ := ladderStep_logical k x1 a24 p s t hs
    obtain ⟨h3, h4⟩ := ih _ h2
    exact ⟨by rw [h3, h1], h4⟩

theorem final_cswap_logical (s : Ladder) :
    (cswap s.swap s.x2 s.x3).1 = s.logical.x2 ∧ (cswap s.swap s.z2 s.z3).1 = s.logical.z2 := by
  unfold cswap Ladder.logical; split <;> simp_all

def pureLadder (k u bits a24 p : ℕ) : Pair :=
  ((List.range bits).reverse).foldl
    (fun P t => pureStep (u : ℤ) (a24 : ℤ) (p : ℤ) ((k >>> t) &&& 1) P)
    { x2 := 1, z2 := 0, x3 := u, z3 := 1 }

theorem x25519Generic_eq_pureLadder (k u bits a24 p : ℕ) :
    x25519Generic k u bits a24 p =
      leEncode (divceil bits 8)
        (((pureLadder k u bits a24 p).x2.toNat * powMod (pureLadder k u bits a24 p).z2.toNat (p - 2) p) % p) := by
  unfold x25519Generic pureLadder
  simp only
  have h := ladder_fold_logical k (u : ℤ) (a24 : ℤ) (p : ℤ) (List.range bits).reverse
    { x2 := 1, z2 := 0, x3 := u, z3 := 1, swap := 0 } (by simp)
  have hf := final_cswap_logical
    ((List.range bits).reverse.foldl (ladderStep k (u : ℤ) (a24 : ℤ) (p : ℤ))
      { x2 := 1, z2 := 0, x3 := u, z3 := 1, swap := 0 })
  rw [h.1] at hf
  simp only [Ladder.logical] at hf
  simp only [ne_eq, not_true_eq_false, if_false] at hf
  rw [hf.1, hf.2]

theorem x25519Generic_length (k u bits a24 p : ℕ) :
    (x25519Generic k u bits a24 p).length = divceil bits 8 := by
  rw [x25519Generic_eq_pureLadder, leEncode, List.length_reverse, length_beEncode]

theorem core_congr (p x1 x1' a24 x2 z2 x3 z3 x2' z2' x3' z3' : ℤ)
    (h1 : x1 ≡ x1' [ZMOD p]) (hx2 : x2 ≡ x2' [ZMOD p]) (hz2 : z2 ≡ z2' [ZMOD p])
    (hx3 : x3 ≡ x3' [ZMOD p]) (hz3 : z3 ≡ z3' [ZMOD p]) :
    core x1 a24 p x2 z2 x3 z3 = core x1' a24 p x2' z2' x3' z3' := by
  unfold core
  have ea : (x2 + z2) % p = (x2' + z2') % p := (hx2.add hz2).eq
  have eb : (x2 - z2) % p = (x2' - z2') % p := (hx2.sub hz2).eq
  have ec : (x3 + z3) % p = (x3' + z3') % p := (hx3.add hz3).eq
  have ed : (x3 - z3) % p = (x3' - z3') % p := (hx3.sub hz3).eq
  simp only [ea, eb, ec, ed]
  congr 1
  exact (h1.mul (Int.ModEq.refl _)).eq

theorem ladderStep_congr (k : ℕ) (p x1 x1' a24 : ℤ) (s s' : Ladder) (t : ℕ)
    (h1 : x1 ≡ x1' [ZMOD p]) (hsw : s.swap = s'.swap)
    (hx2 : s.x2 ≡ s'.x2 [ZMOD p]) (hz2 : s.z2 ≡ s'.z2 [ZMOD p])
    (hx3 : s.x3 ≡ s'.x3 [ZMOD p]) (hz3 : s.z3 ≡ s'.z3 [ZMOD p]) :
    ladderStep k x1 a24 p s t = ladderStep k x1' a24 p s' t := by
  rw [ladderStep_eq_core, ladderStep_eq_core, hsw]
  simp only [cswap]
  split
  · rw [core_congr p x1 x1' a24 _ _ _ _ _ _ _ _ h1 hx3 hz3 hx2 hz2]
  · rw [core_congr p x1 x1' a24 _ _ _ _ _ _ _ _ h1 hx2 hz2 hx3 hz3]

theorem ladder_fold_congr (k : ℕ) (p x1 x1' a24 : ℤ) (h1 : x1 ≡ x1' [ZMOD p]) (ts : List ℕ) (s : Ladder) :
    ts.foldl (ladderStep k x1 a24 p) s = ts.foldl (ladderStep k x1' a24 p) s := by
  induction ts generalizing s with
  | nil => rfl
  | cons t ts ih =>
    simp only [List.foldl_cons]
    rw [ladderStep_congr k p x1 x1' a24 s s t h1 rfl (Int.ModEq.refl _) (Int.ModEq.refl _)
      (Int.ModEq.refl _) (Int.ModEq.refl _)]
    exact ih _

theorem leEncode_zero (n : ℕ) : ∀ i ∈ leEncode n 0, i = 0 := by
  intro i hi
  unfold leEncode at hi
  exact beEncode_zero n i (List.mem_reverse.mp hi)

/-- if the ladder ends with Z = 0 (the neutral element: what a small-order input multiplied by a
    clamped scalar gives) the output is the all-zero string -/
theorem x25519Generic_zero_of_z_zero (k u bits a24 p : ℕ) (hp : 2 < p)
    (hz : (pureLadder k u bits a24 p).z2 = 0) :
    ∀ i ∈ x25519Generic k u bits a24 p, i = 0 := by
  rw [x25519Generic_eq_pureLadder, hz, Int.toNat_zero, powMod_eq, Nat.zero_pow (by omega), Nat.zero_mod,
    Nat.mul_zero, Nat.zero_mod]
  exact leEncode_zero _

theorem leDecode_append (a b : Bytes) : leDecode (a ++ b) = leDecode a + 256 ^ a.length * leDecode b := by
  unfold leDecode
  rw [List.reverse_append, beDecode_append, List.length_reverse, Nat.add_comm, Nat.mul_comm]

theorem leDecode_singleton (x : UInt8) : leDecode [x] = x.toNat := by
  simp [leDecode, beDecode]

theorem leDecode_cons (a : UInt8) (t : Bytes) : leDecode (a :: t) = a.toNat + 256 * leDecode t := by
  rw [← List.singleton_append, leDecode_append, leDecode_singleton, List.length_singleton, Nat.pow_one]

theorem leDecode_lt (b : Bytes) : leDecode b < 256 ^ b.length := by
  unfold leDecode
  have := beDecode_lt b.reverse
  rwa [List.length_reverse] at this

theorem leDecode_concat_bounds (m : Bytes) (x : UInt8) :
    256 ^ m.length * x.toNat ≤ leDecode (m ++ [x]) ∧ leDecode (m ++ [x]) < 256 ^ m.length * (x.toNat + 1) := by
  have := beDecode_cons_bounds x m.reverse
  rwa [List.length_reverse, Nat.mul_comm, Nat.mul_comm (x.toNat + 1), ← List.singleton_append,
    ← List.reverse_singleton, ← List.reverse_append] at this

/-- reducing modulo `2 ^ (8·|m| + j)` keeps the bytes `m` and the low `j` bits of the last byte -/
theorem leDecode_concat_mod (m : Bytes) (x y : UInt8) (j : ℕ) (h : y.toNat = x.toNat % 2 ^ j) :
    leDecode (m ++ [y]) = leDecode (m ++ [x]) % (256 ^ m.length * 2 ^ j) := by
  have hm := leDecode_lt m
  rw [leDecode_append, leDecode_append, leDecode_singleton, leDecode_singleton, h, Nat.mod_mul,
    Nat.add_mul_mod_self_left, Nat.mod_eq_of_lt hm, Nat.add_mul_div_left _ _ (Nat.pow_pos (by decide)),
    Nat.div_eq_of_lt hm, Nat.zero_add]

theorem modifyAt_zero (a : UInt8) (t : Bytes) (f : UInt8 → UInt8) : modifyAt (a :: t) 0 f = .ok (f a :: t) :=
  if_pos (Nat.zero_lt_succ _)

theorem modifyAt_last (m : Bytes) (y : UInt8) (f : UInt8 → UInt8) :
    modifyAt (m ++ [y]) m.length f = .ok (m ++ [f y]) := by
  unfold modifyAt
  rw [if_pos (by simp), List.getD_eq_getElem?_getD, List.getElem?_concat_length, List.set_append_right _ _ (Nat.le_refl _),
    Nat.sub_self]
  rfl

theorem and_248 (x : UInt8) : (x &&& 248).toNat % 8 = 0 := by
  rw [UInt8.toNat_and, show (8 : ℕ) = 2 ^ 3 from rfl, Nat.and_mod_two_pow]
  exact Nat.and_zero _

theorem clamp_top (x : UInt8) : 64 ≤ ((x &&& 127) ||| 64).toNat ∧ ((x &&& 127) ||| 64).toNat < 128 := by
  rw [UInt8.toNat_or, UInt8.toNat_and]
  exact ⟨Nat.right_le_or, Nat.or_lt_two_pow (n := 7) (Nat.lt_of_le_of_lt Nat.and_le_right (by decide)) (by decide)⟩

/-- the mask as `decodeUCoordinate` spells it, at `bits = 255` -/
theorem and_mask7 (x : UInt8) : (x &&& UInt8.ofNat ((1 <<< (255 % 8)) - 1)).toNat = x.toNat % 128 := by
  rw [UInt8.toNat_and]
  exact Nat.and_two_pow_sub_one_eq_mod _ 7

theorem bytes32_cons_concat (k : Bytes) (h : k.length = 32) :
    ∃ b0 mid b31, k = b0 :: (mid ++ [b31]) ∧ mid.length = 30 := by
  match k, h with
  | b0 :: rest, h =>
    have hr : rest.length = 31 := by simpa using h
    have hne : rest ≠ [] := by intro hc; rw [hc] at hr; simp at hr
    refine ⟨b0, rest.dropLast, rest.getLast hne, ?_, ?_⟩
    · rw [List.dropLast_concat_getLast]
    · simp [hr]

end Tls.X25519
