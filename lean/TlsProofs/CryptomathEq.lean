import TlsProofs.PyRt
import TlsProofs.RsaBasic
import TlsModel.Gen.Cryptomath
/-
  cryptomath.py / compat.py as regenerated (TlsModel/Gen/Cryptomath.lean) against the definitions of the
  Python-runtime model: `PyE.numBits`, `numBytes`, `bytesToNumber`, `numberToByteArray` are what the
  regenerated functions compute, for every argument.
-/
namespace Tls.PyE

/-- `Tls.RsaDec.numBytes` is the byte length of the RSA model (TlsModel/Rsa.lean) under another name -/
theorem lt_pow_numBytes (n : Nat) : n < 256 ^ Tls.RsaDec.numBytes n := Tls.Rsa.lt_pow_numBytes n

end Tls.PyE

namespace Tls.Cryptomath.Gen
open Tls Tls.RsaDec Tls.PyE

theorem numBits_eq (x : Int) : numBits x = .ok (PyE.numBits x) := by
  simp only [numBits, bit_length, pure, bitLength_eq]; rfl

theorem numBytes_eq (x : Int) : numBytes x = .ok (PyE.numBytes x) := by
  simp only [numBytes, byte_length, bit_length, bind, pure, bitLength_eq]; rfl

theorem bytesToNumber_eq (b : Bytes) :
    bytesToNumber b "big" = .ok (PyE.bytesToNumber b) ∧
    bytesToNumber b "little" = .ok (PyE.bytesToNumber b.reverse) := by
  constructor <;> rfl

theorem int_to_bytes_eq (x k : Int) (order : String) :
    int_to_bytes x (some k) order = PyE.intToBytes x k order := by
  simp [int_to_bytes, bind, pure, optGet, Except.bind, Except.pure]

theorem int_to_bytes_none (x : Int) (order : String) :
    int_to_bytes x none order = PyE.intToBytes x (if x ≠ 0 then PyE.numBytes x else 1) order := by
  have hbl : byte_length x = .ok (PyE.numBytes x) := numBytes_eq x
  by_cases h : x = 0 <;> simp [int_to_bytes, bind, pure, optGet, Except.bind, Except.pure, hbl, h]

theorem numberToByteArray_eq (x k : Int) :
    numberToByteArray x (some k) "big" = PyE.numberToByteArray x k := by
  unfold numberToByteArray PyE.numberToByteArray
  have hbl : byte_length x = .ok (PyE.numBytes x) := numBytes_eq x
  have hg : optGet (some k) = (.ok k : PyE.M Int) := rfl
  simp only [bind, pure, hbl, hg, ok_bind', int_to_bytes_eq, Option.isSome_some, decide_true, if_true]
  have hL : PyE.numBytes x = ((Tls.RsaDec.numBytes x.natAbs : Nat) : Int) := rfl
  generalize hLn : Tls.RsaDec.numBytes x.natAbs = L at hL
  by_cases hx : x < 0
  · -- OverflowError on either path
    simp only [hx, if_true]
    by_cases hk : k < PyE.numBytes x
    · simp only [hk, decide_true, if_true]
      rw [intToBytes_neg x _ "big" hx (by omega) (Or.inl rfl)]; rfl
    · simp only [hk, decide_false, Bool.false_eq_true, if_false]
      rw [intToBytes_neg x k "big" hx (by omega) (Or.inl rfl)]
  · obtain ⟨n, rfl⟩ : ∃ n : Nat, x = (n : Int) := ⟨x.toNat, by omega⟩
    rw [Int.natAbs_natCast] at hLn
    have hlt := hLn ▸ lt_pow_numBytes n
    simp only [hx, if_false, Int.toNat_natCast, hL]
    by_cases hk : k < (L : Int)
    · -- `ret[length - k : length]`: the bound `length - k` is non-negative, beyond the end for a negative `k`
      obtain ⟨j, hj⟩ : ∃ j : Nat, (L : Int) - k = (j : Int) := ⟨((L : Int) - k).toNat, by omega⟩
      simp only [hk, decide_true, if_true, intToBytes_big n L hlt, ok_bind', hj, Py.slice_nat, beEncode_drop']
      rw [List.take_of_length_le (by rw [length_beEncode]; exact Nat.le_refl _), show L - j = k.toNat by omega]
      rfl
    · simp only [hk, decide_false, Bool.false_eq_true, if_false]
      obtain ⟨kn, rfl⟩ : ∃ kn : Nat, k = (kn : Int) := ⟨k.toNat, by omega⟩
      rw [intToBytes_big n kn (Nat.lt_of_lt_of_le hlt (Nat.pow_le_pow_right (by decide) (by omega))), Int.toNat_natCast]

theorem numberToByteArray_none (n : Nat) :
    numberToByteArray (n : Int) none "big" =
      .ok (beEncode (if n ≠ 0 then Tls.RsaDec.numBytes n else 1) n) := by
  unfold numberToByteArray
  simp only [Option.isSome_none, Bool.false_eq_true, if_false, bind, pure, int_to_bytes_none]
  by_cases h : n = 0
  · subst h; rfl
  · have h' : ((n : Int) ≠ 0) := by omega
    have hnb : PyE.numBytes (n : Int) = ((Tls.RsaDec.numBytes n : Nat) : Int) := numBytes_nat n
    simp only [h, h', ne_eq, not_false_eq_true, if_true, hnb]
    exact intToBytes_big n _ (lt_pow_numBytes n)

theorem divceil_eq (a b : Nat) (hb : 0 < b) :
    divceil (a : Int) (b : Int) = .ok ((a / b + (if a % b = 0 then 0 else 1) : Nat) : Int) := by
  unfold divceil
  simp only [bind, pure, divmod_nat a b hb, pyrt]

attribute [pyrt] divceil_eq numBits_eq numBytes_eq numberToByteArray_eq

end Tls.Cryptomath.Gen
