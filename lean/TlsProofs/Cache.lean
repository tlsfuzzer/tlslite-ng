import TlsProofs.Assoc
/-
  The circular-list implementation model (TlsModel/Cache.lean) simulates a plain
  FIFO queue `q` of live entries (`Inv`), and the queue is the not-yet-dropped suffix of the
  specification's log (`Abs`).
-/
namespace Tls.Cache

theorem ring_inj (N f a b : Nat) (ha : a < N) (hb : b < N)
    (h : (f + a) % N = (f + b) % N) : a = b := by
  -- N divides the difference of two offsets below N
  have key : ∀ x y, x < N → (f + x) % N = (f + y) % N → x ≤ y := by
    intro x y hx h
    have := Nat.sub_mod_eq_zero_of_mod_eq h
    rw [Nat.add_sub_add_left, Nat.mod_eq_of_lt (Nat.lt_of_le_of_lt (Nat.sub_le x y) hx)] at this
    exact Nat.sub_eq_zero_iff_le.mp this
  exact Nat.le_antisymm (key a b ha h) (key b a hb h.symm)

theorem ring_full_iff (N f a : Nat) (hf : f < N) (ha : a ≤ N) :
    (f + a) % N = f ↔ a = 0 ∨ a = N := by
  constructor
  · intro h
    rcases Nat.lt_or_eq_of_le ha with ha | ha
    · exact Or.inl (ring_inj N f a 0 ha (Nat.lt_of_le_of_lt (Nat.zero_le _) hf)
        (by rw [h, Nat.add_zero, Nat.mod_eq_of_lt hf]))
    · exact Or.inr ha
  · rintro (rfl | rfl)
    · exact Nat.mod_eq_of_lt hf
    · rw [Nat.add_mod_right, Nat.mod_eq_of_lt hf]

/-- `(lastIndex + len(entriesList) - firstIndex) % len(entriesList)` is the number of live entries -/
theorem ring_dist (N f l : Nat) (hf : f < N) (hl : l < N) : ((f + l) % N + N - f) % N = l := by
  rcases Nat.lt_or_ge (f + l) N with h | h
  · rw [Nat.mod_eq_of_lt h, Nat.add_assoc, Nat.add_sub_cancel_left, Nat.add_mod_right, Nat.mod_eq_of_lt hl]
  · rw [Nat.mod_eq_sub_mod h, Nat.mod_eq_of_lt (Nat.sub_lt_left_of_lt_add h (Nat.add_lt_add hf hl)),
      Nat.sub_add_cancel h, Nat.add_sub_cancel_left, Nat.mod_eq_of_lt hl]

def occ (q : List Entry) (id : Id) : Nat := q.countP (fun e => e.id = id)

theorem occ_cons (e : Entry) (q : List Entry) (id : Id) :
    occ (e :: q) id = occ q id + (if e.id = id then 1 else 0) := by
  simp [occ, List.countP_cons]

theorem occ_append_single (e : Entry) (q : List Entry) (id : Id) :
    occ (q ++ [e]) id = occ q id + (if e.id = id then 1 else 0) := by
  simp [occ, List.countP_append, List.countP_cons]

theorem lastStore_cons (e : Entry) (q : List Entry) (id : Id) :
    lastStore (e :: q) id =
      match lastStore q id with
      | some r => some r
      | none => if e.id = id then some (q.length, e) else none := rfl

theorem lastStore_nil (id : Id) : lastStore [] id = none := rfl

theorem lastStore_none_iff (q : List Entry) (id : Id) : lastStore q id = none ↔ occ q id = 0 := by
  induction q with
  | nil => simp [lastStore, occ]
  | cons e q ih =>
    rw [occ_cons]
    unfold lastStore
    cases h : lastStore q id with
    | some r =>
      have : occ q id ≠ 0 := fun h0 => by rw [ih.mpr h0] at h; cases h
      simp; omega
    | none =>
      have h0 := ih.mp h
      by_cases he : e.id = id <;> simp [he, h0]

theorem lastStore_append (pre q : List Entry) (id : Id) :
    lastStore (pre ++ q) id =
      match lastStore q id with
      | some r => some r
      | none => (lastStore pre id).map (fun r => (r.1 + q.length, r.2)) := by
  induction pre with
  | nil => cases h : lastStore q id <;> simp [lastStore_nil, h]
  | cons e pre ih =>
    simp only [List.cons_append]
    rw [lastStore_cons, ih, lastStore_cons]
    cases h : lastStore q id with
    | some r => simp
    | none =>
      cases h2 : lastStore pre id with
      | some r => simp
      | none =>
        by_cases he : e.id = id <;> simp [he]

theorem lastStore_append_single (q : List Entry) (e : Entry) (id : Id) :
    lastStore (q ++ [e]) id =
      if e.id = id then some (0, e) else (lastStore q id).map (fun r => (r.1 + 1, r.2)) := by
  rw [lastStore_append]
  by_cases he : e.id = id <;> simp [lastStore, he]

theorem lastStore_some {q : List Entry} {id : Id} {k : Nat} {e : Entry}
    (h : lastStore q id = some (k, e)) : e.id = id ∧ q.reverse[k]? = some e := by
  induction q with
  | nil => cases h
  | cons e0 q ih =>
    rw [lastStore_cons] at h
    rw [List.reverse_cons]
    cases h2 : lastStore q id with
    | some r =>
      rw [h2] at h
      cases h
      obtain ⟨h1, h3⟩ := ih h2
      have hk : k < q.reverse.length := (List.getElem?_eq_some_iff.mp h3).1
      exact ⟨h1, by rw [List.getElem?_append_left hk]; exact h3⟩
    | none =>
      rw [h2] at h
      by_cases he : e0.id = id
      · rw [if_pos he] at h
        cases h
        exact ⟨he, by rw [List.getElem?_append_right (by simp)]; simp⟩
      · rw [if_neg he] at h; cases h

theorem mem_of_lastStore {q : List Entry} {id : Id} {k : Nat} {e : Entry}
    (h : lastStore q id = some (k, e)) : e ∈ q :=
  List.mem_reverse.mp (List.mem_of_getElem? (lastStore_some h).2)

theorem lastStore_lt {q : List Entry} {id : Id} {k : Nat} {e : Entry}
    (h : lastStore q id = some (k, e)) : k < q.length :=
  List.length_reverse ▸ (List.getElem?_eq_some_iff.mp (lastStore_some h).2).1

/-- `dict` and `count` against the queue of live entries -/
structure DC (dict : List (Id × Sess)) (count : List (Id × Int)) (q : List Entry) : Prop where
  look : ∀ id, alookup id count = (if occ q id = 0 then none else some ((occ q id : Nat) : Int)) ∧
    alookup id dict = (lastStore q id).map (fun r => r.2.sess)
  ndict : (akeys dict).Nodup
  ncount : (akeys count).Nodup

theorem remove_head (c : Cache) (e : Entry) (q : List Entry) (h : DC c.dict c.count (e :: q)) :
    ∃ d n, c.remove e.id = ({ c with dict := d, count := n }, none) ∧ DC d n q := by
  have hoth : ∀ id, id ≠ e.id →
      alookup id c.count = (if occ q id = 0 then none else some ((occ q id : Nat) : Int)) ∧
      alookup id c.dict = (lastStore q id).map (fun r => r.2.sess) := by
    intro id hid
    have := h.look id
    rw [occ_cons, if_neg (Ne.symm hid), Nat.add_zero, lastStore_cons] at this
    refine ⟨this.1, this.2.trans ?_⟩
    cases lastStore q id <;> simp [Ne.symm hid]
  obtain ⟨hc, hd⟩ := h.look e.id
  rw [occ_cons, if_pos rfl, if_neg (Nat.succ_ne_zero _)] at hc
  rw [lastStore_cons] at hd
  unfold Cache.remove
  rw [hc]
  by_cases h0 : occ q e.id = 0
  · -- last ring entry of this id: both dictionaries lose the key
    have hl := (lastStore_none_iff q e.id).mpr h0
    rw [hl, if_pos rfl] at hd
    have hz : ((occ q e.id + 1 : Nat) : Int) - 1 = 0 := by omega
    simp only [hz, if_true, hd, Option.map_some]
    refine ⟨_, _, rfl, fun id => ?_, nodup_aerase _ _ h.ndict, nodup_aerase _ _ (nodup_ainsert _ _ _ h.ncount)⟩
    by_cases hid : id = e.id
    · subst hid; simp [alookup_aerase, h0, hl]
    · simpa [alookup_aerase, alookup_ainsert, hid] using hoth id hid
  · have hz : ¬ (((occ q e.id + 1 : Nat) : Int) - 1 = 0) := by omega
    simp only [hz, if_false]
    refine ⟨_, _, rfl, fun id => ?_, h.ndict, nodup_ainsert _ _ _ h.ncount⟩
    by_cases hid : id = e.id
    · subst hid
      cases hl : lastStore q e.id with
      | none => exact absurd ((lastStore_none_iff q _).mp hl) h0
      | some r =>
        rw [hl] at hd
        simp only [alookup_ainsert, if_true, h0, if_false, hd, and_true]
        congr 1; omega
    · simpa [alookup_ainsert, hid] using hoth id hid

theorem dc_push {dict : List (Id × Sess)} {count : List (Id × Int)} {q : List Entry} (id : Id) (s : Sess)
    (now : Int) (h : DC dict count q) :
    DC (ainsert id s dict) (ainsert id ((alookup id count).getD 0 + 1) count) (q ++ [⟨id, now, s⟩]) := by
  refine ⟨fun id' => ?_, nodup_ainsert _ _ _ h.ndict, nodup_ainsert _ _ _ h.ncount⟩
  obtain ⟨hc, hd⟩ := h.look id'
  simp only [alookup_ainsert, occ_append_single, lastStore_append_single]
  by_cases hid : id' = id
  · subst hid
    rw [if_pos rfl, if_pos rfl, if_pos rfl, if_pos rfl, if_neg (Nat.succ_ne_zero _), hc]
    by_cases h0 : occ q id' = 0 <;> simp [h0]
  · rw [if_neg hid, if_neg hid, if_neg (Ne.symm hid), if_neg (Ne.symm hid), Nat.add_zero, hd]
    refine ⟨hc, ?_⟩
    cases lastStore q id' <;> rfl

theorem length_le_of_keys {α : Type} {l : List (Id × α)} {q : List Entry} (hn : (akeys l).Nodup)
    (h : ∀ k, alookup k l ≠ none → ∃ e ∈ q, e.id = k) : l.length ≤ q.length := by
  have h1 : (akeys l).length ≤ (q.map (·.id)).length :=
    hn.length_le_of_subset fun k hk => List.mem_map.mpr (h k (mem_akeys_alookup k l hk))
  simpa [akeys] using h1

theorem dc_length_le {dict : List (Id × Sess)} {count : List (Id × Int)} {q : List Entry}
    (h : DC dict count q) : dict.length ≤ q.length ∧ count.length ≤ q.length :=
  ⟨length_le_of_keys h.ndict fun k hne => by
    rw [(h.look k).2] at hne
    cases hl : lastStore q k with
    | none => simp [hl] at hne
    | some r => exact ⟨r.2, mem_of_lastStore hl, (lastStore_some hl).1⟩,
  length_le_of_keys h.ncount fun k hne => by
    rw [(h.look k).1] at hne
    have hpos : 0 < q.countP (fun e => decide (e.id = k)) :=
      Nat.pos_of_ne_zero fun h0 => hne (if_pos h0)
    obtain ⟨e, he, hp⟩ := List.countP_pos_iff.mp hpos
    exact ⟨e, he, by simpa using hp⟩⟩

/-- `q` may fill the whole list here (the moment between the write and the eviction in
    `__setitem__`); between operations it is shorter (`Inv.lt`), which is what tells an empty
    queue from a full one -/
structure RingRel (N : Nat) (ring : List (Option (Id × Int))) (start last : Nat) (q : List Entry) : Prop where
  hN : ring.length = N
  hstart : start < N
  hlen : q.length ≤ N
  hlast : last = (start + q.length) % N
  hent : ∀ k e, q[k]? = some e → ring[(start + k) % N]? = some (some (e.id, e.t))

variable {N : Nat} {A : Int} {ring : List (Option (Id × Int))} {start last : Nat} {e : Entry} {q : List Entry}

theorem RingRel.head (h : RingRel N ring start last (e :: q)) : ring[start]? = some (some (e.id, e.t)) := by
  have := h.hent 0 e rfl
  rwa [Nat.add_zero, Nat.mod_eq_of_lt h.hstart] at this

theorem RingRel.tail (h : RingRel N ring start last (e :: q)) : RingRel N ring ((start + 1) % N) last q := by
  refine ⟨h.hN, Nat.mod_lt _ (Nat.zero_lt_of_lt h.hstart), Nat.le_of_succ_le h.hlen, ?_, ?_⟩
  · rw [Nat.mod_add_mod, Nat.add_assoc, Nat.add_comm 1, h.hlast]; rfl
  · intro k e' hk
    rw [Nat.mod_add_mod, Nat.add_assoc, Nat.add_comm 1]
    exact h.hent (k + 1) e' hk

theorem RingRel.last_eq_start (h : RingRel N ring start last q) : last = start ↔ q = [] ∨ q.length = N := by
  rw [h.hlast, ring_full_iff _ _ _ h.hstart h.hlen, List.length_eq_zero_iff]

theorem RingRel.push (h : RingRel N ring start last q) (hlt : q.length < N) (e : Entry) :
    RingRel N (ring.set last (some (e.id, e.t))) start ((last + 1) % N) (q ++ [e]) := by
  have hlast : last < ring.length := h.hN ▸ h.hlast ▸ Nat.mod_lt _ (Nat.zero_lt_of_lt h.hstart)
  refine ⟨List.length_set.trans h.hN, h.hstart, by rw [List.length_append]; exact hlt, ?_, ?_⟩
  · rw [h.hlast, Nat.mod_add_mod, Nat.add_assoc]; simp
  · intro k e' hk
    rcases Nat.lt_or_ge k q.length with hkq | hkq
    · rw [List.getElem?_append_left hkq] at hk
      rw [List.getElem?_set_ne, h.hent k e' hk]
      intro heq
      rw [h.hlast] at heq
      exact Nat.ne_of_lt hkq (ring_inj _ _ _ _ (Nat.lt_trans hkq hlt) hlt heq.symm)
    · rw [List.getElem?_append_right hkq] at hk
      obtain rfl : k = q.length := by
        rcases Nat.eq_or_lt_of_le hkq with h' | h'
        · exact h'.symm
        · rw [List.getElem?_eq_none (Nat.le_sub_of_add_le' h')] at hk; cases hk
      rw [Nat.sub_self] at hk
      cases hk
      rw [← h.hlast, List.getElem?_set_self hlast]

def expired (now maxAge : Int) (e : Entry) : Bool := decide (now - e.t > maxAge)

/-- what `_purge` leaves of the queue: the expired prefix dropped (the queue is sorted by time, so nothing expired is
    left behind it: `abs_purge`) -/
def dropExp (now maxAge : Int) (q : List Entry) : List Entry := q.dropWhile (expired now maxAge)

theorem dropExp_cons {now A : Int} (e : Entry) (q : List Entry) :
    dropExp now A (e :: q) = if now - e.t > A then dropExp now A q else e :: q := by
  simp only [dropExp, List.dropWhile_cons, expired, decide_eq_true_eq]

theorem purgeLoop_spec (now : Int) (q : List Entry) :
    ∀ (c : Cache) (idx fuel : Nat), RingRel N c.ring idx c.last q → q.length < N →
      DC c.dict c.count q → q.length < fuel →
    ∃ d n idx', c.purgeLoop now fuel idx = ({ c with dict := d, count := n }, .ok idx') ∧
      RingRel N c.ring idx' c.last (dropExp now c.maxAge q) ∧ DC d n (dropExp now c.maxAge q) := by
  induction q with
  | nil =>
    intro c idx fuel hr hlt hd _
    refine ⟨_, _, idx, ?_, hr, hd⟩
    unfold Cache.purgeLoop
    rw [if_pos (hr.last_eq_start.mpr (Or.inl rfl)).symm]
  | cons e q ih =>
    intro c idx fuel hr hlt hd hf
    obtain ⟨fuel', rfl⟩ := Nat.exists_eq_succ_of_ne_zero (Nat.ne_zero_of_lt hf)
    have hne : idx ≠ c.last := fun h =>
      (hr.last_eq_start.mp h.symm).elim (List.cons_ne_nil _ _) (Nat.ne_of_lt hlt)
    unfold Cache.purgeLoop
    simp only [if_neg hne, hr.head]
    by_cases hexp : now - e.t > c.maxAge
    · obtain ⟨d, n, hrem, hd1⟩ := remove_head c e q hd
      simp only [hexp, if_true, hrem, hr.hN, if_neg (Nat.ne_zero_of_lt hr.hstart)]
      rw [dropExp_cons, if_pos hexp]
      exact ih { c with dict := d, count := n } _ fuel' hr.tail (Nat.lt_of_succ_lt hlt) hd1
        (Nat.lt_of_succ_lt_succ hf)
    · simp only [hexp, if_false]
      rw [dropExp_cons, if_neg hexp]
      exact ⟨_, _, idx, rfl, hr, hd⟩

/-- the object holds the queue `q` of live entries, oldest first; `N` is `len(entriesList)` -/
structure Inv (N : Nat) (A : Int) (c : Cache) (q : List Entry) : Prop where
  ring : RingRel N c.ring c.first c.last q
  lt : q.length < N
  dc : DC c.dict c.count q
  age : c.maxAge = A

theorem inv_new (maxEntries : Nat) (maxAge : Int) (h : 1 ≤ maxEntries) :
    Inv maxEntries maxAge (Cache.new maxEntries maxAge) [] :=
  ⟨⟨List.length_replicate, h, Nat.zero_le _, (Nat.zero_mod _).symm, fun k e hk => by cases hk⟩, h,
    ⟨fun id => ⟨rfl, rfl⟩, List.nodup_nil, List.nodup_nil⟩, rfl⟩

theorem purge_spec (c : Cache) (now : Int) (q : List Entry) (h : Inv N A c q) :
    ∃ c', c.purge now = (c', none) ∧ Inv N A c' (dropExp now A q) := by
  obtain ⟨hring, hlt, hdc, rfl⟩ := h
  obtain ⟨d, n, idx, hrun, hr, hd⟩ := purgeLoop_spec now q c c.first N hring hlt hdc hlt
  unfold Cache.purge
  rw [hring.hN, hrun]
  exact ⟨_, rfl, hr, Nat.lt_of_le_of_lt (List.dropWhile_sublist _).length_le hlt, hd, rfl⟩

/-- the eviction after a store -/
def trim (n : Nat) (q : List Entry) : List Entry := if q.length = n then q.tail else q

theorem setitem_spec (c : Cache) (q : List Entry) (id : Id) (s : Sess) (now : Int) (h : Inv N A c q) :
    ∃ c', c.setitem id s now = (c', none) ∧ Inv N A c' (trim N (q ++ [⟨id, now, s⟩])) := by
  have hN := h.ring.hstart
  have hr := h.ring.push h.lt (⟨id, now, s⟩ : Entry)
  have hdc := dc_push id s now h.dc
  unfold Cache.setitem trim
  simp only [List.length_set, h.ring.hN, if_neg (Nat.ne_zero_of_lt hN),
    if_neg (Nat.not_le_of_lt (h.ring.hlast ▸ Nat.mod_lt _ (Nat.zero_lt_of_lt hN)))]
  by_cases hf : (q ++ [(⟨id, now, s⟩ : Entry)]).length = N
  · -- the write has closed the circle: the oldest entry is removed
    rw [if_pos (hr.last_eq_start.mpr (Or.inr hf)), if_pos hf]
    cases hq : q ++ [(⟨id, now, s⟩ : Entry)] with
    | nil => simp at hq
    | cons e0 q' =>
      rw [hq] at hr hdc hf
      obtain ⟨d, n, hrem, hd⟩ := remove_head
        { c with dict := ainsert id s c.dict, count := ainsert id ((alookup id c.count).getD 0 + 1) c.count,
                 ring := c.ring.set c.last (some (id, now)), last := (c.last + 1) % N } e0 q' hdc
      simp only [hr.head, hrem, List.length_set, h.ring.hN]
      exact ⟨_, rfl, hr.tail, Nat.lt_of_succ_le (Nat.le_of_eq hf), hd, h.age⟩
  · rw [if_neg fun h' => (hr.last_eq_start.mp h').elim (by simp) hf, if_neg hf]
    exact ⟨_, rfl, hr, Nat.lt_of_le_of_ne hr.hlen hf, hdc, h.age⟩

theorem step_get (ist : ImplState) (q : List Entry) (id : Id) (now : Int) (h : Inv N A ist.cache q) :
    ∃ c', Inv N A c' (dropExp now A q) ∧
      ist.step (.get id now) = ({ ist with cache := c' },
        match lastStore (dropExp now A q) id with
        | none => .keyError
        | some r => if r.2.sess ∈ ist.inval then .keyError else .sess r.2.sess) := by
  obtain ⟨c', hp, hinv⟩ := purge_spec ist.cache now q h
  refine ⟨c', hinv, ?_⟩
  simp only [ImplState.step, Cache.getitem, hp, (hinv.dc.look id).2]
  cases lastStore (dropExp now A q) id with
  | none => rfl
  | some r => by_cases hin : r.2.sess ∈ ist.inval <;> simp [hin]

theorem liveLen_eq (c : Cache) (q : List Entry) (h : Inv N A c q) : c.liveLen = q.length := by
  unfold Cache.liveLen
  rw [h.ring.hN, if_neg (Nat.ne_zero_of_lt h.ring.hstart), h.ring.hlast]
  exact ring_dist _ _ _ h.ring.hstart h.lt

/-- the queue against the specification's log at clock reading `clock`: `q` is the newest part of `log`, and
    every older entry has `N − 1` stores after it or has expired (`dropped`); both reasons persist as the clock
    moves on and stores are appended, so a dropped entry never has to come back -/
structure Abs (N : Nat) (A : Int) (q log : List Entry) (clock : Int) : Prop where
  suffix : ∃ pre, log = pre ++ q
  sorted : (log.map (·.t)).Pairwise (· ≤ ·)
  bound : ∀ e ∈ log, e.t ≤ clock
  dropped : ∀ i e, log.reverse[i]? = some e → q.length ≤ i → N ≤ i + 1 ∨ clock - e.t > A

theorem abs_nil (N : Nat) (A clock : Int) : Abs N A [] [] clock :=
  ⟨⟨[], rfl⟩, by simp, by simp, by intro i e h; simp at h⟩

theorem abs_pop {N : Nat} {A clock : Int} {e0 : Entry} {q log : List Entry}
    (h : Abs N A (e0 :: q) log clock) (hd : N ≤ q.length + 1 ∨ clock - e0.t > A) :
    Abs N A q log clock := by
  obtain ⟨pre, hpre⟩ := h.suffix
  refine ⟨⟨pre ++ [e0], by simp [hpre]⟩, h.sorted, h.bound, ?_⟩
  intro i e hi hqi
  by_cases heq : i = q.length
  · subst heq
    have : log.reverse[q.length]? = some e0 := by
      rw [hpre, List.reverse_append, List.reverse_cons,
        List.getElem?_append_left (by simp), List.getElem?_append_right (by simp)]
      simp
    rw [this] at hi
    cases hi
    exact hd
  · exact h.dropped i e hi (by simp only [List.length_cons]; omega)

theorem abs_clock {N : Nat} {A clock now : Int} {q log : List Entry}
    (h : Abs N A q log clock) (hc : clock ≤ now) : Abs N A q log now := by
  refine ⟨h.suffix, h.sorted, fun e he => Int.le_trans (h.bound e he) hc, ?_⟩
  intro i e hi hqi
  rcases h.dropped i e hi hqi with h1 | h1
  · exact Or.inl h1
  · exact Or.inr (by omega)

theorem abs_push {N : Nat} {A clock now : Int} {q log : List Entry} (e : Entry)
    (h : Abs N A q log clock) (hc : clock ≤ now) (het : e.t = now) :
    Abs N A (q ++ [e]) (log ++ [e]) now := by
  have h := abs_clock h hc
  obtain ⟨pre, hpre⟩ := h.suffix
  refine ⟨⟨pre, by rw [hpre, List.append_assoc]⟩, ?_, ?_, ?_⟩
  · rw [List.map_append, List.pairwise_append]
    refine ⟨h.sorted, List.pairwise_singleton _ _, fun a ha b hb => ?_⟩
    obtain ⟨x, hx, rfl⟩ := List.mem_map.mp ha
    obtain rfl : b = now := (List.mem_singleton.mp hb).trans het
    exact h.bound x hx
  · intro x hx
    rcases List.mem_append.mp hx with hx | hx
    · exact h.bound x hx
    · rw [List.mem_singleton.mp hx, het]; exact Int.le_refl _
  · intro i x hi hqi
    cases i with
    | zero => simp at hqi
    | succ j =>
      rw [List.reverse_append, List.reverse_singleton, List.singleton_append, List.getElem?_cons_succ] at hi
      rw [List.length_append] at hqi
      exact (h.dropped j x hi (Nat.le_of_succ_le_succ hqi)).imp Nat.le_succ_of_le id

/-- the queue is sorted by time, so nothing in it has expired once its head has not -/
theorem abs_purge {N : Nat} {A now : Int} {log : List Entry} (q : List Entry) (h : Abs N A q log now) :
    Abs N A (dropExp now A q) log now ∧ ∀ e ∈ dropExp now A q, ¬ now - e.t > A := by
  induction q with
  | nil => exact ⟨h, fun e he => nomatch he⟩
  | cons e0 q ih =>
    by_cases hexp : now - e0.t > A
    · rw [dropExp_cons, if_pos hexp]
      exact ih (abs_pop h (Or.inr hexp))
    · rw [dropExp_cons, if_neg hexp]
      refine ⟨h, fun e he => ?_⟩
      obtain ⟨pre, hpre⟩ := h.suffix
      have hs := h.sorted
      rw [hpre, List.map_append, List.pairwise_append, List.map_cons, List.pairwise_cons] at hs
      rcases List.mem_cons.mp he with rfl | he
      · exact hexp
      · have := hs.2.1.1 e.t (List.mem_map_of_mem he)
        omega

theorem abs_trim {N : Nat} {A now : Int} {log : List Entry} (q : List Entry)
    (h : Abs N A q log now) : Abs N A (trim N q) log now := by
  unfold trim
  by_cases hl : q.length = N
  · simp only [hl, if_true]
    cases q with
    | nil => simpa using h
    | cons e0 q' =>
      simp only [List.tail_cons]
      exact abs_pop h (Or.inl (by simp at hl; omega))
  · simp only [hl, if_false]; exact h

theorem specGet_eq (N : Nat) (A now : Int) (q log : List Entry) (inval : List Sess) (id : Id)
    (h : Abs N A q log now) (hlen : q.length < N) (hfresh : ∀ e ∈ q, ¬ (now - e.t > A)) :
    specGet N A ⟨log, inval⟩ id now =
      match lastStore q id with
      | none => .keyError
      | some r => if r.2.sess ∈ inval then .keyError else .sess r.2.sess := by
  obtain ⟨pre, hpre⟩ := h.suffix
  have happ := lastStore_append pre q id
  rw [← hpre] at happ
  unfold specGet
  cases hq : lastStore q id with
  | some r =>
    have h1 : r.1 + 1 < N := Nat.lt_of_le_of_lt (lastStore_lt hq) hlen
    simp [happ, hq, h1, hfresh r.2 (mem_of_lastStore hq)]
  | none =>
    rw [hq] at happ
    cases hp : lastStore pre id with
    | none => simp [happ, hp]
    | some r =>
      rw [hp] at happ
      -- an entry of the log outside the queue was evicted or has expired
      have hd := h.dropped _ r.2 (lastStore_some happ).2 (Nat.le_add_left _ _)
      simp only [happ, Option.map_some]
      exact if_neg fun ⟨h1, h2, _⟩ => hd.elim (Nat.not_le_of_lt h1) h2

def Sim (N : Nat) (A : Int) (ist : ImplState) (sst : SpecState) (clock : Int) : Prop :=
  ∃ q, Inv N A ist.cache q ∧ Abs N A q sst.log clock ∧ ist.inval = sst.inval

theorem sim_init (N : Nat) (A clock : Int) (h : 1 ≤ N) :
    Sim N A { cache := Cache.new N A, inval := [] } { log := [], inval := [] } clock :=
  ⟨[], inv_new N A h, abs_nil N A clock, rfl⟩

/-- the clock after an operation: stores and lookups read it -/
def Op.clock : Op → Int → Int
  | .set _ t _, _ => t
  | .get _ t, _ => t
  | .inval _, clock => clock

theorem sim_step {N : Nat} {A clock : Int} {ist : ImplState} {sst : SpecState} (op : Op)
    (h : Sim N A ist sst clock) (hc : clock ≤ op.clock clock) :
    (ist.step op).2 = (sst.step N A op).2 ∧
    Sim N A (ist.step op).1 (sst.step N A op).1 (op.clock clock) := by
  obtain ⟨q, hinv, habs, hval⟩ := h
  cases op with
  | set id t s =>
    obtain ⟨c', hset, hinv'⟩ := setitem_spec ist.cache q id s t hinv
    simp only [ImplState.step, SpecState.step, hset]
    exact ⟨trivial, _, hinv', abs_trim _ (abs_push ⟨id, t, s⟩ habs hc rfl), hval⟩
  | get id t =>
    obtain ⟨c', hinv', hget⟩ := step_get ist q id t hinv
    obtain ⟨habs', hfresh⟩ := abs_purge q (abs_clock habs hc)
    rw [hget, hval]
    simp only [SpecState.step]
    rw [specGet_eq N A t _ sst.log sst.inval id habs' hinv'.lt hfresh]
    exact ⟨rfl, _, hinv', habs', rfl⟩
  | inval s => exact ⟨rfl, q, hinv, habs, congrArg (s :: ·) hval⟩

theorem opTimes_step (op : Op) (ops : List Op) (clock : Int)
    (h : (clock :: opTimes (op :: ops)).Pairwise (· ≤ ·)) :
    clock ≤ op.clock clock ∧ (op.clock clock :: opTimes ops).Pairwise (· ≤ ·) := by
  cases op with
  | inval s => exact ⟨Int.le_refl _, h⟩
  | _ => exact ⟨(List.pairwise_cons.mp h).1 _ List.mem_cons_self, (List.pairwise_cons.mp h).2⟩

theorem run_sim (N : Nat) (A : Int) (ops : List Op) :
    ∀ (ist : ImplState) (sst : SpecState) (clock : Int), Sim N A ist sst clock →
      (clock :: opTimes ops).Pairwise (· ≤ ·) →
      (runImplFrom ist ops).2 = (runSpecFrom N A sst ops).2 ∧
      ∃ clock', Sim N A (runImplFrom ist ops).1 (runSpecFrom N A sst ops).1 clock' := by
  induction ops with
  | nil => intro ist sst clock h _; exact ⟨rfl, clock, h⟩
  | cons op ops ih =>
    intro ist sst clock h hmono
    obtain ⟨hc, hmono'⟩ := opTimes_step op ops clock hmono
    obtain ⟨ho, hs⟩ := sim_step op h hc
    obtain ⟨h1, h2⟩ := ih _ _ _ hs hmono'
    simp only [runImplFrom, runSpecFrom]
    exact ⟨by rw [ho, h1], h2⟩

/-- a history from the empty cache: the first clock reading serves as the initial clock -/
theorem run_sim_new (N : Nat) (A : Int) (ops : List Op) (hcap : 1 ≤ N) (hmono : ClockMonotone ops) :
    runImpl N A ops = runSpec N A ops ∧
    ∃ clock, Sim N A (runImplFrom { cache := Cache.new N A, inval := [] } ops).1
      (runSpecFrom N A { log := [], inval := [] } ops).1 clock := by
  refine run_sim N A ops _ _ ((opTimes ops).headD 0) (sim_init N A _ hcap) ?_
  unfold ClockMonotone at hmono
  cases hts : opTimes ops with
  | nil => exact List.pairwise_singleton _ _
  | cons a r =>
    rw [hts] at hmono
    exact List.pairwise_cons.mpr
      ⟨List.forall_mem_cons.mpr ⟨Int.le_refl a, (List.pairwise_cons.mp hmono).1⟩, hmono⟩

end Tls.Cache
