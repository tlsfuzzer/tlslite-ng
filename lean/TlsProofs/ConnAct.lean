import TlsModel.Conn
import TlsProofs.Guards
/-
  `_getMsg`'s round read once: the decision it takes on a message (`act`, a function of the expected
  types, the endpoint's flags and the message alone), what each decision does (`Act.run`), and what
  receiving leaves alone whatever is decided (`Frame`).  Nothing here speaks of the invariants; the
  module is the common root of `Conn` and `ConnDecide`, so the projections of `sendRaw`, `sendError`,
  `shutdown` and `runLocal` stand here too.
-/
namespace Tls.Conn

/-- what one round of `_getMsg` decides to do with a message -/
inductive Act where
  | peerAlert (d : Nat) (reply keep : Bool)   -- raise it; close_notify back if `reply`; `_shutdown(keep)`
  | reneg                                      -- warning no_renegotiation, next round
  | drop (echo : Option Bytes) (log : Option (Bytes × Nat))  -- next round, after a heartbeat response / the callback
  | fatal (d : Nat)
  | pass

/-- The decision of `getMsgStep` on a message that passed the record layer's generation check, written
    branch for branch like the model (so that `getMsgStep_head` holds leaf by leaf); the empty and the
    unknown-type record, which `nextRecord` refuses itself, are entered with that alert. -/
def act (e s : List Nat) (me : End) (m : Msg) : Act :=
  match m with
  | .emptyRec | .unknownCt => .fatal 10
  | m =>
    if !e.contains m.ct then
      match m with
      | .alert lvl d =>
        if lvl == 1 || d == 0 then (if d == 0 then .peerAlert d true true else .peerAlert d true false)
        else .peerAlert d false false
      | _ =>
        if m.ct == 22 && m.hsType == renegType me.isClient && !me.closed then .reneg
        else if m.ct == 24 && me.hbSupported then
          match m with
          | .heartbeat mt p pad =>
            if mt == 1 then
              if !me.hbCanRecv then .fatal 10
              else if pad < 16 then .drop none none
              else .drop (some p) none
            else if mt == 2 && me.hbCallback then .drop none (some (p, pad))
            else .drop none none
          | _ => .drop none none
        else .fatal 10
    else
      match m with
      | .appData [] => .drop none none
      | .hsMalformed t => if s.contains t then .fatal 50 else .fatal 10
      | .hsOther t => if s.contains t then .fatal 50 else .fatal 10
      | .kuCoalesced _ => .fatal 10
      | _ => if m.ct == 22 && !s.contains m.hsType then .fatal 10 else .pass

/-- an answer that may fail to go out -/
def tryReply : Option Msg → Local → Local
  | none, l => l
  | some r, l => (sendRaw r l).getD l

def logHb : Option (Bytes × Nat) → Local → Local
  | none, l => l
  | some x, l => { l with me := { l.me with hbLog := l.me.hbLog ++ [x] } }

def Act.run (m : Msg) (a : Act) (l : Local) : Res Step × Local :=
  match a with
  | .peerAlert d reply keep =>
    (.err (.remoteAlert d), shutdown keep (tryReply (bif reply then some (.alert 1 0) else none) l))
  | .reneg =>
    match sendRaw (.alert 1 100) l with
    | some l2 => (.ok .again, l2)
    | none => (.err .socketError, l)
  | .drop echo log => (.ok .again, logHb log (tryReply (echo.map (.heartbeat 2 · 16)) l))
  | .fatal d => sendError d l
  | .pass => (.ok (.got m), l)

theorem Act.run_ite (m : Msg) (c : Prop) [Decidable c] (a b : Act) (l : Local) :
    (if c then a else b).run m l = if c then a.run m l else b.run m l := by
  split <;> rfl

/-- what an empty channel gives: `nextRecord`'s answer, which a round of `_getMsg` passes on -/
def noInput {α : Type} : M α := fun l =>
  if l.inc.eof || l.me.rxDead == 1 then (.err .abruptClose, l)
  else if l.me.rxDead == 2 then (.err .socketError, l) else (.stall, l)

def popped (l : Local) (rest : List Rec) : Local := { l with inc := { l.inc with recs := rest } }

theorem getMsgStep_of_stall {e s : List Nat} {l l1 : Local} (hn : nextRecord l = (.stall, l1)) :
    getMsgStep e s l = (.stall, l1) := by simp only [getMsgStep, hn]

theorem getMsgStep_of_err {e s : List Nat} {l l1 : Local} {x : Exc} (hn : nextRecord l = (.err x, l1)) :
    getMsgStep e s l = (.err x, l1) := by simp only [getMsgStep, hn]

theorem sendError_eq {α : Type} (d : Nat) (l : Local) :
    sendError (α := α) d l =
      (.err (if (sendRaw (.alert 2 d) l).isSome then .localAlert d else .socketError),
       ((sendRaw (.alert 2 d) l).map (shutdown false)).getD l) := by
  unfold sendError
  cases sendRaw (.alert 2 d) l <;> rfl

theorem getMsgStep_of_sendError {e s : List Nat} {l l1 : Local} {d : Nat}
    (hn : nextRecord l = sendError d l1) : getMsgStep e s l = sendError d l1 := by
  rw [sendError_eq] at hn ⊢
  exact getMsgStep_of_err hn

theorem nextRecord_nil {l : Local} (hin : l.inc.recs = []) : nextRecord l = noInput l := by
  unfold nextRecord noInput; rw [hin]

theorem nextRecord_cons {l : Local} {g : Nat} {m : Msg} {rest : List Rec}
    (hin : l.inc.recs = ⟨g, m⟩ :: rest) :
    nextRecord l =
      if g = l.me.readGen then
        if m = .emptyRec ∨ m = .unknownCt then sendError 10 (popped l rest) else (.ok m, popped l rest)
      else sendError 20 (popped l rest) := by
  cases m <;> simp [nextRecord, hin, popped]

theorem getMsgStep_nil {e s : List Nat} {l : Local} (hin : l.inc.recs = []) :
    getMsgStep e s l = noInput l := by
  have hn := nextRecord_nil hin
  unfold noInput at hn ⊢
  by_cases h1 : (l.inc.eof || l.me.rxDead == 1) = true
  · rw [if_pos h1] at hn ⊢; exact getMsgStep_of_err hn
  · rw [if_neg h1] at hn ⊢
    by_cases h2 : (l.me.rxDead == 2) = true
    · rw [if_pos h2] at hn ⊢; exact getMsgStep_of_err hn
    · rw [if_neg h2] at hn ⊢; exact getMsgStep_of_stall hn

theorem getMsgStep_badmac {e s : List Nat} {l : Local} {g : Nat} {m : Msg} {rest : List Rec}
    (hin : l.inc.recs = ⟨g, m⟩ :: rest) (hg : g ≠ l.me.readGen) :
    getMsgStep e s l = sendError 20 (popped l rest) := by
  apply getMsgStep_of_sendError
  rw [nextRecord_cons hin, if_neg hg]

theorem getMsgStep_of_ok {e s : List Nat} {l l1 : Local} {m : Msg} (hn : nextRecord l = (.ok m, l1))
    (hm : ¬ (m = .emptyRec ∨ m = .unknownCt)) : getMsgStep e s l = (act e s l1.me m).run m l1 := by
  simp only [getMsgStep, hn]
  -- per constructor both sides are the same tree of conditionals once `run` is pushed to the leaves
  cases m with
  | appData d => cases d <;> (unfold act; simp only [Act.run_ite]; rfl)
  | emptyRec => exact absurd (.inl rfl) hm
  | unknownCt => exact absurd (.inr rfl) hm
  | _ => unfold act; simp only [Act.run_ite]; rfl

theorem getMsgStep_head {e s : List Nat} {l : Local} {m : Msg} {rest : List Rec}
    (hin : l.inc.recs = ⟨l.me.readGen, m⟩ :: rest) :
    getMsgStep e s l = (act e s l.me m).run m (popped l rest) := by
  have hn := nextRecord_cons hin
  rw [if_pos rfl] at hn
  by_cases hm : m = .emptyRec ∨ m = .unknownCt
  · rw [if_pos hm] at hn
    rcases hm with rfl | rfl <;> exact getMsgStep_of_sendError hn
  · rw [if_neg hm] at hn
    exact getMsgStep_of_ok hn hm

theorem act_alert {e s : List Nat} {me : End} {lvl d : Nat} (he : e.contains 21 = false) :
    act e s me (.alert lvl d) = .peerAlert d (lvl == 1 || d == 0) (d == 0) := by
  simp only [act, Msg.ct, he]
  cases h0 : d == 0 <;> cases h1 : lvl == 1 <;> rfl

theorem sendRaw_closed {m : Msg} {l l1 : Local} (hs : sendRaw m l = some l1) :
    l.me.closed = false ∧ l1.me = l.me ∧ l1.inc = l.inc := by
  unfold sendRaw at hs
  split at hs
  · cases hs
  · rename_i hc; simp at hc; cases hs; exact ⟨hc.2, rfl, rfl⟩

theorem sendRaw_me {m : Msg} {l l1 : Local} (h : sendRaw m l = some l1) : l1.me = l.me :=
  (sendRaw_closed h).2.1

theorem tryReply_me (r : Option Msg) (l : Local) : (tryReply r l).me = l.me := by
  cases r with
  | none => rfl
  | some m =>
    show ((sendRaw m l).getD l).me = l.me
    cases h : sendRaw m l with
    | none => rfl
    | some l1 => exact sendRaw_me h

theorem renegType_lt (c : Bool) : renegType c < 2 := by cases c <;> decide

theorem renegType_ne {k : Nat} (c : Bool) (h : 2 ≤ k) : ¬ k = renegType c := by
  have := renegType_lt c; omega

theorem shutdown_me (r : Bool) (l : Local) :
    (shutdown r l).me = { l.me with closed := true, resumable := l.me.resumable && r } := rfl

theorem shutdown_inc (r : Bool) (l : Local) : (shutdown r l).inc = l.inc := rfl

theorem shutdown_out_recs (r : Bool) (l : Local) : (shutdown r l).out.recs = l.out.recs := by
  unfold shutdown; simp only []; split <;> rfl

/-- receiving leaves the endpoint's state alone except for the heartbeat log and, when it does not
    end normally, what `_shutdown` sets -/
def Frame {α : Type} (l : Local) : Res α × Local → Prop
  | (.ok _, l') => ∃ hb, l'.me = { l.me with hbLog := hb }
  | (_, l') => ∃ c r hb, l'.me = { l.me with closed := c, resumable := r, hbLog := hb }

theorem Frame.chain {α : Type} {l : Local} {x : Res α × Local} (h : Frame l x) :
    x.2.me.chainSet = l.me.chainSet ∧ x.2.me.clientChain = l.me.clientChain := by
  obtain ⟨res, l'⟩ := x
  cases res with
  | ok a => obtain ⟨hb, h⟩ := h; exact h ▸ ⟨rfl, rfl⟩
  | stall | err e => obtain ⟨c, r, hb, h⟩ := h; exact h ▸ ⟨rfl, rfl⟩

theorem Frame.trans {α β : Type} {l l1 : Local} {a : β} {x : Res α × Local}
    (h1 : Frame l (.ok a, l1)) (h : Frame l1 x) : Frame l x := by
  obtain ⟨hb1, h1⟩ := h1
  obtain ⟨res, l'⟩ := x
  cases res with
  | ok a => obtain ⟨hb, h⟩ := h; exact ⟨hb, by rw [h, h1]⟩
  | stall | err e => obtain ⟨c, r, hb, h⟩ := h; exact ⟨c, r, hb, by rw [h, h1]⟩

theorem sendError_frame {α : Type} (d : Nat) (l : Local) : Frame l (sendError (α := α) d l) := by
  unfold sendError
  split
  · rename_i l1 hs
    exact ⟨true, l.me.resumable && false, l.me.hbLog, sendRaw_me hs ▸ rfl⟩
  · exact ⟨l.me.closed, l.me.resumable, l.me.hbLog, rfl⟩

theorem Act.run_frame (a : Act) (m : Msg) (l : Local) : Frame l (a.run m l) := by
  cases a with
  | peerAlert d reply keep =>
    refine ⟨true, l.me.resumable && keep, l.me.hbLog, ?_⟩
    show ({ (tryReply _ l).me with closed := true, resumable := (tryReply _ l).me.resumable && keep } : End) = _
    rw [tryReply_me]
  | reneg =>
    unfold Act.run
    cases hs : sendRaw (.alert 1 100) l with
    | some l2 => exact ⟨_, sendRaw_me hs⟩
    | none => exact ⟨l.me.closed, l.me.resumable, l.me.hbLog, rfl⟩
  | drop echo log =>
    cases log with
    | none => exact ⟨_, tryReply_me _ l⟩
    | some x =>
      refine ⟨l.me.hbLog ++ [x], ?_⟩
      show ({ (tryReply _ l).me with hbLog := (tryReply _ l).me.hbLog ++ [x] } : End) = _
      rw [tryReply_me]
  | fatal d => exact sendError_frame d l
  | pass => exact ⟨l.me.hbLog, rfl⟩

theorem getMsgStep_frame (e s : List Nat) (l : Local) : Frame l (getMsgStep e s l) := by
  cases hr : l.inc.recs with
  | nil =>
    rw [getMsgStep_nil hr]
    exact ite_elim _ (fun _ => ⟨_, _, _, rfl⟩) (fun _ => ite_elim _ (fun _ => ⟨_, _, _, rfl⟩) (fun _ => ⟨_, _, _, rfl⟩))
  | cons r rest =>
    obtain ⟨g, m⟩ := r
    by_cases hg : g = l.me.readGen
    · subst hg; rw [getMsgStep_head hr]; exact Act.run_frame _ m _
    · rw [getMsgStep_badmac hr hg]; exact sendError_frame 20 _

theorem getMsg_frame (e s : List Nat) (f : Nat) (l : Local) : Frame l (getMsg e s f l) := by
  induction f generalizing l with
  | zero => exact ⟨l.me.closed, l.me.resumable, l.me.hbLog, rfl⟩
  | succ f ih =>
    have hs := getMsgStep_frame e s l
    unfold getMsg
    generalize getMsgStep e s l = x at hs
    obtain ⟨res, l1⟩ := x
    cases res with
    | stall | err x => exact hs
    | ok st =>
      cases st with
      | again => exact Frame.trans hs (ih l1)
      | got m => exact hs

theorem liftU_snd (x : Res Unit × Local) : (liftU x).2 = x.2 := by
  obtain ⟨res, l⟩ := x
  cases res <;> rfl

theorem runLocal_read (mx : Option Nat) (mn : Nat) (l : Local) :
    runLocal (.read mx mn) l =
      (match (read mx mn l).1 with | .ok b => .bytes b | .stall => .stall | .err e => .err e,
       (read mx mn l).2) := by
  simp only [runLocal]
  split <;> simp [*]

end Tls.Conn
