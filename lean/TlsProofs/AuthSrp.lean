import TlsModel.Auth
import Mathlib.Data.ZMod.Basic
/-
  C05, SRP: `powMod` (square-and-multiply, as executed) equals `b ^ e % n`; when the server's verifier is `g^x mod N`
  for the client's `x` and the public values arrive unmodified, both sides' premaster secret is
  `g ^ (b * (a + u * x)) % N` (RFC 5054 §2.6 equations as written in keyexchange.py).
  Mathlib is imported for Props/C05.lean only: `powMod_spec` there is stated with the `^` that Mathlib gives `ℕ`
  (`Monoid.npow`), and its `example`s decide equalities in `Except` with the Batteries instance (core has none).
-/
namespace Tls.Auth

/-- the loop keeps `acc` reduced (`acc % n = acc`, which also covers `n = 0`, where `%` reduces nothing), and
    then returns `acc * b ^ e` reduced -/
theorem powModAux_eq (n : Nat) : ∀ (f b e acc : Nat), e < 2 ^ f → acc % n = acc →
    powModAux n f b e acc = acc * b ^ e % n
  | 0, b, e, acc, h, ha => by
    have : e = 0 := by simpa using h
    subst this
    simp [powModAux, ha]
  | f + 1, b, e, acc, h, ha => by
    unfold powModAux
    by_cases he0 : e = 0
    · subst he0; simp [ha]
    · rw [if_neg he0]
      have he : e / 2 < 2 ^ f := by
        rw [Nat.pow_succ] at h
        omega
      -- the exponent's lowest bit goes to the accumulator, the rest to the squared base
      have hsplit : acc * b ^ e = acc * b ^ (e % 2) * (b * b) ^ (e / 2) := by
        rw [← Nat.pow_two, ← Nat.pow_mul, Nat.mul_assoc, ← Nat.pow_add, Nat.mod_add_div]
      have hstep (a : Nat) : a % n * (b * b % n) ^ (e / 2) % n = a * (b * b) ^ (e / 2) % n := by
        rw [Nat.mul_mod, Nat.mod_mod, ← Nat.pow_mod, ← Nat.mul_mod]
      by_cases h1 : e % 2 = 1
      · rw [if_pos h1, powModAux_eq n f _ _ _ he (Nat.mod_mod _ _), hstep, hsplit, h1, Nat.pow_one]
      · have h0 : e % 2 = 0 := by omega
        rw [if_neg h1, powModAux_eq n f _ _ _ he ha, ← ha, hstep, ha, hsplit, h0, Nat.pow_zero, Nat.mul_one]

theorem powMod_eq (b e n : Nat) : powMod b e n = b ^ e % n := by
  unfold powMod
  rw [powModAux_eq n _ _ _ _ (Nat.lt_trans Nat.lt_two_pow_self (Nat.pow_lt_pow_succ (by omega))) (Nat.mod_mod _ _),
    Nat.mul_mod, Nat.mod_mod, ← Nat.pow_mod, ← Nat.mul_mod, Nat.one_mul]

theorem srpServerPremaster_honest (N g x a b u : Nat) (hA : srpClientA N g a % N ≠ 0) :
    srpServerPremaster N (powMod g x N) b (srpClientA N g a) u = .ok (g ^ (b * (a + u * x)) % N) := by
  unfold srpServerPremaster srpClientA at *
  rw [if_neg hA]
  simp only [powMod_eq]
  rw [← Nat.pow_mod, ← Nat.pow_mod (g ^ x), Nat.pow_mod (_ * _), ← Nat.mul_mod, ← Nat.pow_mod, ← Nat.pow_mul,
    ← Nat.pow_add, ← Nat.pow_mul, Nat.mul_comm u x, Nat.mul_comm b]

/-- `(B - k v) % N` with Python's non-negative remainder undoes the server's `+ k v`, so the base is `g^b` -/
theorem srpClientPremaster_honest (N g k x a b u : Nat)
    (hB : srpServerB N g k (powMod g x N) b % N ≠ 0) :
    srpClientPremaster N g k x a (srpServerB N g k (powMod g x N) b) u = .ok (g ^ (b * (a + u * x)) % N) := by
  unfold srpClientPremaster
  rw [if_neg hB]
  unfold srpServerB
  simp only [powMod_eq]
  rw [Int.natCast_emod, Int.emod_sub_emod, Int.natCast_add, Int.add_sub_cancel, ← Int.natCast_emod,
    Int.toNat_natCast, Nat.mod_mod, ← Nat.pow_mod, ← Nat.pow_mul]

end Tls.Auth
