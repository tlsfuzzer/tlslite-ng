import TlsModel.Cache
/-
  C18 — a Python dict as an association list (`alookup`, `aerase`, `ainsert` of TlsModel/Cache.lean):
  what a lookup sees after a deletion, an insertion or a selection by key; keys stay unique.
  Used by Cache.lean and Db.lean.
-/
namespace Tls.Cache

theorem aerase_eq_filter {α : Type} (k : Id) (l : List (Id × α)) : aerase k l = l.filter (·.1 ≠ k) := by
  induction l with
  | nil => rfl
  | cons p r ih => by_cases h : p.1 = k <;> simp [aerase, h, ih]

theorem alookup_filter {α : Type} (p : Id → Bool) (k : Id) (l : List (Id × α)) :
    alookup k (l.filter fun x => p x.1) = if p k then alookup k l else none := by
  induction l with
  | nil => simp [alookup]
  | cons x r ih =>
    obtain ⟨a, v⟩ := x
    by_cases ha : a = k
    · subst ha
      cases hp : p a <;> simp [hp, alookup, ih]
    · cases hp : p a <;> simp [hp, alookup, ha, ih]

theorem alookup_aerase {α : Type} (k k' : Id) (l : List (Id × α)) :
    alookup k' (aerase k l) = if k' = k then none else alookup k' l := by
  rw [aerase_eq_filter, alookup_filter (· ≠ k)]
  by_cases h : k' = k <;> simp [h]

theorem alookup_ainsert {α : Type} (k k' : Id) (v : α) (l : List (Id × α)) :
    alookup k' (ainsert k v l) = if k' = k then some v else alookup k' l := by
  unfold ainsert
  by_cases h : k' = k
  · subst h; simp [alookup]
  · have : ¬ k = k' := fun e => h e.symm
    simp [alookup, this, alookup_aerase, h]

def akeys {α : Type} (l : List (Id × α)) : List Id := l.map (·.1)

theorem mem_akeys_alookup {α : Type} (k : Id) (l : List (Id × α)) (h : k ∈ akeys l) :
    alookup k l ≠ none := by
  induction l with
  | nil => simp [akeys] at h
  | cons p r ih =>
    obtain ⟨a, v⟩ := p
    by_cases h2 : a = k
    · simp [alookup, h2]
    · simp only [akeys, List.map_cons, List.mem_cons] at h
      rcases h with h | h
      · exact absurd h.symm h2
      · simpa [alookup, h2] using ih h

theorem not_mem_akeys_aerase {α : Type} (k : Id) (l : List (Id × α)) : k ∉ akeys (aerase k l) :=
  fun h => mem_akeys_alookup k _ h (by rw [alookup_aerase, if_pos rfl])

theorem nodup_aerase {α : Type} (k : Id) (l : List (Id × α)) (h : (akeys l).Nodup) :
    (akeys (aerase k l)).Nodup := aerase_eq_filter k l ▸ h.sublist (List.filter_sublist.map _)

theorem nodup_ainsert {α : Type} (k : Id) (v : α) (l : List (Id × α)) (h : (akeys l).Nodup) :
    (akeys (ainsert k v l)).Nodup := by
  unfold ainsert
  simp only [akeys, List.map_cons]
  exact List.nodup_cons.mpr ⟨not_mem_akeys_aerase k l, nodup_aerase k l h⟩

end Tls.Cache
