import TlsModel.Basic
import TlsModel.Gen.Pkcs1
/-
  RSA signatures as implemented by tlslite/utils/rsakey.py (class RSAKey) and
  tlslite/utils/python_rsakey.py (class Python_RSAKey), mirrored statement by statement.

  * Python ints are `Nat`; the one place where a subtraction can go negative
    (`(s1 - s2) * qInv % p` in the CRT helper, and the extended Euclid of `invMod`) uses `Int`
    with Python's floor-`%` (= `Int.emod` for a positive modulus).
  * randomness (`getRandomBytes(sLen)` for the PSS salt, `getRandomNumber(2, n)` for the first
    unblinder) is an explicit argument.
  * the hash is a parameter (`HashAlg`): its name, its `digest_size` and the function.
  * exceptions are values of `Err`; nothing is defaulted.
  Not modelled here: block type 2 padding / `decrypt` (property C11), key parsing, `hashAlg`
  case folding (`.lower()`): names are the lower-case ones.
-/
namespace Tls.Rsa

inductive Err where
  | valueError          -- ValueError (length / range checks of _raw_*_key_op_bytes)
  | invalidSignature    -- tlslite.errors.InvalidSignature
  | encodingError       -- tlslite.errors.EncodingError
  | messageTooLong      -- tlslite.errors.MessageTooLongError
  | maskTooLong         -- tlslite.errors.MaskTooLongError
  | indexError          -- IndexError
  | assertionError      -- AssertionError
  | unknownRSAType      -- tlslite.errors.UnknownRSAType
  | arith               -- ZeroDivisionError / "pow() 3rd argument cannot be 0"
  deriving DecidableEq, Repr

def Err.name : Err → String
  | .valueError => "ValueError"
  | .invalidSignature => "InvalidSignature"
  | .encodingError => "EncodingError"
  | .messageTooLong => "MessageTooLongError"
  | .maskTooLong => "MaskTooLongError"
  | .indexError => "IndexError"
  | .assertionError => "AssertionError"
  | .unknownRSAType => "UnknownRSAType"
  | .arith => "ArithmeticError"

/-! ### cryptomath helpers -/

/-- `int.bit_length()` -/
def numBits (n : Nat) : Nat := if n = 0 then 0 else Nat.log2 n + 1

/-- `byte_length`: `(bit_length + 7) // 8` -/
def numBytes (n : Nat) : Nat := (numBits n + 7) / 8

/-- `divceil(a, b)` for `b > 0`: `quot + int(bool(r))` -/
def divceil (a b : Nat) : Nat := a / b + (if a % b = 0 then 0 else 1)

/-- square-and-multiply with fuel (number of exponent bits); `powMod` below -/
def powModFuel : Nat → Nat → Nat → Nat → Nat
  | 0, _, _, m => 1 % m
  | f+1, b, e, m =>
    if e = 0 then 1 % m
    else
      let h := powModFuel f b (e / 2) m
      let sq := h * h % m
      if e % 2 = 1 then sq * b % m else sq

/-- Python `pow(b, e, m)` for `m > 0` (proved equal to `b ^ e % m`: `powMod_eq` in TlsProofs/RsaBasic.lean) -/
def powMod (b e m : Nat) : Nat := powModFuel (numBits e) b e m

/-- the `while c != 0` loop of `invMod` (extended Euclid); `c, d` stay non-negative.  The fuel
    is only there for structural recursion: `c` strictly decreases, so `fuel = c + 1` is never
    exhausted (`invModLoop_spec` in TlsProofs/RsaNT.lean); exhaustion is reported as `none`. -/
def invModLoop : Nat → Nat → Nat → Int → Int → Option (Nat × Int)
  | 0, _, _, _, _ => none
  | f+1, c, d, uc, ud =>
    if c = 0 then some (d, ud)
    else invModLoop f (d % c) c (ud - ((d / c : Nat) : Int) * uc) uc

/-- `invMod(a, b)`: inverse of `a` mod `b`, zero if none -/
def invMod (a b : Nat) : Nat :=
  match invModLoop (a + 1) a b 1 0 with
  | some (d, ud) => if d = 1 then (ud % (b : Int)).toNat else 0
  | none => 0

/-! ### keys -/

structure PubKey where
  n : Nat
  e : Nat
  /-- `key_type`: "rsa" or "rsa-pss" -/
  pssOnly : Bool := false
  deriving Repr

structure PrivKey where
  pub : PubKey
  d : Nat
  p : Nat
  q : Nat
  dP : Nat
  dQ : Nat
  qInv : Nat
  deriving Repr

/-- `self.blinder`, `self.unblinder` (0, 0 on a fresh key) -/
structure Blind where
  blinder : Nat
  unblinder : Nat
  deriving Repr, DecidableEq

/-! ### raw operations -/

/-- `Python_RSAKey._rawPublicKeyOp` -/
def rawPublicKeyOp (k : PubKey) (c : Nat) : Nat := powMod c k.e k.n

/-- `RSAKey._raw_public_key_op_bytes` -/
def rawPublicKeyOpBytes (k : PubKey) (c : Bytes) : Except Err Bytes :=
  if c.length ≠ numBytes k.n then .error .valueError
  else
    let cInt := beDecode c
    if cInt ≥ k.n then .error .valueError
    else .ok (beEncode (numBytes k.n) (rawPublicKeyOp k cInt))

/-- `Python_RSAKey._rawPrivateKeyOpHelper` (CRT version) -/
def rawPrivateKeyOpHelper (k : PrivKey) (m : Nat) : Int :=
  let s1 := powMod m k.dP k.p
  let s2 := powMod m k.dQ k.q
  let h := (((s1 : Int) - (s2 : Int)) * (k.qInv : Int)) % (k.p : Int)
  (s2 : Int) + (k.q : Int) * h

/-- the locked section of `_rawPrivateKeyOp`: create the pair on the first pass (from the random
    number `rnd = getRandomNumber(2, n)`), hand out the current pair, square both. -/
def blindStep (k : PrivKey) (st : Blind) (rnd : Nat) : (Nat × Nat) × Blind :=
  let st1 : Blind :=
    if st.blinder = 0 then
      { unblinder := rnd, blinder := powMod (invMod rnd k.pub.n) k.pub.e k.pub.n }
    else st
  ((st1.blinder, st1.unblinder),
   { blinder := (st1.blinder * st1.blinder) % k.pub.n,
     unblinder := (st1.unblinder * st1.unblinder) % k.pub.n })

/-- `Python_RSAKey._rawPrivateKeyOp` parameterised by the helper (so that a faulty helper can be
    plugged in); returns the result and the advanced blinding state -/
def rawPrivateKeyOpWith (helper : Nat → Int) (k : PrivKey) (st : Blind) (rnd : Nat) (m : Nat) :
    Nat × Blind :=
  let ((blinder, unblinder), st') := blindStep k st rnd
  let message := (m * blinder) % k.pub.n
  let cipher := helper message
  let cipher := (cipher * (unblinder : Int)) % (k.pub.n : Int)
  (cipher.toNat, st')

def rawPrivateKeyOp (k : PrivKey) (st : Blind) (rnd : Nat) (m : Nat) : Nat × Blind :=
  rawPrivateKeyOpWith (rawPrivateKeyOpHelper k) k st rnd m

/-- `RSAKey._raw_private_key_op_bytes`; `p = 0`, `q = 0` or `n = 0` make Python's `pow`/`%` raise -/
def rawPrivateKeyOpBytes (k : PrivKey) (st : Blind) (rnd : Nat) (message : Bytes) :
    Except Err (Bytes × Blind) :=
  if message.length ≠ numBytes k.pub.n then .error .valueError
  else
    let mInt := beDecode message
    if mInt ≥ k.pub.n then .error .valueError
    else if k.p = 0 ∨ k.q = 0 then .error .arith
    else
      let r := rawPrivateKeyOp k st rnd mInt
      .ok (beEncode (numBytes k.pub.n) r.1, r.2)

/-! ### PKCS#1 v1.5 -/

/-- `_addPKCS1Padding(bytes, 1)`: `[0xFF] * padLength` is empty for a negative `padLength` -/
def addPKCS1Padding (n : Nat) (bytes : Bytes) : Bytes :=
  let padLength : Int := (numBytes n : Int) - ((bytes.length : Int) + 3)
  [0, 1] ++ List.replicate padLength.toNat 0xFF ++ [0] ++ bytes

/-- `addPKCS1Prefix(data, hashName)`: `assert hashName in cls._pkcs1Prefixes` -/
def addPKCS1Prefix (data : Bytes) (hashName : String) : Except Err Bytes :=
  match Gen.Pkcs1.pkcs1Prefixes.lookup hashName with
  | some pre => .ok (pre ++ data)
  | none => .error .assertionError

/-- `addPKCS1SHA1Prefix(hashBytes, withNULL)` -/
def addPKCS1SHA1Prefix (hashBytes : Bytes) (withNULL : Bool) : Bytes :=
  (if withNULL then Gen.Pkcs1.sha1PrefixWithNull else Gen.Pkcs1.sha1PrefixNoNull) ++ hashBytes

/-- `_raw_pkcs1_sign` (the `hasPrivateKey` assertion is `d != 0`) -/
def rawPkcs1Sign (k : PrivKey) (st : Blind) (rnd : Nat) (bytes : Bytes) : Except Err (Bytes × Blind) :=
  if k.d = 0 then .error .assertionError
  else rawPrivateKeyOpBytes k st rnd (addPKCS1Padding k.pub.n bytes)

/-- `_raw_pkcs1_verify`: re-encode and compare all bytes -/
def rawPkcs1Verify (k : PubKey) (sig bytes : Bytes) : Bool :=
  match rawPublicKeyOpBytes k sig with
  | .error _ => false
  | .ok checkBytes => checkBytes == addPKCS1Padding k.n bytes

/-! ### PSS -/

structure HashAlg where
  name : String
  hLen : Nat
  hash : Bytes → Bytes

/-- `MGF1(mgfSeed, maskLen, hAlg)` -/
def mgf1 (H : HashAlg) (seed : Bytes) (maskLen : Nat) : Except Err Bytes :=
  if H.hLen = 0 then .error .arith
  else if maskLen > 2 ^ 32 * H.hLen then .error .maskTooLong
  else
    let t := (List.range (divceil maskLen H.hLen)).foldl
      (fun acc x => acc ++ H.hash (seed ++ beEncode 4 x)) []
    .ok (t.take maskLen)

def xorBytes (a b : Bytes) : Bytes := List.zipWith (· ^^^ ·) a b

/-- `x[0] &= mask` on a bytearray -/
def maskHead (mask : Nat) : Bytes → Except Err Bytes
  | [] => .error .indexError
  | x :: xs => .ok (UInt8.ofNat (x.toNat &&& mask) :: xs)

/-- `EMSA_PSS_encode(mHash, emBits, hAlg, sLen)` with `salt = getRandomBytes(sLen)` given -/
def emsaPssEncode (H : HashAlg) (mHash : Bytes) (emBits : Nat) (salt : Bytes) : Except Err Bytes :=
  let sLen := salt.length
  let emLen := divceil emBits 8
  if emLen < H.hLen + sLen + 2 then .error .encodingError
  else
    let m2 := List.replicate 8 (0 : UInt8) ++ mHash ++ salt
    let h := H.hash m2
    let ps := List.replicate (emLen - sLen - H.hLen - 2) (0 : UInt8)
    let db := ps ++ [1] ++ salt
    match mgf1 H h (emLen - H.hLen - 1) with
    | .error e => .error e
    | .ok dbMask =>
      let maskedDB := xorBytes db dbMask
      let mLen := emLen * 8 - emBits
      let mask := (1 <<< (8 - mLen)) - 1
      match maskHead mask maskedDB with
      | .error e => .error e
      | .ok maskedDB => .ok (maskedDB ++ h ++ [0xbc])

/-- `DBHelpMask`: `(~((1 << 8 - (8*emLen - emBits)) - 1)) & 0xff` -/
def pssTopMask (emLen emBits : Nat) : Nat := 255 - ((1 <<< (8 - (8 * emLen - emBits))) - 1) % 256

/-- the recovery of `DB` inside `EMSA_PSS_verify`: MGF1 over `H`, xor, clear the leftmost bits -/
def pssRecoverDB (H : HashAlg) (maskedDB h : Bytes) (emLen emBits : Nat) : Except Err Bytes :=
  match mgf1 H h (emLen - H.hLen - 1) with
  | .error e => .error e
  | .ok dbMask =>
    let db := xorBytes maskedDB dbMask
    let mLen := emLen * 8 - emBits
    let mask := (1 <<< (8 - mLen)) - 1
    maskHead mask db

/-- `EMSA_PSS_verify(mHash, EM, emBits, hAlg, sLen)`; `.ok ()` is `return True` -/
def emsaPssVerify (H : HashAlg) (mHash em : Bytes) (emBits sLen : Nat) : Except Err Unit :=
  let emLen := divceil emBits 8
  if emLen < H.hLen + sLen + 2 then .error .invalidSignature
  else
    match em.getLast? with
    | none => .error .indexError
    | some last =>
      if last ≠ 0xbc then .error .invalidSignature
      else
        let maskedDB := em.take (emLen - H.hLen - 1)
        let h := (em.drop (emLen - H.hLen - 1)).take H.hLen
        match maskedDB.head? with
        | none => .error .indexError
        | some b0 =>
          if b0.toNat &&& pssTopMask emLen emBits ≠ 0 then .error .invalidSignature
          else
            match pssRecoverDB H maskedDB h emLen emBits with
            | .error e => .error e
            | .ok db =>
              if (db.take (emLen - H.hLen - sLen - 2)).any (· ≠ 0) then .error .invalidSignature
              else
                match db[emLen - H.hLen - sLen - 2]? with
                | none => .error .indexError
                | some sep =>
                  if sep ≠ 1 then .error .invalidSignature
                  else
                    let salt := if sLen ≠ 0 then db.drop (db.length - sLen) else []
                    let newM := List.replicate 8 (0 : UInt8) ++ mHash ++ salt
                    let newH := H.hash newM
                    if h = newH then .ok () else .error .invalidSignature

/-- `RSASSA_PSS_sign`: `emBits = numBits(n) - 1`; a ValueError of the raw operation becomes
    MessageTooLongError -/
def rsassaPssSign (H : HashAlg) (k : PrivKey) (st : Blind) (rnd : Nat) (mHash salt : Bytes) :
    Except Err (Bytes × Blind) := do
  let em ← emsaPssEncode H mHash (numBits k.pub.n - 1) salt
  -- `EM = bytearray(max(0, numBytes(self.n) - len(EM))) + EM`
  let em := List.replicate (numBytes k.pub.n - em.length) (0 : UInt8) ++ em
  match rawPrivateKeyOpBytes k st rnd em with
  | .error .valueError => throw .messageTooLong
  | r => r

/-- `RSASSA_PSS_verify` -/
def rsassaPssVerify (H : HashAlg) (k : PubKey) (mHash sig : Bytes) (sLen : Nat) : Except Err Unit :=
  match rawPublicKeyOpBytes k sig with
  | .error .valueError => .error .invalidSignature
  | .error e => .error e
  | .ok em =>
    let emLen := divceil (numBits k.n - 1) 8
    if em.length > emLen then
      if (em.take (em.length - emLen)).any (· ≠ 0) then .error .invalidSignature
      else emsaPssVerify H mHash (em.drop (em.length - emLen)) (numBits k.n - 1) sLen
    else emsaPssVerify H mHash em (numBits k.n - 1) sLen

/-! ### sign / verify -/

inductive Padding where
  | pkcs1
  | pss
  | other
  deriving DecidableEq, Repr

/-- `RSAKey.sign(bytes, padding, hashAlg, saltLen)`; for PSS `H` is the hash named `hashAlg` and
    `salt` the random salt of length `saltLen` -/
def sign (k : PrivKey) (st : Blind) (rnd : Nat) (bytes : Bytes) (padding : Padding)
    (hashAlg : Option String) (H : HashAlg) (salt : Bytes) : Except Err (Bytes × Blind) :=
  match padding with
  | .pkcs1 => do
    let bytes ← match hashAlg with
      | some a => addPKCS1Prefix bytes a
      | none => pure bytes
    rawPkcs1Sign k st rnd bytes
  | .pss => rsassaPssSign H k st rnd bytes salt
  | .other => .error .unknownRSAType

/-- `RSAKey.verify(sigBytes, bytes, padding, hashAlg, saltLen)` -/
def verify (k : PubKey) (sig bytes : Bytes) (padding : Padding) (hashAlg : Option String)
    (H : HashAlg) (saltLen : Nat) : Except Err Bool :=
  if padding = .pkcs1 ∧ k.pssOnly then .ok false
  else if padding = .pkcs1 ∧ hashAlg = some "sha1" then
    let p1 := addPKCS1SHA1Prefix bytes false
    let p2 := addPKCS1SHA1Prefix bytes true
    let r1 := rawPkcs1Verify k sig p1
    let r2 := rawPkcs1Verify k sig p2
    .ok (r1 || r2)
  else if padding = .pkcs1 then
    match hashAlg with
    | some a =>
      match addPKCS1Prefix bytes a with
      | .ok b => .ok (rawPkcs1Verify k sig b)
      | .error e => .error e
    | none => .ok (rawPkcs1Verify k sig bytes)
  else if padding = .pss then
    match rsassaPssVerify H k bytes sig saltLen with
    | .ok () => .ok true
    | .error .invalidSignature => .ok false
    | .error e => .error e
  else .error .unknownRSAType

/-- `hashAndSign(bytes, rsaScheme, hAlg, sLen)` -/
def hashAndSign (k : PrivKey) (st : Blind) (rnd : Nat) (data : Bytes) (padding : Padding)
    (H : HashAlg) (salt : Bytes) : Except Err (Bytes × Blind) :=
  sign k st rnd (H.hash data) padding (some H.name) H salt

/-- `hashAndVerify(sigBytes, bytes, rsaScheme, hAlg, sLen)` -/
def hashAndVerify (k : PubKey) (sig data : Bytes) (padding : Padding) (H : HashAlg)
    (sLen : Nat) : Except Err Bool :=
  verify k sig (H.hash data) padding (some H.name) H sLen

end Tls.Rsa
