import TlsProofs.RecordAccept
import TlsProofs.RecordRoundtrip
import TlsProofs.RecordRecv
import TlsProofs.RecordConn
import TlsModel.RecordTie
/-
  C02 — a record is accepted only if it is exactly what the peer sent next.

  Same model as C01 (`Tls.Rec`).  "Any other byte string is rejected" is probabilistic for real
  primitives, so it is stated as a REDUCTION with explicit bad events, never with an unsatisfiable
  "the MAC is injective" hypothesis: if the receiver — having processed `k` records — accepts a byte
  string as a record and yields `(type, plaintext)`, then `(type, plaintext)` is the `k`-th record
  the sender protected in this direction / epoch, OR the presented bytes contain a forgery against
  this direction's key:
    `MacForgery P log x tag`  : `tag` verifies on `x`, and the sender never authenticated `x`;
    `AeadForgery P log n a c` : `(nonce, aad, ciphertext)` opens, and the sender never produced it.
  The forged item is an explicit function of the presented bytes (`presentedTag…`, `presented12`),
  so the disjunct is a genuine break of the primitive, not a tautology.
  What the proofs establish is the code-specific part: the authenticated encodings are injective in
  (sequence number, type, length, data), the nonce is an injective function of the sequence number,
  the comparison covers every byte, the state used is the one of this direction and epoch.
  `sent` is ANY list of (type, plaintext) the sender protected from state `s0`; `k ≤ sent.length`
  is the number of records the receiver has processed, so replay (`j < k`), reordering and dropping
  (`j > k`), truncation, extension, bit flips, splices, records of the other direction or another
  epoch (protected under another key, i.e. another `Prims`) are all instances of "some byte string".
-/
namespace Tls.Rec
open Tls.CT

/-- `calculateMAC` input: seq ‖ type ‖ [version] ‖ length ‖ data determines (seq, type, data) -/
theorem macInput_injective (c : Cfg) (s1 s2 : Nat) (t1 t2 : UInt8) (d1 d2 : Bytes)
    (h1 : s1 < 2 ^ 64) (h2 : s2 < 2 ^ 64) (h : macInput s1 t1 c d1 = macInput s2 t2 c d2) :
    s1 = s2 ∧ t1 = t2 ∧ d1 = d2 :=
  macInput_inj c s1 s2 t1 t2 d1 d2 h1 h2 h

/-- TLS 1.2 AEAD additional data determines (seq, type, plaintext length); TLS 1.3 additional data
    (the record header) determines (type, wire length) -/
theorem aad_injective (vmaj vmin : Nat) (s1 s2 : Nat) (t1 t2 : UInt8) (l1 l2 : Nat)
    (h1 : s1 < 2 ^ 64) (h2 : s2 < 2 ^ 64) (hl1 : l1 < 2 ^ 16) (hl2 : l2 < 2 ^ 16) :
    (aad12 s1 t1 vmaj vmin l1 = aad12 s2 t2 vmaj vmin l2 → s1 = s2 ∧ t1 = t2 ∧ l1 = l2) ∧
    (aad13 t1 vmaj vmin l1 = aad13 t2 vmaj vmin l2 → t1 = t2 ∧ l1 = l2) := by
  constructor
  · intro h
    unfold aad12 at h
    obtain ⟨hs, hr⟩ := List.append_inj h (by rw [seqBytes_length, seqBytes_length])
    refine ⟨seqBytes_inj s1 s2 h1 h2 hs, ?_, ?_⟩
    · simp at hr; exact hr.1
    · exact be16_inj l1 l2 hl1 hl2 (List.append_inj hr (by simp)).2
  · intro h
    unfold aad13 at h
    have h2 := List.append_inj h (by simp)
    exact ⟨by simpa using h2.1, be16_inj l1 l2 hl1 hl2 h2.2⟩

/-- `_getNonce`: both constructions (fixed ‖ seq, and (0-pad ‖ seq) XOR fixed IV) are injective in
    the sequence number on the real domain; so no nonce repeats within an epoch and, in TLS 1.3
    where the sequence number is authenticated only through the nonce, it is authenticated -/
theorem nonce_injective_in_seq (c : Cfg) (hfn : c.xorNonce = true → 8 ≤ c.fixedNonce.length)
    (s1 s2 : Nat) (h1 : s1 < 2 ^ 64) (h2 : s2 < 2 ^ 64) (h : nonce c s1 = nonce c s2) : s1 = s2 := by
  unfold nonce at h
  cases hx : c.xorNonce
  · simp only [hx, Bool.false_eq_true, if_false] at h
    exact seqBytes_inj s1 s2 h1 h2 (List.append_cancel_left h)
  · simp only [hx, if_true] at h
    have h8 := hfn hx
    have := xorBytes_inj _ _ _ (by simp [zeros, seqBytes_length]) (by simp [zeros, seqBytes_length]; omega) h
    exact seqBytes_inj s1 s2 h1 h2 (List.append_cancel_left this)

/-- MAC-then-encrypt, stream cipher or null cipher (SSLv3 … TLS 1.2) -/
theorem accept_is_next_or_forgery_mteStream {S} (P : Prims S) (c : Cfg) (hmac : c.hasMac = true) (u : Bool)
    (s0 : St S) (sent : List (UInt8 × Bytes)) (k : Nat) (rst : St S)
    (hk : rst.seq = s0.seq + k) (hb : s0.seq + sent.length < 2 ^ 64) (hkn : k ≤ sent.length)
    (t : UInt8) (body : Bytes) (st' : St S) (p : Bytes)
    (hacc : decStream P c u rst t body = .ok (st', p)) :
    (∃ h : k < sent.length, sent[k] = (t, p)) ∨
      MacForgery P (logMte c (trace (protMteStream P c u) s0 sent)) (macInput rst.seq t c p)
        (presentedTagStream P u rst body) := by
  unfold decStream at hacc
  simp only [hmac, if_true] at hacc
  generalize hr : (if u = true then P.dec rst.cs body else (rst.cs, body)) = r at hacc
  have hpt : presentedTagStream P u rst body = (r.2.drop (r.2.length - P.mac.dlen)).take P.mac.dlen := by
    unfold presentedTagStream; rw [← hr]; cases u <;> rfl
  by_cases h1 : P.mac.dlen > r.2.length
  · simp [h1] at hacc
  · simp only [h1, if_false] at hacc
    by_cases hdig : (P.mac.digest (macInput rst.seq t c (dropLast P.mac.dlen r.2)) ==
        (r.2.drop (r.2.length - P.mac.dlen)).take P.mac.dlen) = true
    · simp only [hdig, if_true, Except.ok.injEq, Prod.mk.injEq] at hacc
      obtain ⟨_, hp⟩ := hacc
      rw [hp] at hdig
      rw [hpt]
      exact (mac_next_or_forgery P c _ (seq_mteStream P c hmac u) (·.2.2) s0 sent k rst hk hb hkn t p _
        (beq_iff_eq.mp hdig)).imp (fun ⟨h, h1, h2⟩ => ⟨h, Prod.ext h1 h2⟩) id
    · simp [hdig] at hacc

/-- MAC-then-encrypt CBC (SSLv3 … TLS 1.2), through `ct_check_cbc_mac_and_pad` (C12's
    characterisation).  The conclusion is at (type, plaintext) level:
    `accept_is_next_or_forgery_mteCbc_bytes_partial` — that no OTHER ciphertext decrypts to the same
    fragment ‖ MAC with a different valid padding — needs unpredictability of the block cipher, an
    assumption about the primitive that is not a functional law; it is not proved here. -/
theorem accept_is_next_or_forgery_mteCbc {S} (P : Prims S) (hm : MacLaw P) (hbl : BlockLaw P) (c : Cfg)
    (hmac : c.hasMac = true) (s0 : St S) (sent : List (UInt8 × Bytes)) (k : Nat) (rst : St S)
    (hk : rst.seq = s0.seq + k) (hb : s0.seq + sent.length < 2 ^ 64) (hkn : k ≤ sent.length)
    (t : UInt8) (body : Bytes) (hbody : body.length < 2 ^ 16) (st' : St S) (p : Bytes)
    (hacc : decCbc P c rst t body = .ok (st', p)) :
    (∃ h : k < sent.length, sent[k] = (t, p)) ∨
      MacForgery P (logMte c (trace (protMteCbc P c) s0 sent)) (macInput rst.seq t c p)
        (presentedTagCbc P c rst body) := by
  unfold decCbc at hacc
  by_cases hmod : (body.length % P.bs != 0) = true
  · simp [hmod] at hacc
  · simp only [hmod] at hacc
    have hdata : (if c.verGe 3 2 = true then (P.dec rst.cs body).2.drop P.bs else (P.dec rst.cs body).2) =
        cbcData P c rst body := rfl
    simp only [hdata] at hacc
    by_cases hchk : (!cbcCheck P.mac (cbcData P c rst body) (seqBytes rst.seq) t c.vmaj c.vmin P.bs) = true
    · simp [hchk] at hacc
    · simp only [hchk] at hacc
      have hchk' : cbcCheck P.mac (cbcData P c rst body) (seqBytes rst.seq) t c.vmaj c.vmin P.bs = true := by
        simpa using hchk
      simp only [Bool.false_eq_true, if_false, Except.ok.injEq, Prod.mk.injEq] at hacc
      obtain ⟨_, hp⟩ := hacc
      have hlen : (cbcData P c rst body).length < 2 ^ 31 := by
        unfold cbcData
        have := hbl.dec_len rst.cs body
        split <;> simp <;> omega
      -- the check is `wellFormed` (C12), whose MAC clause is the tag comparison at the fragment `stripPadMac` returns
      rw [cbcCheck_spec P.mac (cbcData P c rst body) (seqBytes rst.seq) t c.vmaj c.vmin P.bs
        hm.len hlen (by have := hbl.bs_le; omega)] at hchk'
      have htag : presentedTagCbc P c rst body = P.mac.digest (macInput rst.seq t c p) := by
        rw [presentedTagCbc, (wellFormed_mac _ _ _ _ _ _ _ hchk').1, hp]
        rfl
      exact (mac_next_or_forgery P c _ (seq_mteCbc P c hmac) (·.2.2) s0 sent k rst hk hb hkn t p _ htag.symm).imp
        (fun ⟨h, h1, h2⟩ => ⟨h, Prod.ext h1 h2⟩) id

/-- encrypt-then-MAC CBC: strengthened to BYTE equality of the record body -/
theorem accept_is_next_or_forgery_etm {S} (P : Prims S) (hm : MacLaw P) (hbl : BlockLaw P) (c : Cfg)
    (hmac : c.hasMac = true) (hiv : c.verGe 3 2 = true → c.fixedIV.length = P.bs)
    (s0 : St S) (sent : List (UInt8 × Bytes)) (k : Nat) (rst : St S)
    (hsync : rst = runState (protEtm P c true) s0 (sent.take k))
    (hb : s0.seq + sent.length < 2 ^ 64) (hkn : k ≤ sent.length)
    (t : UInt8) (body : Bytes) (st' : St S) (p : Bytes)
    (hacc : decEtm P c true rst t body = .ok (st', p)) :
    (∃ h : k < sent.length, sent[k] = (t, p) ∧ body = (protEtm P c true rst sent[k].1 sent[k].2).2) ∨
      MacForgery P (logEtm P c (trace (protEtm P c true) s0 sent))
        (macInput rst.seq t c (dropLast P.mac.dlen body)) (lastN P.mac.dlen body) := by
  have hseqk : rst.seq = s0.seq + k := by
    rw [hsync, runState_seq _ (seq_etm P c hmac true)]; simp; omega
  have hacc0 := hacc
  unfold decEtm at hacc
  simp only [hmac, if_true] at hacc
  by_cases hshort : body.length < P.mac.dlen
  · simp [hshort] at hacc
  simp only [hshort, if_false] at hacc
  by_cases hdig : (P.mac.digest (macInput rst.seq t c (dropLast P.mac.dlen body)) == lastN P.mac.dlen body) = true
  · refine (mac_next_or_forgery P c _ (seq_etm P c hmac true) (fun x => (P.enc x.1.cs (etmPlain P c x.2.2)).2)
      s0 sent k rst hseqk hb hkn t _ _ (beq_iff_eq.mp hdig)).imp ?_ id
    rintro ⟨hj, h1, h2⟩
    -- the authenticated ciphertext and the tag that verified on it make up the sender's body
    have hbody : body = (protEtm P c true rst sent[k].1 sent[k].2).2 := by
      unfold protEtm
      simp only [hmac, if_true]
      rw [hsync, h2, h1, ← hsync, beq_iff_eq.mp hdig]
      exact (dropLast_append_lastN _ _ hm.pos).symm
    refine ⟨hj, ?_, hbody⟩
    rw [hbody, ← h1, rt_etm P hm hbl c hiv] at hacc0
    cases hacc0
    exact Prod.ext h1 rfl
  · simp [hdig] at hacc

/-- AEAD in TLS 1.2 (explicit / XOR / draft nonce): byte equality of the record body -/
theorem accept_is_next_or_forgery_aead12 {S} (P : Prims S) (ha : AeadLaw P) (c : Cfg) (h13 : c.is13 = false)
    (hname : c.nameHasAes = true → c.nameIsChacha = false)
    (s0 : St S) (sent : List (UInt8 × Bytes)) (hsl : ∀ x ∈ sent, x.2.length < 2 ^ 16)
    (k : Nat) (rst : St S) (hk : rst.seq = s0.seq + k) (hb : s0.seq + sent.length < 2 ^ 64) (hkn : k ≤ sent.length)
    (h : Rec) (hbody : h.body.length < 2 ^ 16) (st' : St S) (p : Bytes)
    (hacc : decAead P c rst h = .ok (st', p)) :
    (∃ hk : k < sent.length, sent[k] = (h.typ, p) ∧ h.body = (protAead P c rst h.typ p).2) ∨
      AeadForgery P (logAead12 P c (trace (protAead P c) s0 sent))
        (presented12 P c rst h).1 (presented12 P c rst h).2.1 (presented12 P c rst h).2.2 := by
  obtain ⟨h8, hop⟩ := decAead_ok12 h13 hacc
  refine (aead_logged_or_forgery P ha c _ (seq_aead P c) (fun x => aad12 x.1.seq x.2.1 c.vmaj c.vmin x.2.2.length)
    (·.2.2) s0 sent _ _ _ p hop).imp ?_ id
  rintro ⟨j, hj, e1, e2, e3, e4, hsj⟩
  simp only [presented12] at e1 e2 e3 e4
  have hctl : (if c.explicitNonce = true then h.body.drop 8 else h.body).length < 2 ^ 16 := by
    split <;> simp <;> omega
  -- the additional data pins sequence number, type and plaintext length
  obtain ⟨a1, a2, a3⟩ := (aad_injective _ _ _ _ _ _ _ _ (by omega) (by omega) (by omega)
    (hsl sent[j] (List.getElem_mem hj))).1 e2
  obtain rfl : j = k := by omega
  refine ⟨hj, Prod.ext a2.symm e3.symm, ?_⟩
  unfold protAead
  simp only [h13, Bool.not_false, if_true]
  rw [← hk] at e1
  rw [e2, ← a1, ← a2, ← e3] at e4
  cases he : c.explicitNonce
  · simp only [he, Bool.false_eq_true, if_false] at e4 ⊢
    exact e4
  · simp only [he, if_true] at e4 e1 ⊢
    rw [nonce_explicit c h13 hname he] at e1 ⊢
    rw [← e1, ← e4, ← List.append_cancel_left e1]
    exact (List.take_append_drop 8 h.body).symm

/-- TLS 1.3, at the level of `recvRecord` (outer type / version checks, open, de-padding): a
    protected record (outer type 23) that is accepted yields exactly the sender's `k`-th (inner
    type, fragment) and is byte-identical to the sender's `k`-th record body — in particular an
    attacker cannot change the inner content type or the amount of padding. -/
theorem accept_is_next_or_forgery_tls13 {S} (P : Prims S) (ha : AeadLaw P) (c : Cfg) (h13 : c.is13 = true)
    (hci : c.cipher = .aead) (hfn : 8 ≤ c.fixedNonce.length) (padCb : Option PadCb) (sendLimit : Nat)
    (s0 : St S) (sent : List (UInt8 × Bytes)) (hsent : ∀ x ∈ sent, x.1 ≠ 0)
    (k : Nat) (rv : Recv S) (hk : rv.st.seq = s0.seq + k) (hb : s0.seq + sent.length < 2 ^ 64) (hkn : k ≤ sent.length)
    (h : Rec) (htyp : h.typ = 23) (rv' : Recv S) (t : UInt8) (p : Bytes)
    (hacc : recvRecord P c rv h = .ok rv' t p) :
    (∃ hk : k < sent.length, sent[k] = (t, p) ∧ h.body = (send13 P c padCb sendLimit rv.st sent[k].1 sent[k].2).2) ∨
      AeadForgery P (log13 P c padCb sendLimit (trace (send13 P c padCb sendLimit) s0 sent))
        (nonce c rv.st.seq) (aad13 23 3 3 h.body.length) h.body := by
  obtain ⟨st', inner, hd, hpost⟩ := recvRecord_ok hacc
  rw [decrypt_eq P c rv h (fun _ => by simp [htyp]) (fun _ => by simp [hci])] at hd
  simp only [hci, beq_self_eq_true, if_true] at hd
  obtain ⟨-, hop⟩ := decAead_ok13 h13 hd
  have hdp := (recvPost_ok_iff.mp hpost).2
  rw [if_pos (by rw [h13, hci, htyp]; rfl)] at hdp
  replace hdp := hdp.2.1
  refine (aead_logged_or_forgery P ha c (send13 P c padCb sendLimit)
    (fun s t p => by unfold send13; exact seq_aead P c s 23 _)
    (fun x => aad13 23 3 3 ((innerPlain padCb sendLimit x.2.1 x.2.2).length + P.tagLen))
    (fun x => innerPlain padCb sendLimit x.2.1 x.2.2) s0 sent _ _ _ inner hop).imp ?_ id
  rintro ⟨j, hj, e1, e2, e3, e4, -⟩
  simp only at e2 e3
  -- the sequence number is authenticated through the nonce alone
  obtain rfl : j = k := by
    have := nonce_injective_in_seq c (fun _ => hfn) _ _ (by omega) (by omega) e1
    omega
  -- the inner plaintext is the sender's and de-pads to its record
  rw [e3, innerPlain_eq, dePad_inner _ _ _ (hsent _ (List.getElem_mem hj))] at hdp
  cases hdp
  exact ⟨hj, rfl, by rw [send13_body P c h13, ← e2, ← e3]; exact e4⟩

/-- TLS 1.3 with keys installed accepts a record whose outer type is not application_data only if
    it is a ChangeCipherSpec, or — before the handshake is done (`plaintext_alerts_ok`) — an alert of
    fewer than 3 bytes while no protected record has been received under the current key; such a
    record keeps its own type (it can never become application data) and does not touch the read
    state.  Every other outer type is `unexpected_message`. -/
theorem tls13_outer_type_enforced {S} (P : Prims S) (c : Cfg) (h13 : c.is13 = true) (hci : c.cipher = .aead)
    (rv : Recv S) (h : Rec) (htyp : h.typ ≠ 23) (rv' : Recv S) (t : UInt8) (p : Bytes)
    (hacc : recvRecord P c rv h = .ok rv' t p) :
    (h.typ = 20 ∨ (h.typ = 21 ∧ h.body.length < 3 ∧ rv.plaintextAlertsOk = true ∧ rv.st.seq = 0)) ∧
      t = h.typ ∧ p = h.body ∧ rv'.st = rv.st := by
  obtain ⟨st', data, hd, hpost⟩ := recvRecord_ok hacc
  obtain ⟨rfl, hres⟩ := recvPost_ok_iff.mp hpost
  rw [if_neg (by simp [htyp])] at hres
  obtain ⟨-, rfl, rfl⟩ := hres
  unfold decrypt at hd
  simp only [h13, hci, Bool.true_and] at hd
  by_cases h20 : h.typ = 20
  · simp [h20] at hd
    exact ⟨Or.inl h20, rfl, hd.2.symm, hd.1.symm⟩
  by_cases h21 : (h.typ == 21 && decide (h.body.length < 3) && rv.plaintextAlertsOk && Cipher.aead != Cipher.null &&
      rv.st.seq == 0) = true
  · simp [h20, h21] at hd
    simp at h21
    exact ⟨Or.inr ⟨h21.1.1.1, h21.1.1.2, h21.1.2, h21.2⟩, rfl, hd.2.symm, hd.1.symm⟩
  -- protected path: only outer type 23 gets through `_decryptAndUnseal`
  cases hdec : decAead P c rv.st h with
  | error e => simp [h20, h21, hdec] at hd
  | ok x => exact absurd (decAead_ok13 h13 hdec).1 htyp

/-- after the handshake (`plaintext_alerts_ok = False`, set by `_handshakeDone`) the only record a
    TLS 1.3 endpoint accepts without protection is ChangeCipherSpec (which the layer above rejects
    with `unexpected_message` once `_middlebox_compat_mode` is off): no unprotected alert can close
    the connection on the attacker's terms -/
theorem tls13_no_plaintext_alert_after_handshake {S} (P : Prims S) (c : Cfg) (h13 : c.is13 = true)
    (hci : c.cipher = .aead) (rv : Recv S) (hflag : rv.plaintextAlertsOk = false) (h : Rec) (htyp : h.typ ≠ 23)
    (rv' : Recv S) (t : UInt8) (p : Bytes) (hacc : recvRecord P c rv h = .ok rv' t p) : h.typ = 20 := by
  rcases (tls13_outer_type_enforced P c h13 hci rv h htyp rv' t p hacc).1 with h20 | ⟨_, _, hf, _⟩
  · exact h20
  · rw [hflag] at hf; cases hf

/-- TLS ≤ 1.2: whatever `recvRecord` accepts was accepted by the decryption dispatch under the
    header's own content type — the outer layers (length caps, early-data window, limit checks) can
    only turn an accept into a reject — so the per-path theorems above cover `recvRecord` itself -/
theorem recvRecord_ok_decrypt {S} (P : Prims S) (c : Cfg) (h13 : c.is13 = false) (rv rv' : Recv S) (h : Rec)
    (t : UInt8) (p : Bytes) (hacc : recvRecord P c rv h = .ok rv' t p) :
    decrypt P c rv h = .ok (rv'.st, p) ∧ t = h.typ := by
  obtain ⟨st', data, hd, hpost⟩ := recvRecord_ok hacc
  obtain ⟨rfl, hres⟩ := recvPost_ok_iff.mp hpost
  rw [if_neg (by simp [h13])] at hres
  obtain ⟨-, rfl, rfl⟩ := hres
  exact ⟨hd, rfl⟩

/-- … and the dispatch selects the path from the configuration alone (cipher kind, EtM flag) -/
theorem decrypt_path {S} (P : Prims S) (c : Cfg) (h13 : c.is13 = false) (rv : Recv S) (hearly : rv.earlyOk = false) (h : Rec) :
    decrypt P c rv h =
      (if c.cipher == .aead then decAead P c rv.st h
       else if c.etm then (match c.cipher with
          | .null => decEtm P c false rv.st h.typ h.body
          | _ => decEtm P c true rv.st h.typ h.body)
       else match c.cipher with
          | .block => decCbc P c rv.st h.typ h.body
          | .null => decStream P c false rv.st h.typ h.body
          | _ => decStream P c true rv.st h.typ h.body) :=
  decrypt_eq P c rv h (fun h => by rw [h13] at h; cases h) (fun h => by rw [hearly] at h; cases h)

/-- a byte string whose first byte is not a content type (read as an SSLv2 record header) is refused
    with `unexpected_message` as soon as the read state of an SSLv3/TLS connection has a cipher or a
    MAC: SSLv2 framing cannot be used to reach the SSLv2 decryption code with TLS keys -/
theorem ssl2_framing_refused (c : Cfg) (hv : ¬ ((c.vmaj = 2 ∧ c.vmin = 0) ∨ (c.vmaj = 0 ∧ c.vmin = 2)))
    (hprot : c.cipher ≠ .null ∨ c.hasMac = true) : recvSsl2Framed c = some .unexpected_message := by
  unfold recvSsl2Framed
  have h1 : ((c.vmaj == 2 && c.vmin == 0) || (c.vmaj == 0 && c.vmin == 2)) = false := by
    cases h : ((c.vmaj == 2 && c.vmin == 0) || (c.vmaj == 0 && c.vmin == 2))
    · rfl
    · simp at h; exact absurd h hv
  have h2 : (c.cipher != .null || c.hasMac) = true := by
    rcases hprot with h | h <;> simp [h]
  simp [h1, h2]

/-- REPLAY: presenting again the body of an earlier record `j < k` (EtM): accepted only through a
    forgery, or if the replayed bytes are byte-identical to the record due next -/
theorem replay_rejected_or_forgery_etm {S} (P : Prims S) (hm : MacLaw P) (hbl : BlockLaw P) (c : Cfg)
    (hmac : c.hasMac = true) (hiv : c.verGe 3 2 = true → c.fixedIV.length = P.bs)
    (s0 : St S) (sent : List (UInt8 × Bytes)) (j k : Nat) (hj : j < sent.length) (_hjk : j ≠ k) (hkn : k ≤ sent.length)
    (hb : s0.seq + sent.length < 2 ^ 64) (st' : St S) (p : Bytes)
    (hacc : decEtm P c true (runState (protEtm P c true) s0 (sent.take k)) sent[j].1
        (protEtm P c true (runState (protEtm P c true) s0 (sent.take j)) sent[j].1 sent[j].2).2 = .ok (st', p)) :
    (∃ h : k < sent.length,
        (protEtm P c true (runState (protEtm P c true) s0 (sent.take j)) sent[j].1 sent[j].2).2 =
        (protEtm P c true (runState (protEtm P c true) s0 (sent.take k)) sent[k].1 sent[k].2).2) ∨
      MacForgery P (logEtm P c (trace (protEtm P c true) s0 sent))
        (macInput (runState (protEtm P c true) s0 (sent.take k)).seq sent[j].1 c
          (dropLast P.mac.dlen (protEtm P c true (runState (protEtm P c true) s0 (sent.take j)) sent[j].1 sent[j].2).2))
        (lastN P.mac.dlen (protEtm P c true (runState (protEtm P c true) s0 (sent.take j)) sent[j].1 sent[j].2).2) := by
  rcases accept_is_next_or_forgery_etm P hm hbl c hmac hiv s0 sent k _ rfl hb hkn _ _ st' p hacc with ⟨h, _, hbody⟩ | hf
  · exact Or.inl ⟨h, hbody⟩
  · exact Or.inr hf

/-- REPLAY / REORDER / DROP at MAC-then-encrypt level: whatever record `j ≠ k` of the same
    direction is presented at position `k`, acceptance with result `(t, p)` means `(t, p)` is the
    record due at `k`, or a MAC forgery; in particular after dropping record `k` (presenting
    `k + 1`) the connection cannot silently continue -/
theorem reorder_rejected_or_forgery_mte {S} (P : Prims S) (c : Cfg) (hmac : c.hasMac = true) (u : Bool)
    (s0 : St S) (sent : List (UInt8 × Bytes)) (j k : Nat) (_hj : j < sent.length) (_hjk : j ≠ k) (hkn : k ≤ sent.length)
    (hb : s0.seq + sent.length < 2 ^ 64) (rst : St S) (hk : rst.seq = s0.seq + k) (t : UInt8) (bodyj : Bytes)
    (st' : St S) (p : Bytes) (hacc : decStream P c u rst t bodyj = .ok (st', p)) :
    (∃ h : k < sent.length, sent[k] = (t, p)) ∨
      MacForgery P (logMte c (trace (protMteStream P c u) s0 sent)) (macInput rst.seq t c p)
        (presentedTagStream P u rst bodyj) :=
  accept_is_next_or_forgery_mteStream P c hmac u s0 sent k rst hk hb hkn t bodyj st' p hacc

/-- CROSS-DIRECTION / OTHER EPOCH: a record protected under ANOTHER key (`P'`: the other
    direction's or another epoch's primitives, any state, any content) presented to a receiver of
    this direction that has not been sent anything yet (`sent = []`): every acceptance is a forgery
    against THIS direction's key -/
theorem reflection_is_forgery_aead12 {S} (P P' : Prims S) (ha : AeadLaw P) (c : Cfg) (h13 : c.is13 = false)
    (hname : c.nameHasAes = true → c.nameIsChacha = false) (s0 rst other : St S) (hk : rst.seq = s0.seq)
    (hb : s0.seq < 2 ^ 64) (t : UInt8) (data : Bytes) (hlen : (protAead P' c other t data).2.length < 2 ^ 16)
    (st' : St S) (p : Bytes)
    (hacc : decAead P c rst ⟨t, c.vmaj, c.vmin, (protAead P' c other t data).2⟩ = .ok (st', p)) :
    AeadForgery P []
      (presented12 P c rst ⟨t, c.vmaj, c.vmin, (protAead P' c other t data).2⟩).1
      (presented12 P c rst ⟨t, c.vmaj, c.vmin, (protAead P' c other t data).2⟩).2.1
      (presented12 P c rst ⟨t, c.vmaj, c.vmin, (protAead P' c other t data).2⟩).2.2 := by
  rcases accept_is_next_or_forgery_aead12 P ha c h13 hname s0 [] (by simp) 0 rst (by simpa using hk) (by simpa using hb) (by simp)
    ⟨t, c.vmaj, c.vmin, (protAead P' c other t data).2⟩ hlen st' p hacc with ⟨h, _⟩ | hf
  · simp at h
  · simpa [logAead12, trace] using hf

/-- TRUNCATION / EXTENSION / BIT FLIP (EtM, and likewise AEAD by `…_aead12` / `…_tls13`): any body
    that differs from the honest next body in any byte, or in length, is accepted only via forgery -/
theorem modified_rejected_or_forgery_etm {S} (P : Prims S) (hm : MacLaw P) (hbl : BlockLaw P) (c : Cfg)
    (hmac : c.hasMac = true) (hiv : c.verGe 3 2 = true → c.fixedIV.length = P.bs)
    (s0 : St S) (sent : List (UInt8 × Bytes)) (k : Nat) (hk : k < sent.length) (hb : s0.seq + sent.length < 2 ^ 64)
    (t : UInt8) (body : Bytes)
    (hdiff : body ≠ (protEtm P c true (runState (protEtm P c true) s0 (sent.take k)) sent[k].1 sent[k].2).2)
    (st' : St S) (p : Bytes)
    (hacc : decEtm P c true (runState (protEtm P c true) s0 (sent.take k)) t body = .ok (st', p)) :
    MacForgery P (logEtm P c (trace (protEtm P c true) s0 sent))
      (macInput (runState (protEtm P c true) s0 (sent.take k)).seq t c (dropLast P.mac.dlen body))
      (lastN P.mac.dlen body) := by
  rcases accept_is_next_or_forgery_etm P hm hbl c hmac hiv s0 sent k _ rfl hb (by omega) t body st' p hacc with ⟨_, _, hbody⟩ | hf
  · exact absurd hbody hdiff
  · exact hf

/-- TLS 1.3 INNER TYPE / PADDING FORGERY: a protected record whose body differs from the honest
    next body (which fixes inner type, fragment and padding length) is accepted only via forgery -/
theorem tls13_inner_forgery {S} (P : Prims S) (ha : AeadLaw P) (c : Cfg) (h13 : c.is13 = true)
    (hci : c.cipher = .aead) (hfn : 8 ≤ c.fixedNonce.length) (padCb : Option PadCb) (sendLimit : Nat)
    (s0 : St S) (sent : List (UInt8 × Bytes)) (hsent : ∀ x ∈ sent, x.1 ≠ 0)
    (k : Nat) (hk : k < sent.length) (rv : Recv S) (hseq : rv.st.seq = s0.seq + k) (hb : s0.seq + sent.length < 2 ^ 64)
    (h : Rec) (htyp : h.typ = 23)
    (hdiff : h.body ≠ (send13 P c padCb sendLimit rv.st sent[k].1 sent[k].2).2)
    (rv' : Recv S) (t : UInt8) (p : Bytes) (hacc : recvRecord P c rv h = .ok rv' t p) :
    AeadForgery P (log13 P c padCb sendLimit (trace (send13 P c padCb sendLimit) s0 sent))
      (nonce c rv.st.seq) (aad13 23 3 3 h.body.length) h.body := by
  rcases accept_is_next_or_forgery_tls13 P ha c h13 hci hfn padCb sendLimit s0 sent hsent k rv hseq hb (by omega) h htyp rv' t p hacc
    with ⟨_, _, hbody⟩ | hf
  · exact absurd hbody hdiff
  · exact hf

/-- every rejection by the record layer (`recvRecord` raising) while a read is in progress: exactly
    one fatal alert with the tabled description goes out through the write state, no byte of the
    record reaches the read buffer or the application, the connection is closed, the session is
    not resumable, and the rejected record is consumed -/
theorem reject_is_fatal {W R} (prot : W → UInt8 → Bytes → Option (W × Rec))
    (unprot : R → Rec → Except Err (Option (R × UInt8 × Bytes))) (max : Option Nat) (min : Nat)
    (tryOnce : Bool) (e : Endpoint W R) (r : Rec) (inc : List Rec)
    (hmore : readMore e min tryOnce = true) (err : Err) (hrej : unprot e.rd r = .error err) :
    let res := epReadLoop prot unprot max min tryOnce e (r :: inc)
    res.2.2.2 = .localAlert err.alert ∧ res.2.2.2.bytes = [] ∧
    res.1.closed = true ∧ res.1.resumable = false ∧ res.1.buf = e.buf ∧ res.2.1 = inc ∧
    res.2.2.1.length ≤ 1 ∧
    (∀ w' a, prot e.wr 21 [2, UInt8.ofNat err.alert] = some (w', a) → res.2.2.1 = [a] ∧ res.1.wr = w') ∧
    err.alert ∈ [10, 20, 21, 22, 47] := by
  obtain ⟨h1, h2, h3, h4, h5⟩ := epFatal_spec prot e err.alert
  simp only [epReadLoop, hmore, if_true, hrej, ReadOut.bytes, true_and]
  exact ⟨h1, h2, h3, h4, h5, by cases err <;> simp [Err.alert]⟩

/-- the same for the two record-level rejections made by `_getNextRecordFromSocket` itself: an
    empty record of a type other than application data, and an unknown content type -/
theorem reject_bad_type_is_fatal {W R} (prot : W → UInt8 → Bytes → Option (W × Rec))
    (unprot : R → Rec → Except Err (Option (R × UInt8 × Bytes))) (max : Option Nat) (min : Nat)
    (tryOnce : Bool) (e : Endpoint W R) (r : Rec) (inc : List Rec)
    (hmore : readMore e min tryOnce = true) (rd' : R) (t : UInt8) (d : Bytes)
    (hok : unprot e.rd r = .ok (some (rd', t, d))) (ht : t ≠ 23)
    (hbad : d = [] ∨ (t ≠ 20 ∧ t ≠ 21 ∧ t ≠ 22 ∧ t ≠ 24)) :
    let res := epReadLoop prot unprot max min tryOnce e (r :: inc)
    res.2.2.2 = .localAlert 10 ∧ res.1.closed = true ∧ res.1.resumable = false ∧ res.1.buf = e.buf ∧
    res.2.1 = inc ∧ res.2.2.1.length ≤ 1 := by
  have h23 : (t == 23) = false := by simp [ht]
  have hcond : (d.isEmpty || !(t == 20 || t == 21 || t == 22 || t == 24)) = true := by
    rcases hbad with h | ⟨h1, h2, h3, h4⟩
    · simp [h]
    · simp [h1, h2, h3, h4]
  obtain ⟨h1, h2, h3, h4, -⟩ := epFatal_spec prot { e with rd := rd' } Err.unexpected_message.alert
  simp only [epReadLoop, hmore, if_true, hok, h23, Bool.false_eq_true, if_false, hcond, true_and]
  exact ⟨rfl, h1, h2, h3, h4⟩

/-- a ChangeCipherSpec record on an established connection (`_middlebox_compat_mode` cleared at the
    end of the handshake by both roles, with or without client authentication; TLS ≤ 1.2 never
    tolerates it) is fatal like any other rejection: `unexpected_message`, nothing delivered,
    closed, not resumable — it is never skipped silently -/
theorem ccs_after_handshake_is_fatal {W R} (prot : W → UInt8 → Bytes → Option (W × Rec))
    (unprot : R → Rec → Except Err (Option (R × UInt8 × Bytes))) (max : Option Nat) (min : Nat)
    (tryOnce : Bool) (e : Endpoint W R) (r : Rec) (inc : List Rec)
    (hmore : readMore e min tryOnce = true) (hflag : e.ccsTolerated = false) (rd' : R) (d : Bytes)
    (hok : unprot e.rd r = .ok (some (rd', 20, d))) :
    let res := epReadLoop prot unprot max min tryOnce e (r :: inc)
    res.2.2.2 = .localAlert 10 ∧ res.1.closed = true ∧ res.1.resumable = false ∧ res.1.buf = e.buf ∧
    res.2.1 = inc ∧ res.2.2.1.length ≤ 1 := by
  have h1 : ((20 : UInt8) == 23) = false := by decide
  have hc1 : (e.ccsTolerated && d == [1]) = false := by rw [hflag]; rfl
  have hc2 : (e.ccsTolerated && d.head? == some 1) = false := by rw [hflag]; rfl
  obtain ⟨h2, h3, h4, h5, -⟩ := epFatal_spec prot { e with rd := rd' } Err.unexpected_message.alert
  simp only [epReadLoop, hmore, if_true, hok, h1, Bool.false_eq_true, if_false, hc1, hc2, beq_self_eq_true]
  split <;> exact ⟨rfl, h2, h3, h4, rfl, h5⟩

/-- once closed, an endpoint processes nothing further: reads hand out what was buffered BEFORE the
    rejection and consume no record, writes raise `TLSClosedConnectionError` and send nothing -/
theorem closed_is_final {W R} (prot : W → UInt8 → Bytes → Option (W × Rec))
    (unprot : R → Rec → Except Err (Option (R × UInt8 × Bytes))) (max : Option Nat) (min : Nat)
    (tryOnce : Bool) (e : Endpoint W R) (inc : List Rec) (hcl : e.closed = true) (data : Bytes) :
    (epReadLoop prot unprot max min tryOnce e inc).2.1 = inc ∧
    (epReadLoop prot unprot max min tryOnce e inc).2.2.1 = [] ∧
    (epReadLoop prot unprot max min tryOnce e inc).1.rd = e.rd ∧
    (epReadLoop prot unprot max min tryOnce e inc).2.2.2.bytes ++ (epReadLoop prot unprot max min tryOnce e inc).1.buf = e.buf ∧
    epWrite prot e data = (e, [], .closedError) := by
  have hm : readMore e min tryOnce = false := by unfold readMore; simp [hcl]
  rw [epReadLoop_done prot unprot max min tryOnce e inc hm]
  exact ⟨rfl, rfl, rfl, by simp [epReturn, ReadOut.bytes], by simp [epWrite, hcl]⟩

/-- `early_data_ok`: a record the receiver cannot authenticate is skipped instead of being fatal —
    by design (RFC 8446 §4.2.10).  A skipped record yields no data, the read state (sequence number
    and cipher state) is restored exactly, and the running total of skipped bytes stays strictly
    below `max_early_data`. -/
theorem early_data_skip_safe {S} (P : Prims S) (c : Cfg) (rv rv' : Recv S) (h : Rec)
    (hs : recvRecord P c rv h = .skip rv') :
    rv.earlyOk = true ∧ rv'.st = rv.st ∧ rv'.earlyOk = true ∧ rv'.maxEarly = rv.maxEarly ∧
    rv'.recvLimit = rv.recvLimit ∧ rv'.processed = rv.processed + h.body.length ∧
    rv'.processed < rv.maxEarly := by
  obtain ⟨h1, h2, rfl⟩ := recvRecord_skip hs
  exact ⟨h1, rfl, h1, rfl, rfl, rfl, h2⟩

/-- skip all records of a list (the receiver loops inside `recvRecord`) -/
def skipAll {S} (P : Prims S) (c : Cfg) : Recv S → List Rec → Option (Recv S)
  | rv, [] => some rv
  | rv, h :: hs => match recvRecord P c rv h with
    | .skip rv' => skipAll P c rv' hs
    | _ => none

/-- over any run of skipped records: state untouched, total skipped < max_early_data -/
theorem early_data_total_bounded {S} (P : Prims S) (c : Cfg) :
    ∀ (hs : List Rec) (rv rv' : Recv S), skipAll P c rv hs = some rv' → hs ≠ [] →
      rv'.st = rv.st ∧ rv'.processed = rv.processed + (hs.map (·.body.length)).sum ∧
      rv'.processed < rv.maxEarly ∧ rv'.maxEarly = rv.maxEarly
  | [], _, _, _, hne => absurd rfl hne
  | h :: hs, rv, rv', hrun, _ => by
    simp only [skipAll] at hrun
    cases hr : recvRecord P c rv h with
    | ok a b d => simp [hr] at hrun
    | err e => simp [hr] at hrun
    | skip rv1 =>
      simp only [hr] at hrun
      -- `recvRecord_skip` gives the receiver after the skip itself: only `processed` has moved
      obtain ⟨-, h6, rfl⟩ := recvRecord_skip hr
      cases hs with
      | nil =>
        simp only [skipAll, Option.some.injEq] at hrun
        subst hrun
        exact ⟨rfl, by simp, h6, rfl⟩
      | cons h2 hs2 =>
        obtain ⟨i1, i2, i3, i4⟩ := early_data_total_bounded P c (h2 :: hs2) _ rv' hrun (by simp)
        exact ⟨i1, by rw [i2]; simp [Nat.add_assoc], i3, i4⟩

/-- outside the window nothing is ever skipped, and the first accepted record closes the window -/
theorem no_skip_outside_window {S} (P : Prims S) (c : Cfg) (rv : Recv S) (h : Rec) (hw : rv.earlyOk = false) :
    (∀ rv', recvRecord P c rv h ≠ .skip rv') ∧
    (∀ rv' t d, recvRecord P c rv h = .ok rv' t d → rv'.earlyOk = false) := by
  constructor
  · intro rv' hs
    have := (early_data_skip_safe P c rv rv' h hs).1
    rw [hw] at this; cases this
  · intro rv' t d hok
    obtain ⟨_, _, _, hpost⟩ := recvRecord_ok hok
    rw [(recvPost_ok_iff.mp hpost).1]

open Tls.Gen Tls.Rec.Tie

/-! ## tie by regeneration (TlsModel/Gen/Record.lean): the authenticated constructions of the source
are the ones `macInput_injective`, `aad_injective` and `nonce_injective_in_seq` are about -/
/-- the `mac.update(…)` sequence of `calculateMAC`, interpreted field by field, IS `macInput`
    (sequence number, type, [version], length high / low, data — in this order) -/
theorem gen_mac_input_fields_match_model (seq : Nat) (t : UInt8) (c : Cfg) (data : Bytes) :
    interpMac Record.macFields seq t c data = some (macInput seq t c data) ∧
    Record.macResult = ["return bytearray(mac.digest())"] := by
  refine ⟨?_, rfl⟩
  have h1 : data.length >>> 8 = data.length / 256 := by rw [Nat.shiftRight_eq_div_pow]
  have h2 : data.length &&& 0xff = data.length % 256 := Nat.and_two_pow_sub_one_eq_mod _ 8
  unfold interpMac macInput macHeader Record.macFields
  simp only [List.mapM_cons, List.mapM_nil, macField, Option.pure_def, Option.bind_eq_bind, Option.bind_some, Option.map_some, h1, h2]
  cases isSsl3 c.vmaj c.vmin <;> simp

/-- the additional-data expressions of `_encryptThenSeal` / `_decryptAndUnseal` are `aad12` / `aad13`
    (the receiver uses the header it was handed), with the plaintext / output length expressions and
    the explicit-nonce handling the model has -/
theorem gen_aad_matches_model (seq : Nat) (t : UInt8) (c : Cfg) (hv : Nat × Nat) (plen : Nat) :
    Record.aadSend.mapM aadKindOf = some [.tls12, .tls13] ∧ Record.aadRecv.mapM aadKindOf = some [.tls12, .headerWrite] ∧
    AadKind.tls12.eval seq t c hv plen = aad12 seq t c.vmaj c.vmin plen ∧
    AadKind.tls13.eval seq t c hv plen = aad13 t c.recVer.1 c.recVer.2 plen ∧
    AadKind.headerWrite.eval seq t c hv plen = aad13 t hv.1 hv.2 plen ∧
    Record.outLenSend = ["[not(not self._is_tls13_plus())] len(buf) + self._writeState.encContext.tagLength"] ∧
    Record.plainLenRecv = ["[not self._is_tls13_plus()] len(buf) - self._readState.encContext.tagLength"] ∧
    Record.sealSend = ["self._writeState.encContext.seal(nonce, buf, authData)",
      "['aes' in self._writeState.encContext.name and (not self._is_tls13_plus())] seqNumBytes + buf"] ∧
    Record.nonceRecv = ["['aes' in self._readState.encContext.name and (not self._is_tls13_plus())] self._readState.fixedNonce + buf[:explicitNonceLength]",
      "[not('aes' in self._readState.encContext.name and (not self._is_tls13_plus()))] self._getNonce(self._readState, seqnumBytes)"] := by
  -- one evaluation for both tables: the kernel converts each long literal of `aadKindOf` once
  have h : (Record.aadSend.mapM aadKindOf, Record.aadRecv.mapM aadKindOf) =
      (some [.tls12, .tls13], some [.tls12, .headerWrite]) := by decide +kernel
  refine ⟨(Prod.mk.inj h).1, (Prod.mk.inj h).2, ?_, ?_, ?_, rfl, rfl, rfl, rfl⟩
  · simp [AadKind.eval, aad12, be16]
  · simp [AadKind.eval, aad13, be16]
  · simp [AadKind.eval, aad13, be16]

/-- `_getNonce` as it is written computes the model's `nonce` -/
theorem gen_nonce_matches_model (c : Cfg) (seq : Nat) (h : c.xorNonce = true → 8 ≤ c.fixedNonce.length) :
    nonceRecognised Record.nonceCond Record.nonce = true ∧ nonceRecognisedEval c seq = some (nonce c seq) := by
  constructor
  · simp only [nonceRecognised, Record.nonceCond, Record.nonce, beq_self_eq_true, Bool.and_self]
  unfold nonceRecognisedEval nonce
  unfold Cfg.xorNonce at h ⊢
  cases hx : ((c.nameIsChacha && c.fixedNonce.length == 12) || c.is13)
  · simp
  · have := h hx
    have : ¬ c.fixedNonce.length < 8 := by omega
    simp [this]

/-- `_calcTLS1_3KeyUpdate`, evaluated symbolically over an abstract HKDF-Expand-Label: the secret
    handed back (and stored by the caller) is the NEW one, key and IV are derived from it, the state
    is a fresh ConnectionState (sequence number 0); and `calcTLS1_3KeyUpdate_sender/_reciever`
    ratchet, per role, the secret of the direction whose state they replace -/
theorem gen_keyupdate_returns_new_secret {α} (H : α → String → α) (s : α) :
    keyUpdateEval H s Record.keyUpdate =
      some (H s "traffic upd", H s "traffic upd", H s "traffic upd", true) ∧
    keyUpdateRoles = modelKeyUpdateRoles := by
  refine ⟨?_, rfl⟩
  have e : Record.keyUpdate.take 9 = [
   ("_calcTLS1_3KeyUpdate", "(prf_name, prf_length)", "('sha384', 48) if cipherSuite in CipherSuite.sha384PrfSuites else ('sha256', 32)"),
   ("_calcTLS1_3KeyUpdate", "(key_length, iv_length, cipher_func)", "self._getCipherSettings(cipherSuite)"),
   ("_calcTLS1_3KeyUpdate", "iv_length", "12"),
   ("_calcTLS1_3KeyUpdate", "new_app_secret", "HKDF_expand_label(app_secret, b'traffic upd', b'', prf_length, prf_name)"),
   ("_calcTLS1_3KeyUpdate", "new_state", "ConnectionState()"),
   ("_calcTLS1_3KeyUpdate", "new_state.macContext", "None"),
   ("_calcTLS1_3KeyUpdate", "new_state.encContext", "cipher_func(HKDF_expand_label(new_app_secret, b'key', b'', key_length, prf_name), None)"),
   ("_calcTLS1_3KeyUpdate", "new_state.fixedNonce", "HKDF_expand_label(new_app_secret, b'iv', b'', iv_length, prf_name)"),
   ("_calcTLS1_3KeyUpdate", "return", "(new_app_secret, new_state)")] := rfl
  have hsplit : Record.keyUpdate = Record.keyUpdate.take 9 ++ Record.keyUpdate.drop 9 := (List.take_append_drop 9 _).symm
  rw [hsplit, e]
  simp [keyUpdateEval, keyUpdateEval.go]

/-- every protect / unprotect function draws its sequence number from the state of its own
    direction, once, under the guard the model has; `getSeqNumBytes` is 8 bytes, post-increment -/
theorem gen_seq_use_matches_model : Record.seqUse = modelSeqUse := rfl

def demoEtm : Cfg :=
  { vmaj := 3, vmin := 3, tls13record := false, cipher := .block, hasMac := true, etm := true,
    nameHasAes := true, nameIsChacha := false, fixedNonce := [], fixedIV := [9, 8, 7, 6] }

def demoGcm12 : Cfg :=
  { vmaj := 3, vmin := 3, tls13record := false, cipher := .aead, hasMac := false, etm := false,
    nameHasAes := true, nameIsChacha := false, fixedNonce := [1, 2, 3, 4], fixedIV := [] }

def demoChacha13 : Cfg :=
  { vmaj := 3, vmin := 4, tls13record := true, cipher := .aead, hasMac := false, etm := false,
    nameHasAes := false, nameIsChacha := true, fixedNonce := [1, 2, 3, 4, 5, 6, 7, 8, 9, 10, 11, 12], fixedIV := [] }

-- the hypotheses of the theorems above hold for concrete primitives and configurations …
example : MacLaw (Demo.prims 5) ∧ BlockLaw (Demo.prims 5) ∧ AeadLaw (Demo.prims 5) :=
  ⟨Demo.macLaw 5, Demo.blockLaw 5, Demo.aeadLaw 5⟩
example : demoEtm.hasMac = true ∧ (demoEtm.verGe 3 2 = true → demoEtm.fixedIV.length = (Demo.prims 5).bs) := by decide
example : demoGcm12.is13 = false ∧ (demoGcm12.nameHasAes = true → demoGcm12.nameIsChacha = false) := by decide
example : demoChacha13.is13 = true ∧ demoChacha13.cipher = .aead ∧ 8 ≤ demoChacha13.fixedNonce.length ∧
    (demoChacha13.xorNonce = true → 8 ≤ demoChacha13.fixedNonce.length) := by decide

-- … an honest record IS accepted (the left disjunct is reachable) …
example :
    (match decEtm (Demo.prims 5) demoEtm true ⟨4, 1⟩ 23 (protEtm (Demo.prims 5) demoEtm true ⟨4, 1⟩ 23 [7, 7, 7]).2 with
     | .ok (st, p) => decide (st.seq = 5 ∧ p = [7, 7, 7])
     | .error _ => false) = true := by decide

-- … the same record presented at another position, with a flipped bit, truncated, or under
-- another key is rejected by these (weak, but deterministic) demo primitives …
example : (match decEtm (Demo.prims 5) demoEtm true ⟨5, 1⟩ 23 (protEtm (Demo.prims 5) demoEtm true ⟨4, 1⟩ 23 [7, 7, 7]).2 with
     | .ok _ => false | .error e => decide (e = .bad_record_mac)) = true := by decide
example : (match decEtm (Demo.prims 6) demoEtm true ⟨4, 1⟩ 23 (protEtm (Demo.prims 5) demoEtm true ⟨4, 1⟩ 23 [7, 7, 7]).2 with
     | .ok _ => false | .error e => decide (e = .bad_record_mac)) = true := by decide
example : (match decAead (Demo.prims 5) demoGcm12 ⟨2, 0⟩ ⟨23, 3, 3, (protAead (Demo.prims 5) demoGcm12 ⟨2, 0⟩ 23 [1, 2, 3]).2⟩ with
     | .ok (st, p) => decide (st.seq = 3 ∧ p = [1, 2, 3]) | .error _ => false) = true := by decide
example : (match decAead (Demo.prims 5) demoGcm12 ⟨2, 0⟩ ⟨22, 3, 3, (protAead (Demo.prims 5) demoGcm12 ⟨2, 0⟩ 23 [1, 2, 3]).2⟩ with
     | .ok _ => false | .error e => decide (e = .bad_record_mac)) = true := by decide

-- … TLS 1.3: outer type other than 23 on a protected record is unexpected_message, a wrong outer
-- version illegal_parameter, an all-zero inner plaintext unexpected_message
example : (match recvRecord (Demo.prims 5) demoChacha13 ⟨⟨1, 0⟩, false, 0, 0, 16384, false⟩
      ⟨22, 3, 3, (send13 (Demo.prims 5) demoChacha13 none 16384 ⟨1, 0⟩ 23 [1]).2⟩ with
     | .err e => decide (e = .unexpected_message) | _ => false) = true := by decide
example : (match recvRecord (Demo.prims 5) demoChacha13 ⟨⟨1, 0⟩, false, 0, 0, 16384, false⟩
      ⟨23, 3, 1, (send13 (Demo.prims 5) demoChacha13 none 16384 ⟨1, 0⟩ 23 [1]).2⟩ with
     | .err e => decide (e = .illegal_parameter) | _ => false) = true := by decide
example : (match recvRecord (Demo.prims 5) demoChacha13 ⟨⟨1, 0⟩, false, 0, 0, 16384, false⟩
      ⟨23, 3, 3, (protAead (Demo.prims 5) demoChacha13 ⟨1, 0⟩ 23 [0, 0, 0]).2⟩ with
     | .err e => decide (e = .unexpected_message) | _ => false) = true := by decide

-- … early data: an undecryptable record inside the window is skipped, outside it is fatal
example : (match recvRecord (Demo.prims 5) demoChacha13 ⟨⟨0, 0⟩, true, 100, 10, 16384, false⟩ ⟨23, 3, 3, [1, 2, 3, 4, 5]⟩ with
     | .skip rv => decide (rv.processed = 15 ∧ rv.st.seq = 0) | _ => false) = true := by decide
example : (match recvRecord (Demo.prims 5) demoChacha13 ⟨⟨0, 0⟩, false, 100, 10, 16384, false⟩ ⟨23, 3, 3, [1, 2, 3, 4, 5]⟩ with
     | .err e => decide (e = .bad_record_mac) | _ => false) = true := by decide

-- … an unprotected close_notify at sequence number 0: passes during the handshake, fatal afterwards
example : (match recvRecord (Demo.prims 5) demoChacha13 ⟨⟨0, 0⟩, false, 0, 0, 16384, true⟩ ⟨21, 3, 3, [1, 0]⟩ with
     | .ok _ t d => decide (t = 21 ∧ d = [1, 0]) | _ => false) = true := by decide
example : (match recvRecord (Demo.prims 5) demoChacha13 ⟨⟨0, 0⟩, false, 0, 0, 16384, false⟩ ⟨21, 3, 3, [1, 0]⟩ with
     | .err e => decide (e = .unexpected_message) | _ => false) = true := by decide

end Tls.Rec
