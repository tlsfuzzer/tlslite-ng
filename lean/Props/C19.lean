import TlsProofs.SettingsAlias
import TlsProofs.SettingsDomain
/-
  C19 — settings validation is pure and idempotent, yields only what the installation supports and
  rejects what is outside the documented domains.

  Two models of `HandshakeSettings.validate()` (tlslite/handshakesettings.py), both tied to the
  source on every run:
  * `Gen.validateOps` — the alias / copy / mutate structure, *generated* from the AST of `validate`
    and every helper it calls (translate/gen_settings.py); interpreted over an object store
    (`runOps`).  Purity is a theorem about every op list the checker `pureOps` accepts, plus the
    closed fact that the generated list is accepted.
  * `validate : Env → Settings → Except String Settings` — the value-level model (hand-written
    control logic over generated name lists and defaults), tied by correspondence.

  The second half of the property ("compatible settings connect") needs live handshakes and is
  checked with C03/C07; `Tls.Settings.compatible` is the model-level precondition only.
-/
namespace Tls.Settings

/-- **Purity, generic part.**  For every op list accepted by `pureOps`, every initial store (any heap,
    any attribute bindings of receiver and copy, the allocator's `next` above everything the
    receiver reaches), every truth assignment `bits` of the branch conditions and every behaviour
    `I` of the abstracted parts (contents of new lists, what an in-place change does, which `raise`
    fires): after the run the receiver's attributes are bound to the same objects and every object
    the receiver reaches has the content it had. -/
theorem validate_pure {α : Type} (ops : List AliasOp) (h : pureOps ops = true) (I : Interp α)
    (bits : List Bool) (st : Store α) (hwf : ∀ f o, st.selfF f = some o → o < st.next) :
    (runOps I bits ops st).selfF = st.selfF ∧
    ∀ f o, st.selfF f = some o → (runOps I bits ops st).objs o = st.objs o := by
  simp only [pureOps, Bool.and_eq_true, List.all_eq_true] at h
  obtain ⟨b, hb, hagree⟩ := allBits_complete (condBound ops) bits
  obtain ⟨T', hinv⟩ := run_inv I bits b _ hagree st (fun o ⟨f, hf⟩ => hwf f o hf) ops st _ (Inv.init st)
    h.1 (h.2 b hb)
  exact ⟨hinv.selfEq, fun f o hf => hinv.objsEq o ⟨f, hf⟩⟩

/-- **Purity, closed part** (re-checked against the current source on every run): the effects the
    translator reads from `validate()` are accepted — no `unknown`, no re-binding of a receiver
    attribute, and on every path every in-place change hits a list that was copied first. -/
theorem validateOps_accepted : pureOps Gen.validateOps = true := by decide +kernel

/-- the two together: `validate()` as it is written today leaves its receiver untouched -/
theorem validate_receiver_unchanged {α : Type} (I : Interp α) (bits : List Bool) (st : Store α)
    (hwf : ∀ f o, st.selfF f = some o → o < st.next) :
    (runOps I bits Gen.validateOps st).selfF = st.selfF ∧
    ∀ f o, st.selfF f = some o → (runOps I bits Gen.validateOps st).objs o = st.objs o :=
  validate_pure Gen.validateOps validateOps_accepted I bits st hwf

-- non-vacuity: the defect shape (alias, then filter in place) is rejected by the checker …
example : pureOps [⟨[], .initOther ["cipherImplementations"]⟩,
                   ⟨[], .alias "cipherImplementations" .self "cipherImplementations"⟩,
                   ⟨[(0, true)], .mutate .other "cipherImplementations" 0⟩] = false := by decide +kernel
-- … and really changes the receiver's list in the store semantics (object 0 = the receiver's list)
example :
    let I : Interp (List String) := ⟨fun _ => [], fun _ l => l.filter (· != "openssl"), fun _ => false, id⟩
    let st : Store (List String) := ⟨fun _ => ["openssl", "python"], 1,
      fun f => if f = "cipherImplementations" then some 0 else none, fun _ => none⟩
    (runOps I [true] [⟨[], .initOther ["cipherImplementations"]⟩,
        ⟨[], .alias "cipherImplementations" .self "cipherImplementations"⟩,
        ⟨[(0, true)], .mutate .other "cipherImplementations" 0⟩] st).objs 0 = ["python"] := by decide +kernel
-- the repaired shape (copy first) is accepted, and the hypothesis of `validate_pure` is satisfiable
example : pureOps [⟨[], .initOther ["cipherImplementations"]⟩,
                   ⟨[], .alias "cipherImplementations" .self "cipherImplementations"⟩,
                   ⟨[], .copy "cipherImplementations" .other "cipherImplementations"⟩,
                   ⟨[(0, true)], .mutate .other "cipherImplementations" 0⟩] = true := by decide +kernel
-- the generated list is not trivial: it contains in-place changes and aliasing
example : (Gen.validateOps.filter fun op => match op.act with | .mutate .. => true | _ => false).length ≥ 3 := by
  decide +kernel

/-- **Purity across use.**  The copy handed out by `validate()` shares list objects with its receiver
    (`finalTaint` of the generated alias structure, on every path); the translator's scan of every other
    tlslite module finds no in-place change (`.remove/.append/.sort/…`, `del x[i]`, slice or augmented
    assignment, also through a local alias) of such a list and no settings list stored by reference
    where the scan cannot follow it.  So handshake code working on a validated copy cannot change the
    caller's object through a shared list.  (Both sides are regenerated from the source on every run.) -/
theorem use_never_mutates_shared_lists :
    useSafe Gen.validateOps Gen.useMutatedFields = true ∧ Gen.useScanProblems = [] :=
  ⟨useSafe_of_pure _ _ validateOps_accepted (by decide +kernel), by decide⟩

-- non-vacuity: `versions` IS shared on some path, so an in-place change of it anywhere would break the
-- obligation; `cipherImplementations` is always copied first
example : useSafe Gen.validateOps ["versions"] = false := by decide +kernel
example : useSafe Gen.validateOps ["keyShares"] = false := by decide +kernel
example : useSafe Gen.validateOps ["cipherImplementations"] = true := by decide +kernel

/-- the translator classified every module-level statement and every default, and its symbolic
    values agree with the imported module -/
theorem gen_settings_classified : Gen.constsOk = true ∧ Gen.defaultsOk = true := by decide +kernel

/-- **Idempotence.**  Validating the output of a successful validation succeeds and changes nothing. -/
theorem validate_idempotent (env : Env) (s o : Settings) (h : validate env s = .ok o) :
    validate env o = .ok o := by
  obtain ⟨hp, rfl⟩ := (validate_ok_iff env s o).mp h
  exact (validate_ok_iff env _ _).mpr ⟨hp.normalize, (normalize_idem env s).symm⟩

/-- the result differs from the input only by the four filters (version list, MAC list for
    `maxVersion < (3,3)`, unavailable backends, 3DES) — every other field is returned as given -/
theorem validate_result (env : Env) (s o : Settings) (h : validate env s = .ok o) :
    o = normalize env s :=
  ((validate_ok_iff env s o).mp h).2

/-- **Supported only.**  The validated object names only backends that are loaded, 3DES only if an
    implementation exists, only known ciphers/MACs/curves/schemes for this installation (no ML-KEM
    group, ML-DSA scheme, brotli or zstd unless available), no TLS 1.3 in `versions` and no
    SHA-2/AEAD MACs below the respective `maxVersion`. -/
theorem validate_supported_only (env : Env) (s o : Settings) (h : validate env s = .ok o) :
    SupportedBy env o := by
  obtain ⟨p, rfl⟩ := (validate_ok_iff env s o).mp h
  rw [normalize_eq]
  exact {
    implementations := fun i hi => by
      obtain ⟨hm, ho, hp⟩ := (mem_loadedImpls env _ i).mp hi
      have hk := p.cipherImplementations i hm
      simp only [Gen.cipherImplementations, List.mem_cons, List.not_mem_nil, or_false] at hk
      rcases hk with hk | hk | hk
      · exact Or.inr (Or.inl ⟨hk, ho hk⟩)
      · exact Or.inr (Or.inr ⟨hk, hp hk⟩)
      · exact Or.inl hk
    tripleDES := fun h3 => by
      cases ht : env.tripleDES with
      | true => rfl
      | false =>
        have h3 : "3des" ∈ (bif env.tripleDES then s.cipherNames else s.cipherNames.filter fun c => c != "3des") := h3
        rw [ht] at h3
        simp at h3
    ciphers := fun a ha => p.cipherNames a (mem_cond_filter_r _ _ _ a ha)
    macs := fun a ha => p.macNames a (mem_cond_filter_l _ _ _ a ha)
    tls10macs := fun hv a ha => by simpa using of_mem_cond_filter hv ha
    noTls13WithoutIt := fun hv v hm => (of_mem_cond_filter hv hm :)
    curves := p.eccCurves
    mlKemCurves := fun hk a ha => by
      apply gen_mlKem_absent env hk a
      rcases List.mem_append.mp ha with ha | ha
      · exact List.mem_append.mpr (Or.inl (p.eccCurves a ha))
      · exact List.mem_append.mpr (p.keySharesKnown a ha).symm
    keyShares := p.keySharesKnown
    sigSchemes := p.moreSigSchemes
    mlDsaSchemes := fun hk a ha => gen_mlDsa_absent env hk a (p.moreSigSchemes a ha)
    compressionSend := p.compressionSend
    compressionReceive := p.compressionReceive
    brotliSend := fun hb => (gen_compressionSend_flags env).1 (p.compressionSend _ hb)
    zstdSend := fun hb => (gen_compressionSend_flags env).2 (p.compressionSend _ hb)
    brotliReceive := fun hb => (gen_compressionReceive_flags env).1 (p.compressionReceive _ hb)
    zstdReceive := fun hb => (gen_compressionReceive_flags env).2 (p.compressionReceive _ hb) }

/-- **Rejection.**  `validate` succeeds only on settings inside the documented domains; i.e. every
    value outside them is answered with the `ValueError` (`Except.error`). -/
theorem validate_rejects_out_of_domain (env : Env) (s : Settings) (h : ¬ InDomain env s) :
    ∃ e, validate env s = .error e := by
  rcases validate_error_or_ok env s with he | hok
  · exact he
  · exact absurd (validate_inDomain env s _ hok) h

-- non-vacuity: the defaults validate on this installation, and with every optional backend present
example : errorOf (validate Gen.hereEnv (Gen.defaults Gen.hereEnv)) = none := by decide +kernel
example : errorOf (validate ⟨true, true, true, true, true, true, true, true, true, true⟩
    (Gen.defaults ⟨true, true, true, true, true, true, true, true, true, true⟩)) = none := by decide +kernel
-- the filters do something: without m2crypto/pycrypto the default backend list shrinks to python
example : (normalize ⟨false, false, false, false, false, true, false, false, false, false⟩
    (Gen.defaults ⟨false, false, false, false, false, true, false, false, false, false⟩)).cipherImplementations
      = ["python"] := by decide +kernel
-- and rejection is reachable
example : errorOf (validate Gen.hereEnv { Gen.defaults Gen.hereEnv with minKeySize := 511 })
    = some "minKeySize too small" := by decide +kernel
example : errorOf (validate Gen.hereEnv { Gen.defaults Gen.hereEnv with record_size_limit := some 16386 })
    = some "record_size_limit cannot exceed 2**14+1 bytes" := by decide +kernel
example : errorOf (validate Gen.hereEnv { Gen.defaults Gen.hereEnv with macNames := ["sha", "sha3"] })
    = some "Unknown MAC name: " := by decide +kernel
-- two validated default endpoints are compatible at the model level
example : compatible (normalize Gen.hereEnv (Gen.defaults Gen.hereEnv))
    (normalize Gen.hereEnv (Gen.defaults Gen.hereEnv)) = true := by decide +kernel

end Tls.Settings
