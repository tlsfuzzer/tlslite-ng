import TlsProofs.Crypto.ChaChaPoly
import TlsProofs.Crypto.Rc4
import TlsProofs.Crypto.CalcKey
import TlsProofs.Crypto.GcmTop
import TlsProofs.Crypto.CcmTop
import TlsProofs.Crypto.AesFull
/-
  C09 — symmetric primitives and key derivation compute the standardised functions.

  For every primitive: `Model` is the transliteration of the Python in /repo (Python-int
  arithmetic, the code's masks, loops and carried state, exceptions as `Except Err`), `Spec`
  is written from the standard, and the theorem is `model = spec` for every input of every
  length.  Hypotheses are the guards the code itself establishes (key / nonce lengths) or the
  named regions where the code leaves the standard's domain (block counter above 2^32, …).
-/
namespace Tls.Crypto.C09
open Tls Tls.Crypto

/-! ## ChaCha20 (tlslite/utils/chacha.py vs RFC 8439 §2.1–2.4) -/

/-- the Python-int quarter round (masks, shifts, ors) is the 32-bit quarter round of §2.1 -/
theorem chacha20_quarter_round_eq_spec (a b c d : BitVec 32) :
    ChaCha.Model.qrArith a.toNat b.toNat c.toNat d.toNat =
      ((ChaCha.Spec.quarterRound a b c d).1.toNat, (ChaCha.Spec.quarterRound a b c d).2.1.toNat,
       (ChaCha.Spec.quarterRound a b c d).2.2.1.toNat, (ChaCha.Spec.quarterRound a b c d).2.2.2.toNat) :=
  ChaCha.qrArith_spec a b c d

example : ChaCha.Spec.quarterRound 0x11111111#32 0x01020304#32 0x9b8d6f43#32 0x01234567#32 =
    (0xea2a92f4#32, 0xcb1cf8ce#32, 0x4581472e#32, 0x5881c4bb#32) := by decide  -- RFC 8439 §2.1.1

/-- `ChaCha.double_round` on a list of 16 words is inner_block of §2.3.1 (never raises) -/
theorem chacha20_double_round_eq_spec (s : ChaCha.Spec.State) :
    ChaCha.Model.doubleRound (ChaCha.toNats s) = .ok (ChaCha.toNats (ChaCha.Spec.innerBlock s)) :=
  ChaCha.doubleRound_spec s

/-- `ChaCha(key, nonce, counter).encrypt(pt)` is chacha20_encrypt of §2.4 for every key, nonce,
    starting counter and plaintext of every length, provided the block counter stays a 32-bit
    word.  Excluded region: counter + ceil(len/64) > 2^32 (the Python neither wraps nor raises
    there; unreachable for TLS records, 2^32 blocks = 256 GiB). -/
theorem chacha20_encrypt_eq_spec (key nonce pt : Bytes) (counter : Nat) (hk : key.length = 32)
    (hn : nonce.length = 12) (hc : counter + divceil pt.length 64 ≤ 2^32) :
    (ChaCha.Model.init key nonce counter 20 >>= fun s => ChaCha.Model.encrypt s pt) =
      .ok (ChaCha.Spec.encrypt key counter nonce pt) := by
  rw [ChaCha.init_ok key nonce counter hk hn, ok_bind, ChaCha.encrypt_spec key nonce pt counter hk hn hc]

example : (ChaCha.Model.init (zeros 32) (zeros 12) 7 20 >>= fun s => ChaCha.Model.encrypt s [1, 2, 3]) =
    .ok (ChaCha.Spec.encrypt (zeros 32) 7 (zeros 12) [1, 2, 3]) :=
  chacha20_encrypt_eq_spec _ _ _ _ (by decide) (by decide) (by decide)

/-- the constructor's guards: any other key or nonce length raises ValueError -/
theorem chacha20_init_guards (key nonce : Bytes) (counter rounds : Nat)
    (h : key.length ≠ 32 ∨ nonce.length ≠ 12) :
    ∃ e, ChaCha.Model.init key nonce counter rounds = .error e := by
  unfold ChaCha.Model.init
  by_cases hk : key.length ≠ 32
  · exact ⟨_, by rw [if_pos hk]⟩
  · have hn : nonce.length ≠ 12 := by cases h <;> simp_all
    exact ⟨_, by rw [if_neg hk, if_pos hn]⟩

/-- decrypt ∘ encrypt = id (ChaCha20 is its own inverse, every length) -/
theorem chacha20_decrypt_encrypt (key nonce pt : Bytes) (counter : Nat) :
    ChaCha.Spec.encrypt key counter nonce (ChaCha.Spec.encrypt key counter nonce pt) = pt :=
  ChaCha.encrypt_encrypt key nonce pt counter

/-- the ciphertext has the length of the plaintext -/
theorem chacha20_encrypt_length (key nonce pt : Bytes) (counter : Nat) :
    (ChaCha.Spec.encrypt key counter nonce pt).length = pt.length :=
  ChaCha.encrypt_length key nonce pt counter

/-! ## Poly1305 (tlslite/utils/poly1305.py vs RFC 8439 §2.5) -/

/-- `Poly1305(key).create_tag(msg)`: the accumulate-multiply-reduce loop over 16-byte slices with
    the appended 0x01 byte, the numeric clamp mask and the final truncation compute
    ((Σ c_j r^(q-j+1) mod 2^130-5) + s) mod 2^128 with the byte-wise clamp of §2.5, for every key
    and every message length (incl. empty and partial last block). -/
theorem poly1305_tag_eq_spec (key msg : Bytes) (hk : key.length = 32) :
    ∃ st, Poly1305.Model.init key = .ok st ∧
      (Poly1305.Model.createTag st msg).2 = Poly1305.Spec.mac key msg :=
  Poly1305.createTag_spec key msg hk

example : ∃ st, Poly1305.Model.init (zeros 32) = .ok st ∧
    (Poly1305.Model.createTag st [1, 2, 3]).2 = Poly1305.Spec.mac (zeros 32) [1, 2, 3] :=
  poly1305_tag_eq_spec _ _ (by decide)

/-- the numeric clamp mask is the byte-wise clamp of the RFC text -/
theorem poly1305_clamp_eq_spec (kb : Bytes) (h : kb.length = 16) :
    leNum (Poly1305.Spec.clampBytes kb) = leNum kb &&& 0x0ffffffc0ffffffc0ffffffc0fffffff :=
  Poly1305.clamp_eq kb h

/-! ## ChaCha20-Poly1305 AEAD (tlslite/utils/chacha20_poly1305.py vs RFC 8439 §2.6, §2.8) -/

/-- `seal` = chacha20_aead_encrypt for every key, nonce, AAD and plaintext (one-time key from
    block 0, pad16, the two 8-byte little-endian lengths, ciphertext ‖ tag). -/
theorem chachapoly_seal_eq_spec (key nonce pt aad : Bytes) (hk : key.length = 32)
    (hn : nonce.length = 12) (ha : aad.length < 2^64) (hc : 1 + divceil pt.length 64 ≤ 2^32) :
    ChaChaPoly.Model.aseal key nonce pt aad = .ok (ChaChaPoly.Spec.aseal key nonce pt aad) := by
  rw [ChaChaPoly.Model.aseal, if_neg (by simp [hn]), ChaChaPoly.polyKeyGen_spec key nonce hk hn, ok_bind,
    ChaCha.init_ok key nonce 1 hk hn, ok_bind, ChaCha.encrypt_spec key nonce pt 1 hk hn hc, ok_bind,
    ChaChaPoly.tagOf_spec key nonce aad _ ha (ChaChaPoly.encrypt_lt key nonce pt hc), ok_bind]
  rfl

example : ChaChaPoly.Model.aseal (zeros 32) (zeros 12) [1, 2] [3] =
    .ok (ChaChaPoly.Spec.aseal (zeros 32) (zeros 12) [1, 2] [3]) :=
  chachapoly_seal_eq_spec _ _ _ _ (by decide) (by decide) (by decide) (by decide)

/-- `open` = §2.8 decryption for every key, nonce, AAD and input of every length -/
theorem chachapoly_open_eq_spec (key nonce c aad : Bytes) (hk : key.length = 32)
    (hn : nonce.length = 12) (ha : aad.length < 2^64) (hc : 1 + divceil (c.length - 16) 64 ≤ 2^32) :
    ChaChaPoly.Model.aopen key nonce c aad = .ok (ChaChaPoly.Spec.aopen key nonce c aad) := by
  rw [ChaChaPoly.Model.aopen, if_neg (by simp [hn]), ChaChaPoly.Spec.aopen]
  by_cases hshort : c.length < 16
  · rw [if_pos hshort, if_pos hshort]
  · have hl : (c.take (c.length - 16)).length = c.length - 16 := by simp
    have hlen : (c.take (c.length - 16)).length < 2^64 := by
      have := le_mul_divceil (c.length - 16) 64 (by decide)
      omega
    rw [if_neg hshort, if_neg hshort, ChaChaPoly.polyKeyGen_spec key nonce hk hn, ok_bind,
      ChaChaPoly.tagOf_spec key nonce aad _ ha hlen, ok_bind, ChaCha.init_ok key nonce 1 hk hn, ok_bind,
      ChaCha.Model.decrypt, ChaCha.encrypt_spec key nonce _ 1 hk hn (by rw [hl]; exact hc), ok_bind]
    by_cases ht : c.drop (c.length - 16) = ChaChaPoly.Spec.tag key nonce aad (c.take (c.length - 16))
    · simp [ht, pure, Except.pure]
    · simp [ht, Ne.symm ht, pure, Except.pure]

/-- open ∘ seal returns the sealed plaintext (model level: the code's seal output through the
    code's open) -/
theorem chachapoly_open_seal (key nonce pt aad : Bytes) (hk : key.length = 32)
    (hn : nonce.length = 12) (ha : aad.length < 2^64) (hc : 1 + divceil pt.length 64 ≤ 2^32) :
    (ChaChaPoly.Model.aseal key nonce pt aad >>= fun c => ChaChaPoly.Model.aopen key nonce c aad) =
      .ok (some pt) := by
  rw [chachapoly_seal_eq_spec key nonce pt aad hk hn ha hc]
  have hl : (ChaChaPoly.Spec.aseal key nonce pt aad).length - 16 = pt.length := by
    simp [ChaChaPoly.Spec.aseal, ChaCha.encrypt_length, ChaChaPoly.tag_length]
  show ChaChaPoly.Model.aopen key nonce _ aad = _
  rw [chachapoly_open_eq_spec key nonce _ aad hk hn ha (by rw [hl]; exact hc),
    ChaChaPoly.spec_aopen_aseal]

example : (ChaChaPoly.Model.aseal (zeros 32) (zeros 12) [1, 2] [3] >>=
    fun c => ChaChaPoly.Model.aopen (zeros 32) (zeros 12) c [3]) = .ok (some [1, 2]) :=
  chachapoly_open_seal _ _ _ _ (by decide) (by decide) (by decide) (by decide)

/-- `open` returns a plaintext exactly when the last 16 bytes equal the tag recomputed over the
    rest with this key, nonce and AAD, and then it is the decryption of the rest; every other
    ciphertext / nonce / AAD combination yields `None`.  (That no *other* 16 bytes verify is
    Poly1305's forgery bound, not provable.) -/
theorem chachapoly_open_some_iff (key nonce c aad p : Bytes) (hk : key.length = 32)
    (hn : nonce.length = 12) (ha : aad.length < 2^64) (hc : 1 + divceil (c.length - 16) 64 ≤ 2^32) :
    ChaChaPoly.Model.aopen key nonce c aad = .ok (some p) ↔
      16 ≤ c.length ∧
      c.drop (c.length - 16) = ChaChaPoly.Spec.tag key nonce aad (c.take (c.length - 16)) ∧
      p = ChaCha.Spec.encrypt key 1 nonce (c.take (c.length - 16)) := by
  rw [chachapoly_open_eq_spec key nonce c aad hk hn ha hc, Except.ok.injEq, ChaChaPoly.aopen_eq]
  exact splitVerify_eq_some_iff _ _ _ c p

/-- a rejected input yields `None`, never an exception and never data -/
theorem chachapoly_open_reject (key nonce c aad : Bytes) (hk : key.length = 32)
    (hn : nonce.length = 12) (ha : aad.length < 2^64) (hc : 1 + divceil (c.length - 16) 64 ≤ 2^32)
    (hbad : c.length < 16 ∨
      c.drop (c.length - 16) ≠ ChaChaPoly.Spec.tag key nonce aad (c.take (c.length - 16))) :
    ChaChaPoly.Model.aopen key nonce c aad = .ok none := by
  rw [chachapoly_open_eq_spec key nonce c aad hk hn ha hc, ChaChaPoly.aopen_eq, splitVerify_eq_none _ _ _ c hbad]

/-! ## CBC with the chaining value carried between calls
   (Python_AES in tlslite/utils/python_aes.py, Python_TripleDES in python_tripledes.py, vs SP 800-38A §6.2)
   The block cipher is a parameter: any `E`, `D` on 16-byte (8-byte) blocks with `D (E b) = b`. -/
open Modes

/-- `Python_AES.encrypt` is CBC encryption and leaves the last ciphertext block in `self.IV` -/
theorem cbc_encrypt_eq_spec (E : Bytes → Bytes) (hE : ∀ b, b.length = 16 → (E b).length = 16)
    (iv pt : Bytes) (hiv : iv.length = 16) (h : pt.length % 16 = 0) :
    Model.cbcEncrypt E iv pt =
      .ok (Spec.lastBlock 16 iv (Spec.cbcEncrypt 16 E iv pt), Spec.cbcEncrypt 16 E iv pt) :=
  cbcEncrypt_spec E hE iv pt hiv h

example : Model.cbcEncrypt id (zeros 16) (zeros 32) =
    .ok (Spec.lastBlock 16 (zeros 16) (Spec.cbcEncrypt 16 id (zeros 16) (zeros 32)),
         Spec.cbcEncrypt 16 id (zeros 16) (zeros 32)) :=
  cbc_encrypt_eq_spec id (fun _ h => h) _ _ (by decide) (by decide)

/-- `Python_AES.decrypt` is CBC decryption and leaves the last ciphertext block in `self.IV` -/
theorem cbc_decrypt_eq_spec (D : Bytes → Bytes) (hD : ∀ b, b.length = 16 → (D b).length = 16)
    (iv ct : Bytes) (hiv : iv.length = 16) (h : ct.length % 16 = 0) :
    Model.cbcDecrypt D iv ct = .ok (Spec.lastBlock 16 iv ct, Spec.cbcDecrypt 16 D iv ct) :=
  cbcDecrypt_spec D hD iv ct hiv h

/-- a length that is not a multiple of the block size is refused (AssertionError), never padded or truncated -/
theorem cbc_length_guard (E : Bytes → Bytes) (iv pt : Bytes) (h : pt.length % 16 ≠ 0) :
    Model.cbcEncrypt E iv pt = .error .assertion ∧ Model.cbcDecrypt E iv pt = .error .assertion := by
  simp [Model.cbcEncrypt, Model.cbcDecrypt, h]

/-- decrypt ∘ encrypt = id for every IV and every whole number of blocks -/
theorem cbc_decrypt_encrypt (E D : Bytes → Bytes) (hE : ∀ b, b.length = 16 → (E b).length = 16)
    (hD : ∀ b, b.length = 16 → (D b).length = 16) (hDE : ∀ b, b.length = 16 → D (E b) = b)
    (iv pt : Bytes) (hiv : iv.length = 16) (h : pt.length % 16 = 0) :
    (Model.cbcEncrypt E iv pt >>= fun r => Model.cbcDecrypt D iv r.2) =
      .ok (Spec.lastBlock 16 iv (Spec.cbcEncrypt 16 E iv pt), pt) :=
  Modes.cbc_decrypt_encrypt E D hE hD hDE iv pt hiv h

example : (Model.cbcEncrypt id (zeros 16) [1,2,3,4,5,6,7,8,9,10,11,12,13,14,15,16] >>=
    fun r => Model.cbcDecrypt id (zeros 16) r.2).map (·.2) = .ok [1,2,3,4,5,6,7,8,9,10,11,12,13,14,15,16] := by
  rw [cbc_decrypt_encrypt id id (fun _ h => h) (fun _ h => h) (fun _ _ => rfl) _ _ (by decide) (by decide)]
  rfl

/-- multi-call streaming: encrypting `a` and then `b` on the same object equals encrypting
    `a ++ b` in one call, including the final object state -/
theorem cbc_stream_eq_oneshot (E : Bytes → Bytes) (hE : ∀ b, b.length = 16 → (E b).length = 16)
    (iv a b : Bytes) (hiv : iv.length = 16) (ha : a.length % 16 = 0) (hb : b.length % 16 = 0) :
    Model.cbcEncrypt E iv (a ++ b) =
      (Model.cbcEncrypt E iv a >>= fun r1 => Model.cbcEncrypt E r1.1 b >>= fun r2 =>
        pure (r2.1, r1.2 ++ r2.2)) := by
  have hab : (a ++ b).length % 16 = 0 := by rw [List.length_append]; omega
  have hla : (Spec.cbcEncrypt 16 E iv a).length % 16 = 0 := by
    rw [spec_cbc_length 16 (by decide) E hE iv a hiv ha]; exact ha
  have hiv1 := lastBlock_length 16 (by decide) iv _ hiv hla
  rw [cbcEncrypt_spec E hE iv (a ++ b) hiv hab, cbcEncrypt_spec E hE iv a hiv ha, ok_bind,
    cbcEncrypt_spec E hE _ b hiv1 hb, ok_bind, spec_cbc_stream 16 (by decide) E hE iv a b hiv ha,
    lastBlock_append 16 (by decide) _ _ _ hla]
  rfl

/-- `Python_TripleDES.encrypt` (three `Des.crypt` calls that each xor their own IV copy) is
    TDEA-CBC: CBC over E3 ∘ D2 ∘ E1, IV carried -/
theorem tdes_cbc_encrypt_eq_spec (k : Model.Des3) (hk : Des3Len k) (iv data : Bytes) (hiv : iv.length = 8)
    (h : data.length % 8 = 0) :
    Model.tdesEncrypt k iv data =
      .ok (Spec.lastBlock 8 iv (Spec.cbcEncrypt 8 (tdeaE k) iv data), Spec.cbcEncrypt 8 (tdeaE k) iv data) := by
  have hE : ∀ b, b.length = 8 → (tdeaE k b).length = 8 :=
    fun b hb => hk.e3 _ (hk.d2 _ (hk.e1 _ hb))
  have hrun : Model.tdesEncrypt k iv data = .ok (Model.tdesEncLoop k data.length iv data) := by
    cases data with
    | nil => rfl
    | cons x xs => rw [Model.tdesEncrypt, if_neg (by simp), if_neg (by simpa using h)]
  rw [hrun, tdesEncLoop_spec k hk data.length data iv (Nat.le_refl _) h hiv, Spec.lastBlock,
    chunks_cbcEncrypt 8 (by decide) _ hE iv data hiv h]
  rfl

/-- `Python_TripleDES.decrypt` is CBC decryption over D1 ∘ E2 ∘ D3 -/
theorem tdes_cbc_decrypt_eq_spec (k : Model.Des3) (hk : Des3Len k) (iv data : Bytes) (hiv : iv.length = 8)
    (h : data.length % 8 = 0) :
    Model.tdesDecrypt k iv data = .ok (Spec.lastBlock 8 iv data, Spec.cbcDecrypt 8 (tdeaD k) iv data) := by
  have hrun : Model.tdesDecrypt k iv data = .ok (Model.tdesDecLoop k data.length iv data) := by
    cases data with
    | nil => rfl
    | cons x xs => rw [Model.tdesDecrypt, if_neg (by simp), if_neg (by simpa using h)]
  rw [hrun, tdesDecLoop_spec k hk data.length data iv (Nat.le_refl _) h hiv]
  rfl

example : Model.tdesEncrypt ⟨id, id, id, id, id, id⟩ (zeros 8) (zeros 16) =
    .ok (Spec.lastBlock 8 (zeros 8) (Spec.cbcEncrypt 8 (tdeaE ⟨id, id, id, id, id, id⟩) (zeros 8) (zeros 16)),
         Spec.cbcEncrypt 8 (tdeaE ⟨id, id, id, id, id, id⟩) (zeros 8) (zeros 16)) :=
  tdes_cbc_encrypt_eq_spec _ ⟨fun _ h => h, fun _ h => h, fun _ h => h, fun _ h => h, fun _ h => h, fun _ h => h⟩
    _ _ (by decide) (by decide)

/-- CBC in general (any block size): streaming and inversion on the specification, used for 3DES -/
theorem cbc_spec_stream_and_inverse (n : Nat) (hn : n ≠ 0) (E D : Bytes → Bytes)
    (hE : ∀ b, b.length = n → (E b).length = n) (hDE : ∀ b, b.length = n → D (E b) = b)
    (iv a b : Bytes) (hiv : iv.length = n) (ha : a.length % n = 0) :
    Spec.cbcEncrypt n E iv (a ++ b) =
        Spec.cbcEncrypt n E iv a ++ Spec.cbcEncrypt n E (Spec.lastBlock n iv (Spec.cbcEncrypt n E iv a)) b ∧
    Spec.cbcDecrypt n D iv (Spec.cbcEncrypt n E iv a) = a :=
  ⟨spec_cbc_stream n hn E hE iv a b hiv ha, spec_cbc_decrypt_encrypt n hn E D hE hDE iv a hiv ha⟩

/-! ## CTR (Python_AES_CTR incl. `_counter_update`, vs SP 800-38A §6.5 / B.1) -/

/-- `Python_AES_CTR.encrypt` is CTR mode with the standard incrementing function on the counter
    field (`_counter_bytes` low bytes; all 128 bits for the objects GCM/CCM create), and the
    object's counter afterwards is the next unused block.  Excluded region: the counter field
    would come to all-ones — there the code raises OverflowError (`ctr_counter_update_raises_early`). -/
theorem ctr_encrypt_eq_spec (E : Bytes → Bytes) (hE : ∀ b, (E b).length = 16) (c : Model.Ctr) (pt : Bytes)
    (hlen : c.counter.length = 16) (hcb : c.counterBytes ≤ 16)
    (hov : c.counterBytes = 0 ∨
      lowBits (8 * c.counterBytes) c.counter + divceil pt.length 16 < 2 ^ (8 * c.counterBytes) - 1) :
    Model.ctrEncrypt E c pt =
      .ok ({ c with counter := Spec.iterate (Spec.incM (widthOf c.counterBytes)) (divceil pt.length 16) c.counter },
           Spec.ctrEncrypt E (Spec.incM (widthOf c.counterBytes)) c.counter pt) := by
  have hw := widthOf_le _ hcb
  have hov : NoWrap c (divceil pt.length 16) := hov
  rw [ctrEncrypt_closed E hE c pt hlen hov hcb, Spec.ctrEncrypt, iterate_incM _ hw _ _ hlen hov.width,
    ctrStream_closed E _ hw _ _ hlen (hov.width.imp id Nat.le_of_lt)]

example : ∃ r, Model.ctrEncrypt (fun _ => zeros 16) ⟨zeros 16, 4⟩ [1, 2, 3] = .ok r :=
  ⟨_, ctr_encrypt_eq_spec _ (fun _ => by simp [zeros]) ⟨zeros 16, 4⟩ [1, 2, 3] (by simp [zeros]) (by decide)
    (Or.inr (by decide))⟩

/-- the excluded region is real and the code fails closed there: OverflowError one step
    before the counter field would be all-ones -/
theorem ctr_counter_update_raises_early (c : Model.Ctr) (hlen : c.counter.length = 16)
    (hcb : c.counterBytes ≤ 16) (hpos : 0 < c.counterBytes)
    (h : lowBits (8 * c.counterBytes) c.counter + 1 = 2 ^ (8 * c.counterBytes) - 1) :
    Model.counterUpdate c = .error .overflow := by
  have hp : 2 ≤ 2 ^ (8 * c.counterBytes) := by
    have : 2 ^ 1 ≤ 2 ^ (8 * c.counterBytes) := Nat.pow_le_pow_right (by decide) (by omega)
    simpa using this
  unfold lowBits at h
  unfold Model.counterUpdate
  rw [if_pos ⟨hpos, (lowField_all_ones _ hcb _).mpr (by rw [succ_mod_of_lt _ _ (by omega), h])⟩]

/-- multi-call streaming with the counter carried (first part a whole number of blocks; the
    code discards unused key stream of a partial block, so other splits differ — by design) -/
theorem ctr_stream_eq_oneshot (E : Bytes → Bytes) (hE : ∀ b, (E b).length = 16) (c : Model.Ctr) (a b : Bytes)
    (hlen : c.counter.length = 16) (hcb : c.counterBytes ≤ 16) (ha : a.length % 16 = 0)
    (hov : c.counterBytes = 0 ∨
      lowBits (8 * c.counterBytes) c.counter + divceil (a ++ b).length 16 < 2 ^ (8 * c.counterBytes) - 1) :
    Model.ctrEncrypt E c (a ++ b) =
      (Model.ctrEncrypt E c a >>= fun r1 => Model.ctrEncrypt E r1.1 b >>= fun r2 =>
        pure (r2.1, r1.2 ++ r2.2)) := by
  have hsplit : divceil (a ++ b).length 16 = divceil a.length 16 + divceil b.length 16 := by
    rw [List.length_append, divceil_add_of_dvd _ _ 16 (by decide) ha, divceil_of_dvd _ _ ha]
  have hab : NoWrap c (divceil a.length 16 + divceil b.length 16) := by rw [← hsplit]; exact hov
  rw [ctrEncrypt_closed E hE c (a ++ b) hlen hov hcb, ctrEncrypt_closed E hE c a hlen (hab.mono (Nat.le_add_right _ _)) hcb,
    ok_bind, ctrEncrypt_closed E hE _ b (ctrAt_length _ _) (hab.ctrAt hcb) hcb, ok_bind,
    xorStream_append _ 16 (by decide) (fun _ => hE _) a b ha, hsplit]
  simp only [ctrAt_ctrAt]
  rfl

/-- CTR decryption (= encryption from the same counter) inverts encryption; lengths are kept -/
theorem ctr_decrypt_encrypt (E : Bytes → Bytes) (inc : Bytes → Bytes) (hE : ∀ b, (E b).length = 16)
    (T pt : Bytes) :
    Spec.ctrEncrypt E inc T (Spec.ctrEncrypt E inc T pt) = pt ∧
    (Spec.ctrEncrypt E inc T pt).length = pt.length :=
  ⟨spec_ctr_involution E inc hE T pt, spec_ctr_length E inc hE T pt⟩

/-! ## RC4 (Python_RC4 in tlslite/utils/python_rc4.py) -/

/-- `Python_RC4.__init__`: keys of 16..256 bytes give the key schedule of the byte-oriented
    definition; other lengths raise ValueError -/
theorem rc4_init_eq_spec (key : Bytes) :
    (¬ (key.length < 16 ∨ key.length > 256) →
      ∃ m, Model.rc4Init key = .ok m ∧ ∀ hk, Rel m (Spec.ksa key hk)) ∧
    ((key.length < 16 ∨ key.length > 256) → Model.rc4Init key = .error .value) :=
  ⟨fun h => ⟨_, rc4Init_repr key h (by omega), fun _ => ⟨rfl, rfl, rfl⟩⟩, fun h => by rw [Model.rc4Init, dif_pos h]⟩

/-- `Python_RC4.encrypt` from any state representing a generator state: output = input xor the
    PRGA key stream, and the new (S, i, j) represents the advanced generator state -/
theorem rc4_encrypt_eq_spec (m : Model.Rc4) (s : Spec.Rc4) (h : Rel m s) (pt : Bytes) :
    Rel (Model.rc4Encrypt m pt).1 (Spec.rc4Encrypt s pt).1 ∧
    (Model.rc4Encrypt m pt).2 = (Spec.rc4Encrypt s pt).2 :=
  rc4Loop_spec pt m s h

/-- multi-call streaming: `a` then `b` on one object = `a ++ b` (every split point) -/
theorem rc4_stream_eq_oneshot (m : Model.Rc4) (a b : Bytes) :
    Model.rc4Encrypt m (a ++ b) =
      ((Model.rc4Encrypt (Model.rc4Encrypt m a).1 b).1,
       (Model.rc4Encrypt m a).2 ++ (Model.rc4Encrypt (Model.rc4Encrypt m a).1 b).2) := by
  simp only [Model.rc4Encrypt]
  induction a generalizing m with
  | nil => simp [Model.rc4Loop]
  | cons x xs ih => simp only [List.cons_append, Model.rc4Loop, ih]

/-- decrypt ∘ encrypt = id from equal states (every reachable state represents a generator state) -/
theorem rc4_decrypt_encrypt (m : Model.Rc4) (s : Spec.Rc4) (h : Rel m s) (pt : Bytes) :
    (Model.rc4Encrypt m (Model.rc4Encrypt m pt).2).2 = pt :=
  Modes.rc4_decrypt_encrypt m s h pt

example : ∃ m, Model.rc4Init (zeros 16) = .ok m ∧ (Model.rc4Encrypt m (Model.rc4Encrypt m [1, 2, 3]).2).2 = [1, 2, 3] := by
  obtain ⟨m, h1, h2⟩ := (rc4_init_eq_spec (zeros 16)).1 (by decide)
  exact ⟨m, h1, rc4_decrypt_encrypt m _ (h2 (by decide)) _⟩

/-! ## HMAC, PRFs, calc_key, HKDF, key schedule — over an ABSTRACT hash
   (tlshmac.py, mathtls.py, cryptomath.py, handshakehashes.py, recordlayer.py vs RFC 2104, 2246, 5246, 6101,
   7627, 5869, 8446).  `Hash.WF`: fixed output size, positive, not larger than the block size —
   what MD5 / SHA-1 / SHA-2 satisfy; nothing else is assumed about the hash. -/
open Kdf

def toyHash : Hash := { H := fun x => [UInt8.ofNat x.length, 7, 7, 7], blockSize := 8, digestSize := 4 }
theorem toyHash_wf : toyHash.WF := ⟨fun _ => rfl, by decide, by decide⟩

/-- `tlshmac.HMAC`: an object created with `key` and fed `m1, m2, …` (in any number of `update`
    calls, through any number of `copy`s) has digest RFC 2104 HMAC(key, m1 ‖ m2 ‖ …), for keys
    shorter than, equal to and longer than the block size -/
theorem hmac_eq_spec (h : Hash) (wf : h.WF) (key : Bytes) (msgs : List Bytes) :
    Model.hmacDigest h (msgs.foldl Model.hmacUpdate (Model.hmacNew h key none)) =
      Spec.hmac h key msgs.flatten :=
  hmac_update_digest h key msgs

example : Model.hmacDigest toyHash ([[1], [2, 3]].foldl Model.hmacUpdate (Model.hmacNew toyHash [9] none)) =
    Spec.hmac toyHash [9] [1, 2, 3] := hmac_eq_spec toyHash toyHash_wf _ _

/-- `P_hash` = RFC 5246 §5 P_hash (A(0) = seed, A(i) = HMAC(secret, A(i-1)), blocks
    HMAC(secret, A(i) ‖ seed), truncated), for every secret, seed and output length -/
theorem p_hash_eq_spec (h : Hash) (wf : h.WF) (secret seed : Bytes) (length : Nat) :
    Model.pHash h secret seed length = .ok (Spec.pHash (Spec.hmac h) h.digestSize secret seed length) ∧
    (Spec.pHash (Spec.hmac h) h.digestSize secret seed length).length = length :=
  ⟨pHash_spec h wf secret seed length,
   spec_pHash_length _ _ wf.pos (hmac_length h wf) secret seed length⟩

example : Model.pHash toyHash [1] [2] 11 = .ok (Spec.pHash (Spec.hmac toyHash) 4 [1] [2] 11) :=
  (p_hash_eq_spec toyHash toyHash_wf _ _ _).1

/-- `PRF` (TLS 1.0/1.1) = RFC 2246 §5: P_MD5 over the first ⌈n/2⌉ secret bytes xor P_SHA-1 over the
    last ⌈n/2⌉ (sharing the middle byte for odd n); output has the requested length -/
theorem prf_tls10_eq_spec (md5 sha1 : Hash) (w5 : md5.WF) (w1 : sha1.WF) (secret label seed : Bytes)
    (length : Nat) :
    Model.prf md5 sha1 secret label seed length = .ok (Spec.prf10 md5 sha1 secret label seed length) ∧
    (Spec.prf10 md5 sha1 secret label seed length).length = length :=
  ⟨prf_spec md5 sha1 w5 w1 secret label seed length, spec_prf10_length md5 sha1 w5 w1 secret label seed length⟩

/-- `PRF_1_2` / `PRF_1_2_SHA384` = RFC 5246 §5 PRF = P_<hash>(secret, label ‖ seed) -/
theorem prf_tls12_eq_spec (h : Hash) (wf : h.WF) (secret label seed : Bytes) (length : Nat) :
    Model.prf12 h secret label seed length = .ok (Spec.prf12 h secret label seed length) ∧
    (Spec.prf12 h secret label seed length).length = length :=
  ⟨prf12_spec h wf secret label seed length, spec_prf12_length h wf secret label seed length⟩

/-- `PRF_SSL` = RFC 6101 §6.2.2 ('A', 'BB', 'CCC', … rounds of MD5(secret ‖ SHA(…))), every output
    length up to the 26 rounds the construction defines (416 bytes).  Excluded region: beyond
    416 bytes the code returns zero bytes for the rest (TLS needs at most 136). -/
theorem prf_ssl_eq_spec (md5 sha1 : Hash) (hm : ∀ x, (md5.H x).length = 16) (secret seed : Bytes)
    (length : Nat) (hlen : length ≤ 416) :
    Model.prfSsl md5 sha1 secret seed length = Spec.prfSsl md5 sha1 secret seed length ∧
    (Spec.prfSsl md5 sha1 secret seed length).length = length :=
  ⟨prfSsl_spec md5 sha1 hm secret seed length hlen, spec_prfSsl_length md5 sha1 hm secret seed length hlen⟩

/-- `digestSSL` = the SSLv3 Finished / CertificateVerify hash of RFC 6101 §5.6.9 -/
theorem ssl3_finished_eq_spec (hs : Model.Hashes) (transcript ms sender : Bytes) :
    Model.digestSSL hs transcript ms sender = Spec.sslFinished hs transcript ms sender :=
  digestSSL_spec hs transcript ms sender

/-- `calc_key`: for every version (SSLv3, TLS 1.0, 1.1, 1.2) × label (master secret, key expansion,
    client/server finished, extended master secret) × PRF hash of the suite, the code uses the PRF,
    label and seed the RFCs prescribe (cr‖sr for the master secret, sr‖cr for the key block,
    the transcript hash(es) for Finished and EMS); the one undefined combination (EMS in SSLv3)
    raises AssertionError. -/
theorem calc_key_dispatch (hs : Model.Hashes) (wf : HashesWF hs) (v : Spec.Version) (sha384Prf : Bool)
    (l : Spec.Label) (secret transcript cr sr : Bytes) (length : Nat) (hlen : v = .ssl3 → length ≤ 416) :
    Model.calcKey hs v.pair secret sha384Prf l.bytes (some transcript) (some cr) (some sr) (some length) =
      specOutcome (Spec.calcKey hs v sha384Prf l secret transcript cr sr length) :=
  calcKey_spec_of hs wf v sha384Prf l secret transcript cr sr length hlen _ (Or.inr (Or.inr rfl))

def toyHashes : Model.Hashes :=
  ⟨{ H := fun _ => zeros 16, blockSize := 64, digestSize := 16 }, toyHash, toyHash, toyHash⟩
theorem toyHashes_wf : HashesWF toyHashes :=
  ⟨⟨fun _ => rfl, by decide, by decide⟩, toyHash_wf, toyHash_wf, toyHash_wf, rfl⟩

example : Model.calcKey toyHashes (3, 3) [1] false lblMasterSecret (some []) (some [2]) (some [3]) (some 48) =
    .ok (Spec.prf12 toyHash [1] lblMasterSecret [2, 3] 48) :=
  calc_key_dispatch toyHashes toyHashes_wf .tls12 false .masterSecret [1] [] [2] [3] 48 (by decide)

/-- labels are distinct byte strings, so the dispatch above is on the label proper -/
theorem calc_key_labels_distinct (a b : Spec.Label) (h : a.bytes = b.bytes) : a = b := by
  cases a <;> cases b <;> first | rfl | exact absurd h (by decide)

/-- PRF-based outputs of calc_key have exactly the requested length -/
theorem calc_key_output_length (hs : Model.Hashes) (wf : HashesWF hs) (v : Spec.Version) (sha384Prf : Bool)
    (l : Spec.Label) (secret transcript cr sr : Bytes) (length : Nat) (hlen : v = .ssl3 → length ≤ 416)
    (hl : l = .masterSecret ∨ l = .keyExpansion ∨ v ≠ .ssl3) (r : Bytes)
    (h : Spec.calcKey hs v sha384Prf l secret transcript cr sr length = some r) : r.length = length :=
  spec_calcKey_length hs wf v sha384Prf l secret transcript cr sr length hlen hl r h

/-- `keyingMaterialExporter` (tlsconnection.py) = RFC 5705 §4 for TLS 1.0–1.2 (the version's PRF over
    client_random ‖ server_random with the caller's label) and RFC 8446 §7.5 for TLS 1.3
    (HKDF-Expand-Label(Derive-Secret(exporter secret, label, ""), "exporter", Hash(""), length));
    the four reserved labels raise ValueError by the code's own guard -/
theorem exporter_eq_spec (hs : Model.Hashes) (wf : HashesWF hs) (mac256 mac384 : Bytes → Bytes → Bytes)
    (sha384Prf : Bool) (ms cr sr ems label : Bytes) (length : Nat)
    (hlab : ¬ (label = lblServerFinished ∨ label = lblClientFinished ∨ label = lblMasterSecret ∨ label = lblKeyExpansion))
    (h1 : length < 65536) (h2 : 6 + label.length < 256)
    (hL : divceil length (if sha384Prf then hs.sha384 else hs.sha256).digestSize ≤ 255)
    (hd : (if sha384Prf then hs.sha384 else hs.sha256).digestSize < 256) :
    (∀ v : Spec.Version, v ≠ .ssl3 →
      Model.keyingMaterialExporter hs mac256 mac384 v.pair sha384Prf ms cr sr ems label length =
        .ok (Spec.exporter hs mac256 mac384 false v sha384Prf ms cr sr ems label length)) ∧
    Model.keyingMaterialExporter hs mac256 mac384 (3, 4) sha384Prf ms cr sr ems label length =
      .ok (Spec.exporter hs mac256 mac384 true .tls12 sha384Prf ms cr sr ems label length) := by
  constructor
  · intro v hv
    cases v <;> first | exact absurd rfl hv | skip
    all_goals
      cases sha384Prf <;>
      simp (config := { decide := true }) [Model.keyingMaterialExporter, hlab, Spec.exporter,
        prf_spec hs.md5 hs.sha1 wf.md5 wf.sha1, prf12_spec hs.sha256 wf.sha256, prf12_spec hs.sha384 wf.sha384]
  · have hwf : (if sha384Prf then hs.sha384 else hs.sha256).WF := by cases sha384Prf <;> simp [wf.sha256, wf.sha384]
    have hds := deriveSecret_spec (if sha384Prf then mac384 else mac256) _ hwf ems label none h2 hd
    simp only [Option.getD] at hds
    have hel := hkdfExpandLabel_spec (if sha384Prf then mac384 else mac256)
      (if sha384Prf then hs.sha384 else hs.sha256).digestSize
      (Spec.deriveSecret (if sha384Prf then mac384 else mac256) (if sha384Prf then hs.sha384 else hs.sha256) ems label [])
      lblExporter ((if sha384Prf then hs.sha384 else hs.sha256).H []) length h1 (by decide)
      (by rw [hwf.len]; exact hd) hL
    simp (config := { decide := true }) only [Model.keyingMaterialExporter, hlab, if_false, if_true, hds, bind, Except.bind, hel,
      Spec.exporter]

/-- `HKDF_expand` = RFC 5869 HKDF-Expand on the RFC's whole domain L ≤ 255·HashLen, with exactly L
    output bytes; beyond the domain it raises ValueError (never a short or wrapped counter) -/
theorem hkdf_expand_eq_spec (mac : Bytes → Bytes → Bytes) (dl : Nat) (prk info : Bytes) (L : Nat) :
    (divceil L dl ≤ 255 → Model.hkdfExpand mac dl prk info L = .ok (Spec.hkdfExpand mac dl prk info L)) ∧
    (255 < divceil L dl → Model.hkdfExpand mac dl prk info L = .error .value) :=
  ⟨hkdfExpand_spec mac dl prk info L, fun hL => by
    obtain ⟨k, hk⟩ : ∃ k, divceil L dl = 255 + (k + 1) := ⟨divceil L dl - 256, by omega⟩
    have hsplit : List.range' 1 (255 + (k + 1)) = List.range' 1 255 ++ (256 :: List.range' 257 k) :=
      (List.range'_append_1 (s := 1)).symm
    simp only [Model.hkdfExpand, hk, hsplit, List.foldlM_append, hkdf_fold mac prk info 255 (Nat.le_refl _), ok_bind,
      List.foldlM_cons]
    rfl⟩

example : Model.hkdfExpand (fun _ _ => zeros 32) 32 [1] [2] (255 * 32) =
    .ok (Spec.hkdfExpand (fun _ _ => zeros 32) 32 [1] [2] (255 * 32)) :=
  (hkdf_expand_eq_spec _ 32 _ _ _).1 (by decide)

theorem hkdf_output_length (mac : Bytes → Bytes → Bytes) (dl : Nat) (hd : 0 < dl)
    (hm : ∀ k m, (mac k m).length = dl) (prk info : Bytes) (L : Nat) :
    (Spec.hkdfExpand mac dl prk info L).length = L := by
  have := le_mul_divceil L dl hd
  rw [Spec.hkdfExpand, List.length_take,
    length_flatMap_range (fun i => Spec.hkdfT mac prk info (i + 1)) dl (fun _ => hm _ _)]
  omega

/-- the HkdfLabel the code serialises is RFC 8446 §7.1's structure: uint16 length, one length byte
    and "tls13 " ‖ label, one length byte and the context; out-of-range fields raise ValueError -/
theorem hkdf_label_encoding (label ctx : Bytes) (length : Nat) (h1 : length < 65536)
    (h2 : 6 + label.length < 256) (h3 : ctx.length < 256) :
    Model.hkdfLabel label ctx length = .ok (Spec.hkdfLabel length label ctx) :=
  hkdfLabel_spec label ctx length h1 h2 h3

/-- and that encoding is injective in (length, label, context): no two derivations share an info string -/
theorem hkdf_label_injective (l1 l2 : Nat) (a1 a2 c1 c2 : Bytes) (h1 : l1 < 65536) (h2 : l2 < 65536)
    (ha1 : 6 + a1.length < 256) (ha2 : 6 + a2.length < 256) (hc1 : c1.length < 256) (hc2 : c2.length < 256)
    (h : Spec.hkdfLabel l1 a1 c1 = Spec.hkdfLabel l2 a2 c2) : l1 = l2 ∧ a1 = a2 ∧ c1 = c2 := by
  simp only [Spec.hkdfLabel, List.append_assoc] at h
  have hl := List.append_inj h (by rw [length_beEncode, length_beEncode])
  have hl2 := List.append_inj hl.2 (by rw [length_beEncode, length_beEncode])
  have e2 : a1.length = a2.length := by
    have := beEncode_inj 1 _ _ ha1 ha2 hl2.1
    omega
  have hl4 := List.append_inj (List.append_inj hl2.2 rfl).2 e2
  have hl5 := List.append_inj hl4.2 (by rw [length_beEncode, length_beEncode])
  exact ⟨beEncode_inj 2 _ _ h1 h2 hl.1, hl4.1, hl5.2⟩

/-- `HKDF_expand_label` = HKDF-Expand-Label of RFC 8446 §7.1 -/
theorem hkdf_expand_label_eq_spec (mac : Bytes → Bytes → Bytes) (dl : Nat) (secret label ctx : Bytes)
    (length : Nat) (h1 : length < 65536) (h2 : 6 + label.length < 256) (h3 : ctx.length < 256)
    (hL : divceil length dl ≤ 255) :
    Model.hkdfExpandLabel mac dl secret label ctx length =
      .ok (Spec.hkdfExpandLabel mac dl secret label ctx length) :=
  hkdfExpandLabel_spec mac dl secret label ctx length h1 h2 h3 hL

/-- `derive_secret` = Derive-Secret (transcript hash, or the hash of the empty string for `None`) -/
theorem derive_secret_eq_spec (mac : Bytes → Bytes → Bytes) (h : Hash) (wf : h.WF) (secret label : Bytes)
    (hh : Option Bytes) (h2 : 6 + label.length < 256) (hd : h.digestSize < 256) :
    Model.deriveSecret mac h secret label hh = .ok (Spec.deriveSecret mac h secret label (hh.getD [])) :=
  deriveSecret_spec mac h wf secret label hh h2 hd

example : Model.deriveSecret (fun _ _ => zeros 4) toyHash [1] lblKey none =
    .ok (Spec.deriveSecret (fun _ _ => zeros 4) toyHash [1] lblKey []) :=
  derive_secret_eq_spec _ toyHash toyHash_wf _ _ _ (by decide) (by decide)

/-- `calcPendingStates`: key block = "key expansion" output of length 2·(mac+key+iv), cut in the
    RFC 5246 §6.3 order client MAC, server MAC, client key, server key, client IV, server IV; the
    client writes with the client keys and reads with the server keys, the server the reverse -/
theorem key_block_slicing (hs : Model.Hashes) (wf : HashesWF hs) (v : Spec.Version) (sha384Prf client : Bool)
    (ms cr sr : Bytes) (m k i : Nat) (hlen : v = .ssl3 → 2*m + 2*k + 2*i ≤ 416) :
    ∃ kb, Spec.calcKey hs v sha384Prf .keyExpansion ms [] cr sr (2*m + 2*k + 2*i) = some kb ∧
      kb.length = 2*m + 2*k + 2*i ∧
      Model.calcPendingStates hs v.pair sha384Prf client ms cr sr m k i =
        let c : Model.KeyMaterial := ⟨kb.take m, (kb.drop (2*m)).take k, (kb.drop (2*m + 2*k)).take i⟩
        let s : Model.KeyMaterial := ⟨(kb.drop m).take m, (kb.drop (2*m + k)).take k, (kb.drop (2*m + 2*k + i)).take i⟩
        .ok (if client then (c, s) else (s, c)) := by
  have hsome : ∃ kb, Spec.calcKey hs v sha384Prf .keyExpansion ms [] cr sr (2*m + 2*k + 2*i) = some kb := by
    cases v <;> simp [Spec.calcKey]
  obtain ⟨kb, hkb⟩ := hsome
  have hl := spec_calcKey_length hs wf v sha384Prf .keyExpansion ms [] cr sr _ hlen (Or.inr (Or.inl rfl)) kb hkb
  refine ⟨kb, hkb, hl, ?_⟩
  have hmodel := calcKey_spec_of hs wf v sha384Prf .keyExpansion ms [] cr sr _ hlen none (Or.inr (Or.inl rfl))
  rw [hkb] at hmodel
  rw [Model.calcPendingStates, show m*2 + k*2 + i*2 = 2*m + 2*k + 2*i by omega]
  show (Model.calcKey hs v.pair ms sha384Prf Spec.Label.keyExpansion.bytes none _ _ _ >>= _) = _
  rw [hmodel, specOutcome, ok_bind, sliceKeyBlock_spec kb m k i hl, ok_bind]
  rfl

/-- TLS 1.3 `calcTLS1_3PendingState`: key = HKDF-Expand-Label(secret, "key", "", key_length),
    iv = HKDF-Expand-Label(secret, "iv", "", 12) per direction (RFC 8446 §7.3), by role -/
theorem tls13_traffic_keys (mac : Bytes → Bytes → Bytes) (dl : Nat) (client : Bool) (cl sr : Bytes)
    (keyLength : Nat) (hk : keyLength < 65536) (hkd : divceil keyLength dl ≤ 255) (hid : divceil 12 dl ≤ 255) :
    Model.calcTls13PendingState mac dl client cl sr keyLength =
      let ck := (Spec.hkdfExpandLabel mac dl cl lblKey [] keyLength, Spec.hkdfExpandLabel mac dl cl lblIv [] 12)
      let sk := (Spec.hkdfExpandLabel mac dl sr lblKey [] keyLength, Spec.hkdfExpandLabel mac dl sr lblIv [] 12)
      .ok (if client then (ck, sk) else (sk, ck)) := by
  simp only [Model.calcTls13PendingState, bind, Except.bind, pure, Except.pure,
    hkdfExpandLabel_spec mac dl _ lblKey [] keyLength hk (by decide) (by decide) hkd,
    hkdfExpandLabel_spec mac dl _ lblIv [] 12 (by decide) (by decide) (by decide) hid]

/-- KeyUpdate: application_traffic_secret_N+1 = HKDF-Expand-Label(secret_N, "traffic upd", "", Hash.length)
    (RFC 8446 §7.2), then key and iv from the new secret -/
theorem tls13_key_update (mac : Bytes → Bytes → Bytes) (dl : Nat) (appSecret : Bytes)
    (keyLength : Nat) (hk : keyLength < 65536) (hkd : divceil keyLength dl ≤ 255) (hid : divceil 12 dl ≤ 255)
    (hd : dl < 65536) (hdd : divceil dl dl ≤ 255) :
    Model.calcTls13KeyUpdate mac dl appSecret keyLength =
      let next := Spec.hkdfExpandLabel mac dl appSecret lblTrafficUpd [] dl
      .ok (next, Spec.hkdfExpandLabel mac dl next lblKey [] keyLength, Spec.hkdfExpandLabel mac dl next lblIv [] 12) := by
  simp only [Model.calcTls13KeyUpdate, bind, Except.bind, pure, Except.pure,
    hkdfExpandLabel_spec mac dl _ lblTrafficUpd [] dl hd (by decide) (by decide) hdd,
    hkdfExpandLabel_spec mac dl _ lblKey [] keyLength hk (by decide) (by decide) hkd,
    hkdfExpandLabel_spec mac dl _ lblIv [] 12 (by decide) (by decide) (by decide) hid]

example : ∃ r, Model.calcTls13KeyUpdate (fun _ _ => zeros 32) 32 [1] 16 = .ok r :=
  ⟨_, tls13_key_update _ 32 _ 16 (by decide) (by decide) (by decide) (by decide) (by decide)⟩

/-! ## AES-GCM (tlslite/utils/aesgcm.py vs NIST SP 800-38D), over an abstract block cipher `E`
   (`rawAesEncrypt`; only `(E b).length = 16` is assumed) -/

/-- the literal `_gcmReductionTable` (GENERATED from the source on every run): entry n, shifted into
    place, is x⁴·n reduced — checked over the whole table -/
theorem gcm_reduction_table_correct :
    ∀ n, n < 16 → (Gcm.Gen.gcmReductionTable[n]?).map (· <<< (128 - 16)) = some (Gcm.mulXpow 4 n) :=
  Gcm.reductionTable_correct

/-- `_mul(y)` — the 4-bit-window method with the product table built in `__init__` and the
    reduction table — is the block multiplication y • H of §6.3 Algorithm 1 (bit-serial), for
    every 128-bit y and every H -/
theorem gcm_mul_eq_gfmul (h y : Nat) (hy : y < 2 ^ 128) :
    ∃ t, Gcm.Model.productTable h = .ok t ∧ Gcm.Model.mul t y = .ok (Gcm.Spec.gfmul y h) :=
  ⟨_, Gcm.productTable_spec h, Gcm.mul_table h y hy⟩

example : ∃ t, Gcm.Model.productTable 12345 = .ok t ∧ Gcm.Model.mul t 678 = .ok (Gcm.Spec.gfmul 678 12345) :=
  gcm_mul_eq_gfmul _ _ (by decide)

/-- `seal` = GCM-AE (§7.1) for 96-bit IVs and 128-bit tags: H = E(0), J0 = IV‖0³¹1, GCTR from
    inc32(J0), GHASH over A and C zero-padded and [len A]₆₄‖[len C]₆₄, tag masked with E(J0).
    Excluded region: more than 2³²−2 blocks (the code's CTR object increments all 128 bits where
    the standard's inc32 wraps; SP 800-38D forbids such lengths), AAD of 2⁶¹ bytes or more. -/
theorem gcm_seal_eq_spec (E : Bytes → Bytes) (hE : ∀ b, (E b).length = 16) (nonce p aad : Bytes)
    (hn : nonce.length = 12) (ha : 8 * aad.length < 2 ^ 64) (hp : divceil p.length 16 + 2 ≤ 2 ^ 32) :
    (Gcm.Model.new E >>= fun o => Gcm.Model.aseal E o nonce p aad) = .ok (Gcm.Spec.aseal E nonce p aad) := by
  have hc := Gcm.gcm_ctr_spec E hE nonce p hn hp
  have hcl : 8 * (Gcm.Spec.gctr E (Gcm.Spec.inc32 (nonce ++ [0, 0, 0, 1])) p).length < 2 ^ 64 := by
    rw [Gcm.gctr_length E hE]; exact Gcm.len_bound _ hp
  rw [Gcm.new_spec, ok_bind, Gcm.Model.aseal, if_neg (by simp [hn]), hc, ok_bind]
  simp only [Gcm.auth_spec E hE nonce _ aad ha hcl, ok_bind]
  rfl

example : (Gcm.Model.new (fun _ => zeros 16) >>= fun o => Gcm.Model.aseal (fun _ => zeros 16) o (zeros 12) [1, 2, 3] [4]) =
    .ok (Gcm.Spec.aseal (fun _ => zeros 16) (zeros 12) [1, 2, 3] [4]) :=
  gcm_seal_eq_spec _ (fun _ => by simp [zeros]) _ _ _ (by decide) (by decide) (by decide)

/-- `open` = GCM-AD (§7.2) -/
theorem gcm_open_eq_spec (E : Bytes → Bytes) (hE : ∀ b, (E b).length = 16) (nonce ct aad : Bytes)
    (hn : nonce.length = 12) (ha : 8 * aad.length < 2 ^ 64) (hp : divceil (ct.length - 16) 16 + 2 ≤ 2 ^ 32) :
    (Gcm.Model.new E >>= fun o => Gcm.Model.aopen E o nonce ct aad) = .ok (Gcm.Spec.aopen E nonce ct aad) := by
  rw [Gcm.new_spec, ok_bind, Gcm.Model.aopen, if_neg (by simp [hn]), Gcm.Spec.aopen]
  by_cases hs : ct.length < 16
  · rw [if_pos hs, if_pos hs]
  · have hl : (ct.take (ct.length - 16)).length = ct.length - 16 := by simp
    have hcl : 8 * (ct.take (ct.length - 16)).length < 2 ^ 64 := by rw [hl]; exact Gcm.len_bound _ hp
    have hc := Gcm.gcm_ctr_spec E hE nonce (ct.take (ct.length - 16)) hn (by rw [hl]; exact hp)
    rw [if_neg hs, if_neg hs]
    simp only [Gcm.auth_spec E hE nonce _ aad ha hcl, ok_bind, hc]
    by_cases ht : ct.drop (ct.length - 16) = Gcm.Spec.tag E nonce aad (ct.take (ct.length - 16)) <;>
      simp [ht, pure, Except.pure]

/-- open ∘ seal returns the plaintext -/
theorem gcm_open_seal (E : Bytes → Bytes) (hE : ∀ b, (E b).length = 16) (nonce p aad : Bytes)
    (hn : nonce.length = 12) (ha : 8 * aad.length < 2 ^ 64) (hp : divceil p.length 16 + 2 ≤ 2 ^ 32) :
    (Gcm.Model.new E >>= fun o => Gcm.Model.aseal E o nonce p aad >>= fun c => Gcm.Model.aopen E o nonce c aad) =
      .ok (some p) := by
  have hs := gcm_seal_eq_spec E hE nonce p aad hn ha hp
  have hl : (Gcm.Spec.aseal E nonce p aad).length - 16 = p.length := by
    simp [Gcm.Spec.aseal, Gcm.gctr_length E hE, Gcm.tag_length E hE]
  have ho := gcm_open_eq_spec E hE nonce (Gcm.Spec.aseal E nonce p aad) aad hn ha (by rw [hl]; exact hp)
  rw [Gcm.spec_aopen_aseal E hE] at ho
  simp only [Gcm.new_spec, bind, Except.bind] at hs ho ⊢
  rw [hs]
  exact ho

/-- `open` returns data exactly when the last 16 bytes equal the tag recomputed over the rest with
    this nonce and AAD, and then the GCTR decryption of the rest; anything else yields `None` -/
theorem gcm_open_some_iff (E : Bytes → Bytes) (hE : ∀ b, (E b).length = 16) (nonce ct aad p : Bytes)
    (hn : nonce.length = 12) (ha : 8 * aad.length < 2 ^ 64) (hp : divceil (ct.length - 16) 16 + 2 ≤ 2 ^ 32) :
    (Gcm.Model.new E >>= fun o => Gcm.Model.aopen E o nonce ct aad) = .ok (some p) ↔
      16 ≤ ct.length ∧
      ct.drop (ct.length - 16) = Gcm.Spec.tag E nonce aad (ct.take (ct.length - 16)) ∧
      p = Gcm.Spec.gctr E (Gcm.Spec.inc32 (nonce ++ [0, 0, 0, 1])) (ct.take (ct.length - 16)) := by
  rw [gcm_open_eq_spec E hE nonce ct aad hn ha hp, Except.ok.injEq, Gcm.aopen_eq]
  exact splitVerify_eq_some_iff _ _ _ ct p

/-- NO HIDDEN STATE: `seal` on an AESGCM object after ANY earlier history (the shared `self._ctr`
    sub-object left at an arbitrary position) returns the SP 800-38D value of this call's own
    (nonce, plaintext, AAD) — the code assigns a fresh counter block to the sub-object on every call -/
theorem gcm_seal_no_hidden_state (E : Bytes → Bytes) (hE : ∀ b, (E b).length = 16) (o : Gcm.Model.ObjS)
    (ho : Gcm.InvS E o) (nonce p aad : Bytes) (hn : nonce.length = 12) (ha : 8 * aad.length < 2 ^ 64)
    (hp : divceil p.length 16 + 2 ≤ 2 ^ 32) :
    ∃ o', Gcm.Model.asealS E o nonce p aad = .ok (o', Gcm.Spec.aseal E nonce p aad) ∧ Gcm.InvS E o' :=
  Gcm.asealS_spec E hE o ho nonce p aad hn ha hp

/-- object-level stream = one-shot: ANY history of seal / open calls of any sizes on one AESGCM object
    returns, call by call, exactly what the standard defines for that call alone -/
theorem gcm_history_independent (E : Bytes → Bytes) (hE : ∀ b, (E b).length = 16) (cs : List Gcm.Model.Call)
    (hv : ∀ c ∈ cs, Gcm.ValidCall c) :
    ∃ o o', Gcm.Model.newS E = .ok o ∧
      Gcm.Model.runCalls E o cs = .ok (o', cs.map (Gcm.specCall E)) := by
  obtain ⟨o, h1, hi⟩ := Gcm.newS_inv E
  obtain ⟨o', h2, _⟩ := Gcm.runCalls_spec E hE cs o hi hv
  exact ⟨o, o', h1, h2⟩

example : ∃ o o', Gcm.Model.newS (fun _ => zeros 16) = .ok o ∧
    Gcm.Model.runCalls (fun _ => zeros 16) o [⟨true, zeros 12, [1, 2], [3]⟩, ⟨false, zeros 12, zeros 20, []⟩] =
      .ok (o', [⟨true, zeros 12, [1, 2], [3]⟩, ⟨false, zeros 12, zeros 20, []⟩].map (Gcm.specCall (fun _ => zeros 16))) :=
  gcm_history_independent _ (fun _ => by simp [zeros]) _ (by
    intro c hc
    simp only [List.mem_cons, List.not_mem_nil, or_false] at hc
    rcases hc with rfl | rfl <;> exact ⟨by decide, by decide, by decide⟩)

/-! ## AES-CCM and AES-CCM-8 (tlslite/utils/aesccm.py vs RFC 3610 / SP 800-38C), abstract block cipher `E`;
   tag length 16 or 8, the 12-byte nonce the code insists on (L = 3) -/

/-- `_cbcmac_calc`: flags, B_0, the 2 / 6 / 10-byte AAD length forms, zero padding, CBC-MAC through
    the object's Python_AES with a zero IV and the truncation to the tag length compute T of §2.2,
    for every AAD and message length -/
theorem ccm_cbcmac_eq_spec (E : Bytes → Bytes) (hE : ∀ b, (E b).length = 16) (tl : Nat) (htl : tl = 8 ∨ tl = 16)
    (N a m : Bytes) (hn : N.length = 12) :
    Ccm.Model.cbcmacCalc E tl N a m = .ok (Ccm.Spec.tagT E tl N a m) :=
  Ccm.cbcmacCalc_spec E hE tl htl N a m hn

/-- `seal` = CCM encryption (§2.3, §2.4): message xor S_1‖S_2‖…, U = T xor the first M bytes of S_0.
    Excluded region: 2^24 blocks or more (beyond what L = 3 can express; TLS records are 2^14). -/
theorem ccm_seal_eq_spec (E : Bytes → Bytes) (hE : ∀ b, (E b).length = 16) (tl : Nat) (htl : tl = 8 ∨ tl = 16)
    (N m a : Bytes) (hn : N.length = 12) (hm : 1 + divceil m.length 16 ≤ 2 ^ 24) :
    Ccm.Model.aseal E tl N m a = .ok (Ccm.Spec.aseal E tl N m a) := by
  have hM : tl ≤ 16 := by rcases htl with rfl | rfl <;> decide
  have hc := Ccm.ccm_ctr_msg E hE N m hn hm
  rw [Ccm.Model.aseal, if_neg (by simp [hn]), Ccm.s0_spec N hn, ok_bind, Ccm.cbcmacCalc_spec E hE tl htl N a m hn,
    ok_bind]
  simp only [Ccm.ccm_mask _ E hE tl htl N _ hn (Ccm.tagT_length E hE tl hM N a m hn), ok_bind, hc]
  rfl

example : Ccm.Model.aseal (fun _ => zeros 16) 8 (zeros 12) [1, 2, 3] [4] =
    .ok (Ccm.Spec.aseal (fun _ => zeros 16) 8 (zeros 12) [1, 2, 3] [4]) :=
  ccm_seal_eq_spec _ (fun _ => by simp [zeros]) 8 (Or.inl rfl) _ _ _ (by decide) (by decide)

/-- `open` = CCM decryption and verification (§2.5) -/
theorem ccm_open_eq_spec (E : Bytes → Bytes) (hE : ∀ b, (E b).length = 16) (tl : Nat) (htl : tl = 8 ∨ tl = 16)
    (N c a : Bytes) (hn : N.length = 12) (hc : 1 + divceil c.length 16 ≤ 2 ^ 24) :
    Ccm.Model.aopen E tl N c a = .ok (Ccm.Spec.aopen E tl N c a) := by
  rw [Ccm.Model.aopen, if_neg (by simp [hn]), Ccm.Spec.aopen]
  by_cases hs : c.length < tl
  · rcases htl with rfl | rfl <;> simp [hs]
  · have hs1 : ¬ (tl = 16 ∧ c.length < 16) := by rintro ⟨rfl, h⟩; exact hs h
    have hs2 : ¬ (tl = 8 ∧ c.length < 8) := by rintro ⟨rfl, h⟩; exact hs h
    rw [if_neg hs1, if_neg hs2, if_neg hs]
    have hal : (c.drop (c.length - tl)).length = tl := by rw [List.length_drop]; omega
    have hcm := Ccm.ccm_ctr_msg E hE N c hn hc
    have hxl : (xorBytes c (Ccm.Spec.keyStream E N (divceil c.length 16))).length = c.length :=
      Ccm.encryptMsg_length E hE N c
    -- the code decrypts ciphertext ‖ authentication value in one CTR call (from A_1, where `ccm_mask` has left the
    -- counter) and cuts afterwards; the RFC cuts first
    have hmsg : (xorBytes c (Ccm.Spec.keyStream E N (divceil c.length 16))).take
        ((xorBytes c (Ccm.Spec.keyStream E N (divceil c.length 16))).length - tl) =
        Ccm.Spec.encryptMsg E N (c.take (c.length - tl)) := by
      rw [hxl]
      exact xorStream_take _ 16 (by decide) (fun _ => hE _) c _
    simp only [Ccm.s0_spec N hn, ok_bind, Ccm.ccm_mask _ E hE tl htl N _ hn hal, hcm, hmsg,
      Ccm.cbcmacCalc_spec E hE tl htl N a (Ccm.Spec.encryptMsg E N (c.take (c.length - tl))) hn]
    by_cases ht : xorBytes (c.drop (c.length - tl)) ((E (Ccm.Spec.ctrBlock N 0)).take tl) =
        Ccm.Spec.tagT E tl N a (Ccm.Spec.encryptMsg E N (c.take (c.length - tl))) <;>
      simp [ht, pure, Except.pure]

/-- open ∘ seal returns the plaintext (both tag lengths) -/
theorem ccm_open_seal (E : Bytes → Bytes) (hE : ∀ b, (E b).length = 16) (tl : Nat) (htl : tl = 8 ∨ tl = 16)
    (N m a : Bytes) (hn : N.length = 12) (hm : 1 + divceil (m.length + 16) 16 ≤ 2 ^ 24) :
    (Ccm.Model.aseal E tl N m a >>= fun c => Ccm.Model.aopen E tl N c a) = .ok (some m) := by
  have hM : tl ≤ 16 := by rcases htl with rfl | rfl <;> decide
  have hmono := divceil_mono m.length (m.length + 16) 16 (by decide) (by omega)
  rw [ccm_seal_eq_spec E hE tl htl N m a hn (by omega)]
  have hl : (Ccm.Spec.aseal E tl N m a).length ≤ m.length + 16 := by
    simp only [Ccm.Spec.aseal, List.length_append, Ccm.encryptMsg_length E hE, xorBytes_length,
      Ccm.tagT_length E hE tl hM N a m hn]
    omega
  have hmono2 := divceil_mono _ _ 16 (by decide) hl
  show Ccm.Model.aopen E tl N _ a = _
  rw [ccm_open_eq_spec E hE tl htl N _ a hn (by omega), Ccm.spec_aopen_aseal E hE tl hM N m a hn]

/-- `open` returns data exactly when the received authentication value, unmasked with S_0, equals
    the CBC-MAC recomputed over the decrypted message with this nonce and AAD; anything else
    (shorter than a tag, any other tag) yields `None` -/
theorem ccm_open_some_iff (E : Bytes → Bytes) (hE : ∀ b, (E b).length = 16) (tl : Nat) (htl : tl = 8 ∨ tl = 16)
    (N c a p : Bytes) (hn : N.length = 12) (hc : 1 + divceil c.length 16 ≤ 2 ^ 24) :
    Ccm.Model.aopen E tl N c a = .ok (some p) ↔
      tl ≤ c.length ∧
      p = Ccm.Spec.encryptMsg E N (c.take (c.length - tl)) ∧
      xorBytes (c.drop (c.length - tl)) ((E (Ccm.Spec.ctrBlock N 0)).take tl) = Ccm.Spec.tagT E tl N a p := by
  rw [ccm_open_eq_spec E hE tl htl N c a hn hc, Except.ok.injEq, Ccm.aopen_eq, splitVerify_eq_some_iff]
  constructor
  · rintro ⟨h1, h2, rfl⟩; exact ⟨h1, rfl, h2⟩
  · rintro ⟨h1, rfl, h2⟩; exact ⟨h1, h2, rfl⟩

/-! ## AES core (tlslite/utils/rijndael.py): the GENERATED tables against FIPS-197
   Table statements are over the whole literal tables, re-generated from the source and re-checked on
   every run.  On top of them: the key-schedule loops = KeyExpansion, encrypt = Cipher, decrypt = InvCipher
   (through the equivalent inverse cipher of §5.3.5) and decrypt ∘ encrypt = id, for every key of 16, 24,
   32 bytes and every block (`Aes.Model` = executable transliteration of rijndael.py, `Aes.Spec` = FIPS-197).
   The model itself is tied to the implementation by correspondence (driver ops `aes_model`, `aes_spec`). -/

/-- `S` is the FIPS-197 S-box: inverse in GF(2^8) followed by the affine transformation (all 256 entries) -/
theorem aes_sbox_table : Aes.Gen.S.toList = (List.range 256).map Aes.Spec.sboxN := Aes.S_table

/-- `Si` is the inverse permutation of `S`, both ways (InvSubBytes) -/
theorem aes_inv_sbox_table :
    Aes.Gen.S.toList.map (fun s => Aes.Gen.Si.toList.getD s 256) = List.range 256 ∧
    Aes.Gen.Si.toList.map (fun s => Aes.Gen.S.toList.getD s 256) = List.range 256 := Aes.Si_table

/-- T1..T4 = SubBytes then the MixColumns column (02 01 01 03) and its rotations -/
theorem aes_round_tables :
    Aes.Gen.T1.toList = Aes.Gen.S.toList.map (fun s => Aes.word (Aes.Spec.gmulN 2 s) s s (Aes.Spec.gmulN 3 s)) ∧
    Aes.Gen.T2.toList = Aes.Gen.S.toList.map (fun s => Aes.word (Aes.Spec.gmulN 3 s) (Aes.Spec.gmulN 2 s) s s) ∧
    Aes.Gen.T3.toList = Aes.Gen.S.toList.map (fun s => Aes.word s (Aes.Spec.gmulN 3 s) (Aes.Spec.gmulN 2 s) s) ∧
    Aes.Gen.T4.toList = Aes.Gen.S.toList.map (fun s => Aes.word s s (Aes.Spec.gmulN 3 s) (Aes.Spec.gmulN 2 s)) :=
  Aes.T_tables

/-- T5..T8 = InvSubBytes then the InvMixColumns column (0e 09 0d 0b) and its rotations -/
theorem aes_inv_round_tables :
    Aes.Gen.T5.toList = Aes.Gen.Si.toList.map (fun s => Aes.word (Aes.Spec.gmulN 14 s) (Aes.Spec.gmulN 9 s) (Aes.Spec.gmulN 13 s) (Aes.Spec.gmulN 11 s)) ∧
    Aes.Gen.T6.toList = Aes.Gen.Si.toList.map (fun s => Aes.word (Aes.Spec.gmulN 11 s) (Aes.Spec.gmulN 14 s) (Aes.Spec.gmulN 9 s) (Aes.Spec.gmulN 13 s)) ∧
    Aes.Gen.T7.toList = Aes.Gen.Si.toList.map (fun s => Aes.word (Aes.Spec.gmulN 13 s) (Aes.Spec.gmulN 11 s) (Aes.Spec.gmulN 14 s) (Aes.Spec.gmulN 9 s)) ∧
    Aes.Gen.T8.toList = Aes.Gen.Si.toList.map (fun s => Aes.word (Aes.Spec.gmulN 9 s) (Aes.Spec.gmulN 13 s) (Aes.Spec.gmulN 11 s) (Aes.Spec.gmulN 14 s)) :=
  Aes.Tinv_tables

/-- U1..U4 = InvMixColumns columns of a plain byte (decryption round keys) -/
theorem aes_key_inv_mix_tables :
    Aes.Gen.U1.toList = (List.range 256).map (fun x => Aes.word (Aes.Spec.gmulN 14 x) (Aes.Spec.gmulN 9 x) (Aes.Spec.gmulN 13 x) (Aes.Spec.gmulN 11 x)) ∧
    Aes.Gen.U2.toList = (List.range 256).map (fun x => Aes.word (Aes.Spec.gmulN 11 x) (Aes.Spec.gmulN 14 x) (Aes.Spec.gmulN 9 x) (Aes.Spec.gmulN 13 x)) ∧
    Aes.Gen.U3.toList = (List.range 256).map (fun x => Aes.word (Aes.Spec.gmulN 13 x) (Aes.Spec.gmulN 11 x) (Aes.Spec.gmulN 14 x) (Aes.Spec.gmulN 9 x)) ∧
    Aes.Gen.U4.toList = (List.range 256).map (fun x => Aes.word (Aes.Spec.gmulN 9 x) (Aes.Spec.gmulN 13 x) (Aes.Spec.gmulN 11 x) (Aes.Spec.gmulN 14 x)) :=
  Aes.U_tables

/-- rcon[i] = x^i, the shift offsets and the round numbers of FIPS-197 -/
theorem aes_rcon_shifts_rounds :
    (Aes.Gen.rcon.toList.take 14) = (List.range 14).map (fun i => (List.range i).foldl (fun r _ => Aes.Spec.xtimeN r) 1) ∧
    Aes.Gen.shiftsEnc = [1, 2, 3] ∧ Aes.Gen.shiftsDec = [3, 2, 1] ∧
    Aes.Gen.numRounds = [(16, 10), (24, 12), (32, 14)] :=
  ⟨Aes.rcon_table, Aes.shifts_and_rounds⟩

/-- The table-driven encryption of `Rijndael.encrypt` — first key addition, the T1..T4 rounds with the
    shift offsets, the special last round with `S` — run on ANY key schedule `K` of 4·(rounds+1)
    32-bit words, is the FIPS-197 Cipher (SubBytes, ShiftRows, MixColumns, AddRoundKey) with round
    key r = the bytes of K[4r..4r+3], for every 16-byte block. -/
theorem aes_encrypt_rounds_eq_spec (K : List Nat) (hK : ∀ w ∈ K, w < 2 ^ 32) (rounds : Nat)
    (hr : 1 ≤ rounds) (hlen : K.length = 4 * (rounds + 1)) (block : Bytes) (hb : block.length = 16) :
    Aes.Model.crypt K rounds Aes.Gen.T1 Aes.Gen.T2 Aes.Gen.T3 Aes.Gen.T4 Aes.Gen.S Aes.Gen.shiftsEnc block =
      .ok (Aes.Spec.cipherRK (Aes.rkBytes K) rounds block) :=
  Aes.crypt_enc_spec K hK rounds hlen _ (fun _ _ => rfl) block hb

example : ∃ r, Aes.Model.crypt (List.replicate 44 7) 10 Aes.Gen.T1 Aes.Gen.T2 Aes.Gen.T3 Aes.Gen.T4 Aes.Gen.S
    Aes.Gen.shiftsEnc (zeros 16) = .ok r :=
  ⟨_, aes_encrypt_rounds_eq_spec _ (by decide) 10 (by decide) (by decide) _ (by decide)⟩

/-- the key-schedule loops of `Rijndael.__init__` (first copy, the `while t < ROUND_KEY_COUNT` evolution
    with RotWord/SubWord/rcon, the extra SubWord for 32-byte keys, truncation of the last pass)
    compute FIPS-197 §5.2 KeyExpansion word for word, for 16-, 24- and 32-byte keys; `Ke` of the
    object is that list and the decryption schedule is `mkKd` of it -/
theorem aes_key_schedule_eq_spec (key : Bytes) (hk : key.length = 16 ∨ key.length = 24 ∨ key.length = 32) :
    ∃ Kd, Aes.Model.init key =
        .ok { Ke := (Aes.Spec.keyExpansion key).map Aes.wd, Kd := Kd, rounds := key.length / 4 + 6 } ∧
      Aes.Model.mkKd ((Aes.Spec.keyExpansion key).map Aes.wd) (key.length / 4 + 6) = .ok Kd :=
  ⟨_, Aes.init_spec key hk, Aes.mkKd_spec _ (Aes.keyExpansion_isWin key hk).2 _⟩

/-- FULL: `Rijndael(key, 16).encrypt(block)` = Cipher(KeyExpansion(key), block) of FIPS-197 for every
    key of 16, 24, 32 bytes and every 16-byte block (other lengths raise ValueError: `aes_guards`) -/
theorem aes_encrypt_eq_spec (key block : Bytes) (hk : key.length = 16 ∨ key.length = 24 ∨ key.length = 32)
    (hb : block.length = 16) :
    (Aes.Model.init key >>= fun k => Aes.Model.encrypt k block) = .ok (Aes.Spec.cipher key block) :=
  (congrArg (· >>= _) (Aes.init_spec key hk)).trans (Aes.encrypt_of_init key block _ hk (Aes.init_spec key hk) hb)

example : (Aes.Model.init (zeros 16) >>= fun k => Aes.Model.encrypt k (zeros 16)) =
    .ok (Aes.Spec.cipher (zeros 16) (zeros 16)) := aes_encrypt_eq_spec _ _ (Or.inl rfl) rfl

/-- `S`-inverse table computed directly: `Si` = inverse affine map then the GF(2^8) inverse (§5.3.2) -/
theorem aes_inv_sbox_spec_table : Aes.Gen.Si.toList = (List.range 256).map Aes.Spec.invSboxN := Aes.Si_spec_table

/-- the table-driven decryption (T5..T8 rounds with shift offsets 3 2 1, last round with `Si`) on ANY
    decryption key schedule is the equivalent inverse cipher of FIPS-197 §5.3.5 with those round keys -/
theorem aes_decrypt_rounds_eq_spec (K : List Nat) (hK : ∀ w ∈ K, w < 2 ^ 32) (rounds : Nat)
    (hr : 1 ≤ rounds) (hlen : K.length = 4 * (rounds + 1)) (block : Bytes) (hb : block.length = 16) :
    Aes.Model.crypt K rounds Aes.Gen.T5 Aes.Gen.T6 Aes.Gen.T7 Aes.Gen.T8 Aes.Gen.Si Aes.Gen.shiftsDec block =
      .ok (Aes.Spec.eqInvCipherRK (Aes.rkBytes K) rounds block) :=
  Aes.crypt_dec_spec K hK rounds hlen _ (fun _ _ => rfl) block hb

/-- FIPS-197 §5.3.5: InvCipher equals the equivalent inverse cipher under the modified key schedule
    (InvMixColumns is linear over xor; InvSubBytes and InvShiftRows commute) -/
theorem aes_inv_cipher_eq_equivalent (rk : Nat → Aes.Spec.State) (nr : Nat)
    (hrk : ∀ r, r ≤ nr → (rk r).length = 16) (inp : Bytes) (hi : inp.length = 16) :
    Aes.Spec.invCipherRK rk nr inp = Aes.Spec.eqInvCipherRK (Aes.Spec.dkOf rk nr) nr inp :=
  Aes.invCipher_eq_eqInv rk nr hrk inp hi

/-- the decryption key schedule built in `__init__` (`Kd[ROUNDS − r] = Ke[r]`, then U1..U4 on rounds
    1 .. ROUNDS−1) is that modified schedule of the KeyExpansion words -/
theorem aes_decrypt_key_schedule_eq_spec (w : List (List UInt8)) (hw : ∀ x ∈ w, x.length = 4) (R : Nat)
    (hlen : w.length = 4 * (R + 1)) :
    Aes.Model.mkKd (w.map Aes.wd) R = .ok ((Aes.kdWords w R).map Aes.wd) ∧
    ∀ r, r ≤ R → Aes.Spec.roundKey (Aes.kdWords w R) r = Aes.Spec.dkOf (Aes.Spec.roundKey w) R r :=
  ⟨Aes.mkKd_spec w hw R, fun r hr => Aes.kd_roundKey w hw R r hr hlen⟩

/-- FULL: `Rijndael(key, 16).decrypt(block)` = InvCipher(KeyExpansion(key), block) of FIPS-197 for every
    key of 16, 24, 32 bytes and every 16-byte block -/
theorem aes_decrypt_eq_spec (key block : Bytes) (hk : key.length = 16 ∨ key.length = 24 ∨ key.length = 32)
    (hb : block.length = 16) :
    (Aes.Model.init key >>= fun k => Aes.Model.decrypt k block) = .ok (Aes.Spec.invCipher key block) :=
  (congrArg (· >>= _) (Aes.init_spec key hk)).trans (Aes.decrypt_of_init key block _ hk (Aes.init_spec key hk) hb)

example : (Aes.Model.init (zeros 32) >>= fun k => Aes.Model.decrypt k (zeros 16)) =
    .ok (Aes.Spec.invCipher (zeros 32) (zeros 16)) := aes_decrypt_eq_spec _ _ (Or.inr (Or.inr rfl)) rfl

/-- FIPS-197 InvCipher inverts Cipher under KeyExpansion (InvSubBytes∘SubBytes, InvShiftRows∘ShiftRows,
    InvMixColumns∘MixColumns — the latter from the four products of row 0 of the InvMixColumns matrix with the
    columns of the MixColumns matrix, each checked on the eight powers of two and carried to every byte by additivity
    over xor, the other rows being the same with the bytes rotated — and AddRoundKey twice are identities) -/
theorem aes_spec_decrypt_encrypt (key block : Bytes) (hk : key.length = 16 ∨ key.length = 24 ∨ key.length = 32)
    (hb : block.length = 16) : Aes.Spec.invCipher key (Aes.Spec.cipher key block) = block :=
  Aes.invCipher_cipher key block hk hb

/-- one `Rijndael` object: `decrypt(encrypt(block)) = block` — the `D (E b) = b` hypothesis of the
    mode theorems above is discharged for tlslite's own AES -/
theorem aes_decrypt_encrypt (key block : Bytes) (hk : key.length = 16 ∨ key.length = 24 ∨ key.length = 32)
    (hb : block.length = 16) :
    (Aes.Model.init key >>= fun k => Aes.Model.encrypt k block >>= fun c => Aes.Model.decrypt k c) = .ok block := by
  have hi := Aes.init_spec key hk
  rw [hi]
  simp only [bind, Except.bind]
  rw [Aes.encrypt_of_init key block _ hk hi hb]
  exact (Aes.decrypt_of_init key _ _ hk hi (Aes.cipher_length key block hk)).trans
    (congrArg _ (Aes.invCipher_cipher key block hk hb))

/-- wrong key or block lengths raise ValueError -/
theorem aes_guards (key block : Bytes) :
    ((key.length ≠ 16 ∧ key.length ≠ 24 ∧ key.length ≠ 32) → Aes.Model.init key = .error .value) ∧
    (∀ k : Aes.Model.Keys, block.length ≠ 16 →
      Aes.Model.encrypt k block = .error .value ∧ Aes.Model.decrypt k block = .error .value) := by
  constructor
  · intro h; rw [Aes.Model.init, if_pos h]
  · intro k h
    simp [Aes.Model.encrypt, Aes.Model.decrypt, Aes.Model.crypt, h]

end Tls.Crypto.C09
