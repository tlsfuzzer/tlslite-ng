import TlsProofs.RsaDecrypt
import TlsProofs.RsaServer
import TlsProofs.RsaGen
import TlsModel.Gen.RsaDecrypt
import TlsProofs.CryptomathEq
import Props.C12
/-
  C11 — RSA key transport gives an attacker no padding oracle.

  `decrypt` mirrors `RSAKey.decrypt` (tlslite/utils/rsakey.py) statement by statement,
  `processClientKeyExchange` mirrors `RSAKeyExchange.processClientKeyExchange`
  (tlslite/keyexchange.py).  SHA-256, HMAC-SHA256 and the integer private-key operation are
  arbitrary functions; the only thing assumed of HMAC is its 32-byte output length.  The key
  size hypotheses `11 ≤ k < 65536` (k = byte length of the modulus) are the range in which
  PKCS#1 v1.5 encryption exists at all and in which the code's 16-bit masks are exact.

  A ciphertext is *publicly valid* when it has exactly `k` bytes and encodes a number below `n`.
-/
namespace Tls.RsaDec
open Tls.CT

/-- **Totality.** `decrypt` never raises; it returns `None` exactly for the publicly invalid
    ciphertexts, and a byte string for every other ciphertext. -/
theorem decrypt_total (K : Key) (P : Prims) (c : Bytes)
    (h32 : ∀ k m, (P.hmac k m).length = 32) (hk : 11 ≤ K.k) (hk16 : K.k < 65536) :
    (decrypt K P c = .ok none ↔ ¬ PubliclyValid K c) ∧
    (PubliclyValid K c → ∃ m, decrypt K P c = .ok (some m)) := by
  have hv := decrypt_of_valid K P c h32 hk hk16
  refine ⟨⟨fun h hc => ?_, decrypt_of_not_valid K P c⟩, fun hc => ⟨_, hv hc⟩⟩
  rw [hv hc] at h
  cases h

example : decrypt exKey (exPrims exGoodEM) exCipher = .ok (some [0xaa, 0xbb, 0xcc, 0xdd, 0xee]) := exGoodEM_decrypt
example : decrypt exKey (exPrims exGoodEM) (0 :: exCipher) = .ok none := by decide +kernel
example : decrypt exKey (exPrims exGoodEM) (beEncode 16 (2 ^ 128 - 159)) = .ok none := by decide +kernel
example : ∃ m, decrypt exKey (exPrims exBadEM) exCipher = .ok (some m) :=
  (decrypt_total exKey (exPrims exBadEM) exCipher (exPrims_h32 _) exKey_range.1 exKey_range.2).2 exCipher_valid

/-- **Valid padding gives the message.** If the encoded message the key computes is
    `00 02 PS 00 M` with at least eight padding bytes, none zero, `decrypt` returns exactly `M`. -/
theorem decrypt_valid (K : Key) (P : Prims) (c ps m : Bytes)
    (h32 : ∀ k m, (P.hmac k m).length = 32) (hk : 11 ≤ K.k) (hk16 : K.k < 65536)
    (hc : PubliclyValid K c)
    (hem : em K P c = 0 :: 2 :: (ps ++ 0 :: m)) (h8 : 8 ≤ ps.length) (hnz : ∀ b ∈ ps, b ≠ 0) :
    decrypt K P c = .ok (some m) := by
  rw [decrypt_of_valid K P c h32 hk hk16 hc, plainOf, hem, parse_of_wellFormed ps m h8 hnz]
  have : List.drop (ps.length + 3) (0 :: 2 :: (ps ++ 0 :: m)) = m := by
    simp [List.drop_append]
  exact congrArg (fun x => Except.ok (some x)) this

example : decrypt exKey (exPrims exGoodEM) exCipher = .ok (some [0xaa, 0xbb, 0xcc, 0xdd, 0xee]) :=
  decrypt_valid exKey (exPrims exGoodEM) exCipher [1, 2, 3, 4, 5, 6, 7, 8] [0xaa, 0xbb, 0xcc, 0xdd, 0xee]
    (exPrims_h32 _) exKey_range.1 exKey_range.2 exCipher_valid exGoodEM_em (by decide) (by decide)

/-- **Uniform implicit rejection.** There is one function `g` of the key-derivation key
    (`kdk = HMAC(SHA256(d), c)`), fixed before the private-key operation and hence before the
    encoded message is known, such that every publicly valid ciphertext whose encoded message
    is not well formed — whatever the kind of defect — decrypts to `g (kdk c)`; its length is at
    most `k - 11`.  The synthetic message, and in particular its length, therefore cannot depend
    on the defect class. -/
theorem decrypt_invalid_uniform (K : Key) (sha256 : Bytes → Bytes) (hmac : Bytes → Bytes → Bytes)
    (h32 : ∀ k m, (hmac k m).length = 32) (hk : 11 ≤ K.k) (hk16 : K.k < 65536) :
    ∃ g : Bytes → Bytes, (∀ x, (g x).length ≤ K.k - 11) ∧
      ∀ (privInt : Nat → Nat) (c : Bytes),
        let P : Prims := { sha256 := sha256, hmac := hmac, privInt := privInt }
        PubliclyValid K c → ¬ WellFormedEM (em K P c) →
          decrypt K P c = .ok (some (g (kdk K P c))) := by
  refine ⟨synthBytes hmac K.k, fun x => ?_, ?_⟩
  · obtain ⟨_, _, _, hl, hb⟩ := synthMessage_ok hmac K.k x h32 hk hk16
    exact hl ▸ hb
  · intro privInt c P hc hnw
    exact decrypt_of_not_wellFormed K P c h32 hk hk16 hc hnw

/-- two different defect classes (zero inside the first eight padding bytes / wrong block
    type), same ciphertext: the very same synthetic message -/
example : ¬ WellFormedEM (em exKey (exPrims exBadEM) exCipher) ∧
    ¬ WellFormedEM (em exKey (exPrims exBadEM2) exCipher) ∧
    decrypt exKey (exPrims exBadEM) exCipher = decrypt exKey (exPrims exBadEM2) exCipher ∧
    decrypt exKey (exPrims exBadEM) exCipher ≠ .ok none := by
  have h := fun e => decrypt_of_not_wellFormed exKey (exPrims e) exCipher (exPrims_h32 _) exKey_range.1 exKey_range.2
    exCipher_valid
  -- the key-derivation key does not mention what the private-key operation returns
  exact ⟨exBadEM_not_wellFormed, exBadEM2_not_wellFormed,
    (h _ exBadEM_not_wellFormed).trans (h _ exBadEM2_not_wellFormed).symm, h _ exBadEM_not_wellFormed ▸ nofun⟩

/-- **Synthetic length bound.** Whatever the PRF output, the selected synthetic length is at
    most `k - 11` (the largest message PKCS#1 v1.5 can carry), so the synthetic message is
    indistinguishable by length from a real one; and what `decrypt` returns for a malformed
    encoded message has exactly that length. -/
theorem synth_length_bound (K : Key) (P : Prims) (c : Bytes)
    (h32 : ∀ k m, (P.hmac k m).length = 32) (hk : 11 ≤ K.k) (hk16 : K.k < 65536) :
    (∀ lr, synthLen (K.k - 10) lr ≤ K.k - 11) ∧
    (PubliclyValid K c → ¬ WellFormedEM (em K P c) →
      ∃ m lr, decPrf P.hmac (kdk K P c) lengthLabel (128 * 2 * 8) = .ok lr ∧
        decrypt K P c = .ok (some m) ∧ m.length = synthLen (K.k - 10) lr ∧ m.length ≤ K.k - 11) := by
  refine ⟨fun lr => Nat.le_sub_one_of_lt (synthLen_lt_sub K.k lr hk hk16), fun hc hnw => ?_⟩
  obtain ⟨_, lr, hlr, hl, hb⟩ := synthMessage_ok P.hmac K.k (kdk K P c) h32 hk hk16
  exact ⟨_, lr, hlr, decrypt_of_not_wellFormed K P c h32 hk hk16 hc hnw, hl, hl ▸ hb⟩

example : ∃ m, decrypt exKey (exPrims exBadEM) exCipher = .ok (some m) ∧ m.length ≤ 5 := by
  obtain ⟨m, _, _, h, _, hl⟩ := (synth_length_bound exKey (exPrims exBadEM) exCipher (exPrims_h32 _)
    exKey_range.1 exKey_range.2).2 exCipher_valid exBadEM_not_wellFormed
  exact ⟨m, h, by rw [exKey_k] at hl; exact hl⟩

/-- the decrypted value is used as the premaster secret: 48 bytes whose first two bytes are
    the client-hello version or (tolerated) the negotiated version -/
def Accepted (dec : Option Bytes) (clientVersion serverVersion : Nat × Nat) : Prop :=
  ∃ v0 v1 rest, dec = some (v0 :: v1 :: rest) ∧ (v0 :: v1 :: rest).length = 48 ∧
    ((v0.toNat, v1.toNat) = clientVersion ∨ (v0.toNat, v1.toNat) = serverVersion)

theorem substitutePremaster_spec (dec : Option Bytes) (rand : Bytes) (cv sv : Nat × Nat) :
    (Accepted dec cv sv → dec = some (substitutePremaster dec rand cv sv)) ∧
    (¬ Accepted dec cv sv → substitutePremaster dec rand cv sv = rand) := by
  unfold Accepted
  match dec with
  | none => simp [substitutePremaster]
  | some [] => simp [substitutePremaster]
  | some [_] => simp [substitutePremaster]
  | some (v0 :: v1 :: rest) =>
    -- the witnesses of `Accepted` can only be the value's own head bytes and tail
    have hA : (∃ a b r, some (v0 :: v1 :: rest) = some (a :: b :: r) ∧ (a :: b :: r).length = 48 ∧
          ((a.toNat, b.toNat) = cv ∨ (a.toNat, b.toNat) = sv)) ↔
        (v0 :: v1 :: rest).length = 48 ∧ ((v0.toNat, v1.toNat) = cv ∨ (v0.toNat, v1.toNat) = sv) :=
      ⟨by rintro ⟨_, _, _, ⟨⟩, h⟩; exact h, fun h => ⟨_, _, _, rfl, h⟩⟩
    rw [hA, substitutePremaster]
    generalize (v0 :: v1 :: rest).length = n
    by_cases hl : n = 48 <;>
      by_cases h1 : (v0.toNat, v1.toNat) = cv <;>
      by_cases h2 : (v0.toNat, v1.toNat) = sv <;> simp [hl, h1, h2]

/-- **Premaster substitution is total.** For every ClientKeyExchange payload — publicly invalid,
    any padding defect, any decrypted length, any version bytes — `processClientKeyExchange`
    returns (never raises) a 48-byte premaster secret: the decrypted value iff it has 48 bytes
    and carries the client-hello or the negotiated version, otherwise the random substitute
    drawn in the same call, before the cascade of tests. -/
theorem premaster_substitution_total (K : Key) (P : Prims) (rand c : Bytes) (cv sv : Nat × Nat)
    (h32 : ∀ k m, (P.hmac k m).length = 32) (hk : 11 ≤ K.k) (hk16 : K.k < 65536)
    (hr : rand.length = 48) :
    ∃ dec r, decrypt K P c = .ok dec ∧ processClientKeyExchange K P rand cv sv c = .ok r ∧
      r.length = 48 ∧
      (Accepted dec cv sv → dec = some r) ∧ (¬ Accepted dec cv sv → r = rand) := by
  have htot := decrypt_total K P c h32 hk hk16
  have hdec : ∃ dec, decrypt K P c = .ok dec := by
    by_cases hv : PubliclyValid K c
    · obtain ⟨m, hm⟩ := htot.2 hv; exact ⟨some m, hm⟩
    · exact ⟨none, htot.1.mpr hv⟩
  obtain ⟨dec, hd⟩ := hdec
  have hs := substitutePremaster_spec dec rand cv sv
  refine ⟨dec, substitutePremaster dec rand cv sv, hd, by simp [processClientKeyExchange, hd], ?_, hs.1, hs.2⟩
  by_cases ha : Accepted dec cv sv
  · have h1 := hs.1 ha
    obtain ⟨v0, v1, rest, he, hl, _⟩ := ha
    rw [he] at h1 ⊢
    rw [← Option.some.inj h1]; exact hl
  · rw [hs.2 ha]; exact hr

/-- **No dependence on the malformation at the key-exchange level.** Any two ClientKeyExchange
    payloads that are not accepted — for whatever reasons, possibly different ones — give the
    server the same premaster secret (the random substitute), through the same return path. -/
theorem premaster_independent_of_defect (K : Key) (P : Prims) (rand c1 c2 : Bytes) (cv sv : Nat × Nat)
    (h32 : ∀ k m, (P.hmac k m).length = 32) (hk : 11 ≤ K.k) (hk16 : K.k < 65536)
    (hr : rand.length = 48)
    (h1 : ∀ dec, decrypt K P c1 = .ok dec → ¬ Accepted dec cv sv)
    (h2 : ∀ dec, decrypt K P c2 = .ok dec → ¬ Accepted dec cv sv) :
    processClientKeyExchange K P rand cv sv c1 = .ok rand ∧
    processClientKeyExchange K P rand cv sv c2 = .ok rand := by
  obtain ⟨d1, r1, hd1, hp1, _, _, hn1⟩ := premaster_substitution_total K P rand c1 cv sv h32 hk hk16 hr
  obtain ⟨d2, r2, hd2, hp2, _, _, hn2⟩ := premaster_substitution_total K P rand c2 cv sv h32 hk hk16 hr
  rw [hp1, hp2, hn1 (h1 d1 hd1), hn2 (h2 d2 hd2)]
  exact ⟨rfl, rfl⟩

/-! non-vacuity for the substitution: an accepted value (client version, negotiated version),
    and rejected ones (wrong version, 47 and 49 bytes, empty, `None`) -/
def exRand : Bytes := List.replicate 48 0x55
def exPms (a b : UInt8) (n : Nat) : Bytes := a :: b :: List.replicate n 9

example : substitutePremaster (some (exPms 3 3 46)) exRand (3, 3) (3, 1) = exPms 3 3 46 := by decide +kernel
example : substitutePremaster (some (exPms 3 1 46)) exRand (3, 3) (3, 1) = exPms 3 1 46 := by decide +kernel
example : substitutePremaster (some (exPms 3 2 46)) exRand (3, 3) (3, 1) = exRand := by decide +kernel
example : substitutePremaster (some (exPms 3 3 45)) exRand (3, 3) (3, 1) = exRand := by decide +kernel
example : substitutePremaster (some (exPms 3 3 47)) exRand (3, 3) (3, 1) = exRand := by decide +kernel
example : substitutePremaster (some []) exRand (3, 3) (3, 1) = exRand := by decide +kernel
example : substitutePremaster none exRand (3, 3) (3, 1) = exRand := by decide +kernel
example : Accepted (some (exPms 3 3 46)) (3, 3) (3, 1) := ⟨3, 3, List.replicate 46 9, rfl, by decide, Or.inl rfl⟩
example : processClientKeyExchange exKey (exPrims exBadEM) exRand (3, 3) (3, 3) exCipher = .ok exRand ∧
    processClientKeyExchange exKey (exPrims exBadEM2) exRand (3, 3) (3, 3) (0 :: exCipher) = .ok exRand := by
  constructor <;> decide +kernel


/-! ## The regenerated source (Tls.RsaDec.Gen) computes the hand-written model

  `Tls.RsaDec.Gen.*` (TlsModel/Gen/RsaDecrypt.lean) is re-translated on every run from the Python
  AST of tlslite/utils/rsakey.py and tlslite/keyexchange.py of the tree under check by
  translate/gen_rsadecrypt.py, over the Python-runtime model TlsModel/PyInt.lean + PyExc.lean
  (`selfOf K P cache` is the RSAKey object the hand model's key and primitives describe; `fuel`
  bounds the `while` loop of `_dec_prf`).  The theorems `gen_*_eq` prove that what the source says
  now computes the hand model; the corollaries restate the property theorems above about the
  regenerated source text.  An edit of the decryption path changes the generated module and breaks
  the corresponding obligation. -/
section Regenerated
open Tls.Py

/-- `_raw_private_key_op_bytes` as the source has it now, for every key, message and cache state:
    ValueError exactly when the hand model raises, else the same bytes. -/
theorem gen_raw_private_key_op_bytes_eq (K : Key) (P : Prims) (cache : Option Bytes) (fuel : Nat) (msg : Bytes) :
    Gen._raw_private_key_op_bytes fuel (selfOf K P cache) msg = liftR (rawPrivateKeyOpBytes K P msg) := by
  unfold Gen._raw_private_key_op_bytes rawPrivateKeyOpBytes Key.k
  simp only [pyrt, decide_eq_true_eq, ne_eq, ge_iff_le]

/-- `_dec_prf` as the source has it now: for every key/label/output length, HMAC with 32-byte
    output and every loop bound `fuel ≥ out_len / 8` the `while` loop ends within the bound and the
    function returns (or raises ValueError for a length that is not a multiple of 8) what the hand
    model's `decPrf` does. -/
theorem gen_dec_prf_eq (K : Key) (P : Prims) (cache : Option Bytes) (fuel : Nat) (key label : Bytes) (outLen : Nat)
    (h32 : ∀ k m, (P.hmac k m).length = 32) (hf : outLen / 8 ≤ fuel) :
    Gen._dec_prf fuel (selfOf K P cache) key label (outLen : Int) = liftR (decPrf P.hmac key label outLen) := by
  unfold Gen._dec_prf
  simp only [bind, pure, pyrt, decide_eq_true_eq]
  by_cases h8 : outLen % 8 = 0
  · obtain ⟨o, _, ho, hd⟩ := decPrf_fuel P.hmac key label outLen fuel h32 hf h8
    rw [if_neg (fun h => h h8), hd]
    rw [bind_fst _ (fun (o : Bytes) => (Except.ok (List.take (outLen / 8) o) : PyE.M Bytes)), ← Int.natCast_zero,
      whileLoop_prf P.hmac key label outLen (outLen / 8) _ _ (fun _ _ => rfl) (fun out it => ?_) fuel 0 [], ho]
    · rfl
    · rw [numberToByteArray_nat, ok_bind']
      rfl
  · rw [if_pos h8, decPrf, if_pos h8]
    rfl


/-! The ct_* helpers decrypt calls are the regenerated ones of TlsModel/Gen/CT.lean (C12's
    translator); their equalities with the hand model are the ones proved in Props/C12.lean, so a
    change of constanttime.py breaks the C11 obligation together with the C12 one. -/
theorem ct_lt_eq (a b : Nat) : Tls.CT.Gen.ct_lt_u32 a b = some (ctLtU32 a b : Int) := gen_ct_lt_u32_eq a b
theorem ct_lt10_eq (a : Nat) : Tls.CT.Gen.ct_lt_u32 a 10 = some (ctLtU32 a 10 : Int) := ct_lt_eq a 10
theorem ct_lsb16_eq (v : Nat) : Tls.CT.Gen.ct_lsb_prop_u16 v = some (ctLsbPropU16 v : Int) :=
  gen_ct_lsb_prop_u16_eq v
theorem ct_lsb8_eq (v : Nat) : Tls.CT.Gen.ct_lsb_prop_u8 v = some (ctLsbPropU8 v : Int) :=
  gen_ct_lsb_prop_u8_eq v
theorem ct_nz_eq (v : Nat) : Tls.CT.Gen.ct_isnonzero_u32 v = some (ctIsNonZeroU32 v : Int) :=
  gen_ct_isnonzero_u32_eq v
theorem ct_neq_eq (a b : Nat) : Tls.CT.Gen.ct_neq_u32 a b = some (ctNeqU32 a b : Int) := gen_ct_neq_u32_eq a b
-- stated with the literal: the goal has `(2 : Int)`, which is not syntactically `↑(2 : Nat)`, so `rw [ct_neq_eq]` fails there
theorem ct_neq2_eq (a : Nat) : Tls.CT.Gen.ct_neq_u32 a 2 = some (ctNeqU32 a 2 : Int) := ct_neq_eq a 2

/-- **`RSAKey.decrypt` as the source has it now computes the hand model**, for every ciphertext
    (any length, any value), every key with `11 ≤ k < 65536` (k = byte length of the modulus: the
    range in which PKCS#1 v1.5 encryption exists and the 16-bit masks are exact), HMAC with 32-byte
    output, every loop bound `fuel ≥ max 256 k`, and a `_key_hash` cache that is absent, empty or
    holds SHA-256 of the private exponent (what the function itself stores).  Covers: the public
    checks and `try/except ValueError`, the cache, both `_dec_prf` calls, `length_mask`, the loop over
    the 128 candidate lengths, the two `next()` checks, the separator scan, the constant-time
    selection of start and of the returned bytes. -/
theorem gen_decrypt_eq (K : Key) (P : Prims) (cache : Option Bytes) (fuel : Nat) (c : Bytes)
    (h32 : ∀ k m, (P.hmac k m).length = 32) (hk : 11 ≤ K.k) (hk16 : K.k < 65536)
    (hf : 256 ≤ fuel ∧ K.k ≤ fuel)
    (hcache : cache = none ∨ cache = some [] ∨ cache = some (keyHash K P)) :
    Gen.decrypt fuel (selfOf K P cache) c = liftR (decrypt K P c) := by
  unfold Gen.decrypt
  simp only [bind, pure, selfOf_hasPriv, selfOf_keyType, gen_raw_private_key_op_bytes_eq, Bool.not_true, ne_eq,
    not_true_eq_false, decide_false, Bool.false_eq_true, if_false]
  unfold decrypt
  by_cases hv : PubliclyValid K c
  case neg =>
    rw [rawPrivateKeyOpBytes_of_not_valid K P c hv]
    rfl
  · rw [rawPrivateKeyOpBytes_of_valid K P c hv, liftR_ok]
    have hlen := length_em K P c
    generalize em K P c = dec at hlen ⊢
    simp only [PyE.attempt, PyE.getSome, ok_bind', Option.isNone_some, Bool.false_eq_true, if_false]
    -- the `_key_hash` cache: afterwards it holds SHA-256 of the private exponent
    have hself : (if PyE.keyHashMissing (selfOf K P cache) = true then
          Except.bind (PyE.numberToByteArray (selfOf K P cache).d (PyE.numBytes (selfOf K P cache).n)) fun x =>
            Except.pure (PyE.setKeyHash (selfOf K P cache) ((selfOf K P cache).sha256 x))
        else Except.pure (selfOf K P cache)) = (.ok (selfOf K P (some (keyHash K P))) : PyE.M PyE.RsaSelf) := by
      simp only [pyrt]
      have hnew : PyE.setKeyHash (selfOf K P cache) (P.sha256 (beEncode (numBytes K.n) K.d)) =
          selfOf K P (some (keyHash K P)) := rfl
      rw [hnew]
      rcases hcache with rfl | rfl | rfl
      · rfl
      · rfl
      · exact ite_self _
    rw [hself, ok_bind']
    -- one statement at a time: the value it returns, then the rest of the function with that value
    obtain ⟨lr, hlr, _⟩ := decPrf_ok P.hmac (kdk K P c) lengthLabel 256 h32
    obtain ⟨mr, hmr, hmrlen⟩ := decPrf_ok P.hmac (kdk K P c) messageLabel K.k h32
    refine PyE.bindE_eq_of (keyHash K P) rfl (PyE.bindE_eq_of lr ?_ (PyE.bindE_eq_of mr ?_ ?_))
    · rw [show ((128 : Int) * 2 * 8) = ((256 * 8 : Nat) : Int) from rfl,
        gen_dec_prf_eq K P _ fuel _ _ _ h32 (show 256 * 8 / 8 ≤ fuel from hf.1)]
      exact congrArg liftR hlr
    · rw [selfOf_n, numBytes_nat, show ((numBytes K.n : Nat) : Int) * 8 = ((K.k * 8 : Nat) : Int) from (Int.natCast_mul K.k 8).symm,
        gen_dec_prf_eq K P _ fuel _ _ _ h32 (by rw [Nat.mul_div_cancel _ (by decide)]; exact hf.2)]
      exact congrArg liftR hmr
    have ek10 : ((numBytes K.n : Nat) : Int) - 10 = ((K.k - 10 : Nat) : Int) :=
      (Int.natCast_sub (Nat.le_trans (by decide) hk)).symm
    have e256 : 128 * 2 * 8 = 256 * 8 := by decide
    simp only [selfOf_n, numBytes_nat, ek10]
    refine PyE.bindE_eq_of (((1 <<< numBits (K.k - 10) : Nat) : Int)) (by simp only [pyrt]) ?_
    have hsb := synthLen_lt_sub K.k lr hk hk16
    refine PyE.bindE_eq_of ((synthLen (K.k - 10) lr : Nat) : Int) ?_ ?_
    · rw [zipSelf_iterBytes]
      refine forInL_ok (fun hl : UInt8 × UInt8 => ((hl.1.toNat : Int), (hl.2.toNat : Int))) Nat.cast _
        (synthStep (K.k - 10) ((1 <<< numBits (K.k - 10)) - 1)) (fun hl t => ?_) (pairs lr) 0
      simp only [pyrt, ct_lt_eq, ct_lsb16_eq]
      rfl
    obtain ⟨b0, b1, rest, rfl⟩ := exists_cons_cons dec (hlen ▸ Nat.le_trans (by decide) hk)
    refine PyE.bindE_eq_of _ (next_enumFrom 0 b0) (PyE.bindE_eq_of _ (by rw [ct_nz_eq]; rfl)
      (PyE.bindE_eq_of _ (next_enumFrom 1 b1) (PyE.bindE_eq_of _ (by rw [ct_neq2_eq]; rfl) ?_)))
    refine PyE.bindE_eq_of _ (by
      refine forInL_enumFrom _ (fun pos v e ms => ?_) rest 2 _ 0
      simp only [pyrt, ct_lt_eq, ct_nz_eq, ct_lsb16_eq]
      rfl) ?_
    dsimp only
    generalize hsc : scan 2 (0 ||| ctIsNonZeroU32 b0.toNat ||| ctNeqU32 b1.toNat 2) 0 rest = sc
    have esub : ((numBytes K.n : Nat) : Int) - ((synthLen (K.k - 10) lr : Nat) : Int)
        = ((K.k - synthLen (K.k - 10) lr : Nat) : Int) :=
      (Int.natCast_sub (Nat.le_of_lt (Nat.lt_of_lt_of_le hsb (Nat.sub_le _ _)))).symm
    simp only [pyrt, ct_nz_eq, ct_lsb16_eq, ct_lsb8_eq, esub, select_eq]
    simp only [decryptTail, e256, hlr, hmr, bind, Except.bind, hsc]
    rfl


example : Gen.decrypt 300 (selfOf exKey (exPrims exGoodEM) none) exCipher = .ok (some [0xaa, 0xbb, 0xcc, 0xdd, 0xee]) ∧
    Gen.decrypt 300 (selfOf exKey (exPrims exGoodEM) none) (0 :: exCipher) = .ok none :=
  have h := fun c => gen_decrypt_eq exKey (exPrims exGoodEM) none 300 c (exPrims_h32 _) exKey_range.1 exKey_range.2
    (by rw [exKey_k]; decide) (.inl rfl)
  ⟨(h _).trans (congrArg liftR exGoodEM_decrypt),
   (h _).trans (congrArg liftR (decrypt_of_not_valid _ _ _ fun hv => absurd hv.1 (by rw [exKey_k]; decide)))⟩

/-- `RSAKeyExchange.processClientKeyExchange` as the source has it now: decrypt, then the
    `not premasterSecret / len != 48 / version` cascade with the random substitute drawn before it —
    exactly the hand model's `processClientKeyExchange` (whose result is never None). -/
theorem gen_processClientKeyExchange_eq (K : Key) (P : Prims) (cache : Option Bytes) (fuel : Nat) (rand c : Bytes) (cv sv : Nat × Nat)
    (h32 : ∀ k m, (P.hmac k m).length = 32) (hk : 11 ≤ K.k) (hk16 : K.k < 65536)
    (hf : 256 ≤ fuel ∧ K.k ≤ fuel)
    (hcache : cache = none ∨ cache = some [] ∨ cache = some (keyHash K P)) :
    Gen.processClientKeyExchange fuel (kexOf K P cache rand cv sv) c =
      liftR ((processClientKeyExchange K P rand cv sv c).map some) := by
  unfold Gen.processClientKeyExchange processClientKeyExchange
  simp only [bind, pure]
  have hpk : (kexOf K P cache rand cv sv).privateKey = selfOf K P cache := rfl
  rw [hpk, gen_decrypt_eq K P cache fuel c h32 hk hk16 hf hcache]
  cases hd : decrypt K P c with
  | error e => rfl
  | ok dec =>
    rw [liftR_ok, ok_bind']
    match dec with
    | none => rfl
    | some [] => rfl
    | some [_] => rfl
    | some (v0 :: v1 :: rest) =>
      have hl : PyE.lenOpt (some (v0 :: v1 :: rest)) = .ok (((v0 :: v1 :: rest).length : Nat) : Int) := rfl
      have hg0 : PyE.getItemOpt (some (v0 :: v1 :: rest)) 0 = .ok (v0.toNat : Int) := rfl
      have hg1 : PyE.getItemOpt (some (v0 :: v1 :: rest)) ((1 : Nat) : Int) = .ok (v1.toNat : Int) := rfl
      simp only [pyrt, kexOf, PyE.falsyOpt, List.isEmpty_cons, hl, hg0, hg1, Bool.false_eq_true, if_false,
        substitutePremaster, ne_eq, decide_eq_true_eq, Prod.ext_iff, Except.map, apply_ite some,
        apply_ite (Except.ok (ε := PyErr))]

/-- **Totality of the source as it is now.** -/
theorem gen_decrypt_total (K : Key) (P : Prims) (cache : Option Bytes) (fuel : Nat) (c : Bytes)
    (h32 : ∀ k m, (P.hmac k m).length = 32) (hk : 11 ≤ K.k) (hk16 : K.k < 65536)
    (hf : 256 ≤ fuel ∧ K.k ≤ fuel)
    (hcache : cache = none ∨ cache = some [] ∨ cache = some (keyHash K P)) :
    (Gen.decrypt fuel (selfOf K P cache) c = .ok none ↔ ¬ PubliclyValid K c) ∧
    (PubliclyValid K c → ∃ m, Gen.decrypt fuel (selfOf K P cache) c = .ok (some m)) := by
  rw [gen_decrypt_eq K P cache fuel c h32 hk hk16 hf hcache]
  obtain ⟨h1, h2⟩ := decrypt_total K P c h32 hk hk16
  constructor
  · rw [← h1]
    cases decrypt K P c with
    | error e => simp [liftR]
    | ok r => simp [liftR]
  · intro hv
    obtain ⟨m, hm⟩ := h2 hv
    exact ⟨m, by rw [hm]; rfl⟩

/-- **Valid padding gives the message**, for the source as it is now. -/
theorem gen_decrypt_valid (K : Key) (P : Prims) (cache : Option Bytes) (fuel : Nat) (c ps m : Bytes)
    (h32 : ∀ k m, (P.hmac k m).length = 32) (hk : 11 ≤ K.k) (hk16 : K.k < 65536)
    (hf : 256 ≤ fuel ∧ K.k ≤ fuel)
    (hcache : cache = none ∨ cache = some [] ∨ cache = some (keyHash K P))
    (hc : PubliclyValid K c)
    (hem : em K P c = 0 :: 2 :: (ps ++ 0 :: m)) (h8 : 8 ≤ ps.length) (hnz : ∀ b ∈ ps, b ≠ 0) :
    Gen.decrypt fuel (selfOf K P cache) c = .ok (some m) := by
  rw [gen_decrypt_eq K P cache fuel c h32 hk hk16 hf hcache,
    decrypt_valid K P c ps m h32 hk hk16 hc hem h8 hnz]
  rfl

/-- **Uniform implicit rejection**, for the source as it is now: one function of the
    key-derivation key gives the result for every malformed encoded message, whatever the defect. -/
theorem gen_decrypt_invalid_uniform (K : Key) (sha256 : Bytes → Bytes) (hmac : Bytes → Bytes → Bytes)
    (h32 : ∀ k m, (hmac k m).length = 32) (hk : 11 ≤ K.k) (hk16 : K.k < 65536) :
    ∃ g : Bytes → Bytes, (∀ x, (g x).length ≤ K.k - 11) ∧
      ∀ (privInt : Nat → Nat) (c : Bytes) (cache : Option Bytes) (fuel : Nat),
        let P : Prims := { sha256 := sha256, hmac := hmac, privInt := privInt }
        256 ≤ fuel ∧ K.k ≤ fuel → (cache = none ∨ cache = some [] ∨ cache = some (keyHash K P)) →
        PubliclyValid K c → ¬ WellFormedEM (em K P c) →
          Gen.decrypt fuel (selfOf K P cache) c = .ok (some (g (kdk K P c))) := by
  obtain ⟨g, hg, hu⟩ := decrypt_invalid_uniform K sha256 hmac h32 hk hk16
  refine ⟨g, hg, ?_⟩
  intro privInt c cache fuel P hf hcache hv hnw
  rw [gen_decrypt_eq K P cache fuel c h32 hk hk16 hf hcache, hu privInt c hv hnw]
  rfl

/-- **No dependence on the malformation at the key-exchange level**, for the source as it is now:
    two ClientKeyExchange payloads that are not accepted give the random substitute, both. -/
theorem gen_premaster_independent_of_defect (K : Key) (P : Prims) (cache : Option Bytes) (fuel : Nat)
    (rand c1 c2 : Bytes) (cv sv : Nat × Nat)
    (h32 : ∀ k m, (P.hmac k m).length = 32) (hk : 11 ≤ K.k) (hk16 : K.k < 65536)
    (hf : 256 ≤ fuel ∧ K.k ≤ fuel)
    (hcache : cache = none ∨ cache = some [] ∨ cache = some (keyHash K P))
    (hr : rand.length = 48)
    (h1 : ∀ dec, decrypt K P c1 = .ok dec → ¬ Accepted dec cv sv)
    (h2 : ∀ dec, decrypt K P c2 = .ok dec → ¬ Accepted dec cv sv) :
    Gen.processClientKeyExchange fuel (kexOf K P cache rand cv sv) c1 = .ok (some rand) ∧
    Gen.processClientKeyExchange fuel (kexOf K P cache rand cv sv) c2 = .ok (some rand) := by
  obtain ⟨e1, e2⟩ := premaster_independent_of_defect K P rand c1 c2 cv sv h32 hk hk16 hr h1 h2
  rw [gen_processClientKeyExchange_eq K P cache fuel rand c1 cv sv h32 hk hk16 hf hcache,
    gen_processClientKeyExchange_eq K P cache fuel rand c2 cv sv h32 hk hk16 hf hcache, e1, e2]
  exact ⟨rfl, rfl⟩

example : Gen.processClientKeyExchange 300 (kexOf exKey (exPrims exBadEM) none exRand (3, 3) (3, 3)) exCipher
    = .ok (some exRand) := by decide +kernel

/-- the translator understood every statement of the four functions (no poison was emitted) -/
theorem gen_translation_complete :
    Gen.translatorProblems = [] ∧ Gen.translated.all (fun x => x.2) = true ∧ Gen.translated.length = 4 := by
  decide

end Regenerated

/-! ## cryptomath.py / compat.py as the source has them now

  `PyE.numBits`, `numBytes`, `bytesToNumber`, `numberToByteArray` — what the regenerated decryption path
  above calls — are not assumptions: translate/gen_cryptomath.py regenerates cryptomath.py and compat.py
  (TlsModel/Gen/Cryptomath.lean; `int.bit_length`, `int.to_bytes`, `int.from_bytes`, `divmod` are the
  runtime primitives) and the theorems below prove the regenerated functions equal to those definitions
  for every argument.  What remains a parameter of the C11 theorems: `secureHash`, `secureHMAC`,
  `getRandomBytes`, `_rawPrivateKeyOp` (pow). -/
section Cryptomath
open Tls.PyE Tls.Cryptomath

theorem gen_numBits_eq (x : Int) : Gen.numBits x = .ok (PyE.numBits x) :=
  Cryptomath.Gen.numBits_eq x

theorem gen_numBytes_eq (x : Int) : Gen.numBytes x = .ok (PyE.numBytes x) :=
  Cryptomath.Gen.numBytes_eq x

theorem gen_bytesToNumber_eq (b : Bytes) :
    Gen.bytesToNumber b "big" = .ok (PyE.bytesToNumber b) ∧
    Gen.bytesToNumber b "little" = .ok (PyE.bytesToNumber b.reverse) :=
  Cryptomath.Gen.bytesToNumber_eq b

theorem gen_int_to_bytes_eq (x k : Int) (order : String) :
    Gen.int_to_bytes x (some k) order = PyE.intToBytes x k order :=
  Cryptomath.Gen.int_to_bytes_eq x k order

theorem gen_int_to_bytes_none (x : Int) (order : String) :
    Gen.int_to_bytes x none order = PyE.intToBytes x (if x ≠ 0 then PyE.numBytes x else 1) order :=
  Cryptomath.Gen.int_to_bytes_none x order

theorem gen_numberToByteArray_eq (x k : Int) :
    Gen.numberToByteArray x (some k) "big" = PyE.numberToByteArray x k :=
  Cryptomath.Gen.numberToByteArray_eq x k

theorem gen_numberToByteArray_none (n : Nat) :
    Gen.numberToByteArray (n : Int) none "big" =
      .ok (beEncode (if n ≠ 0 then Tls.RsaDec.numBytes n else 1) n) :=
  Cryptomath.Gen.numberToByteArray_none n

theorem gen_divceil_eq (a b : Nat) (hb : 0 < b) :
    Gen.divceil (a : Int) (b : Int) = .ok ((a / b + (if a % b = 0 then 0 else 1) : Nat) : Int) :=
  Cryptomath.Gen.divceil_eq a b hb

/-- the translator understood every statement of the cryptomath/compat functions -/
theorem gen_cryptomath_translation_complete :
    Cryptomath.Gen.translatorProblems = [] ∧ Cryptomath.Gen.translated.all (fun x => x.2) = true ∧
      Cryptomath.Gen.translated.length = 8 := by
  decide

end Cryptomath

end Tls.RsaDec

/-! ## The server's wire behaviour after ClientKeyExchange (model: TlsModel/RsaServer.lean) -/
namespace Tls.RsaServer
open Tls.RsaDec

/-- **Server wire behaviour is independent of the defect.** For any two ClientKeyExchange
    payloads that are both not accepted (whatever the reasons: padding, length, version bytes,
    `c ≥ n`, wrong ciphertext length) and any continuation of the client's flight, the server's
    emitted records and the way its handshake ends are the same value: the one determined by the
    public inputs and the random substitute alone. -/
theorem server_wire_independent_of_defect (K : Key) (P : Prims) (S : SrvPrims) (E : SrvEnv)
    (rand c1 c2 : Bytes) (cv : Nat × Nat) (inc : List WireRec)
    (h32 : ∀ k m, (P.hmac k m).length = 32) (hk : 11 ≤ K.k) (hk16 : K.k < 65536)
    (hr : rand.length = 48)
    (h1 : ∀ dec, decrypt K P c1 = .ok dec → ¬ Accepted dec cv E.version)
    (h2 : ∀ dec, decrypt K P c2 = .ok dec → ¬ Accepted dec cv E.version) :
    serverRun K P S E rand cv c1 inc = serverAfterCKE S E rand inc ∧
    serverRun K P S E rand cv c2 inc = serverAfterCKE S E rand inc := by
  obtain ⟨e1, e2⟩ := premaster_independent_of_defect K P rand c1 c2 cv E.version h32 hk hk16 hr h1 h2
  unfold serverRun
  rw [e1, e2]
  exact ⟨rfl, rfl⟩

/-- **The rejected and the valid run differ only from the Finished check on.** Outside
    SSLv3-with-client-certificate, for every continuation of the client's flight: either the run
    ends before the Finished step with a result that does not depend on the premaster at all
    (so it is the same for the valid premaster and for the random substitute), or every premaster
    reaches the Finished step in the same state and everything the server writes is written after
    the client's Finished record has been consumed. -/
theorem server_differs_from_valid_only_at_finished (S : SrvPrims) (E : SrvEnv) (inc : List WireRec)
    (hne : ¬ (E.version = (3, 0) ∧ E.hasClientCert = true)) :
    (∃ r, ∀ pms, serverAfterCKE S E pms inc = r) ∨
    (∃ M, M.consumed + 1 = finishedIndex E ∧
      ∀ pms, serverAfterCKE S E pms inc = finishedStep S E pms M ∧
        ∀ e ∈ (serverAfterCKE S E pms inc).trace, e.consumed = finishedIndex E) := by
  have hind : ∀ pms, certVerifyStep S E pms inc = certVerifyStep S E [] inc :=
    fun pms => certVerifyStep_indep S E pms [] inc hne
  cases hcv : certVerifyStep S E [] inc with
  | error r =>
    left; refine ⟨r, fun pms => ?_⟩
    unfold serverAfterCKE; rw [hind pms, hcv]
  | ok M1 =>
    have hM1 := certVerifyStep_consumed S E [] inc M1 hcv
    cases hccs : ccsStep S M1 with
    | error r =>
      left; refine ⟨r, fun pms => ?_⟩
      unfold serverAfterCKE; rw [hind pms, hcv]; simp only [hccs]
    | ok M2 =>
      have hM2 := ccsStep_consumed S M1 M2 hccs
      right
      refine ⟨M2, by unfold finishedIndex; omega, fun pms => ?_⟩
      have hrun : serverAfterCKE S E pms inc = finishedStep S E pms M2 := by
        unfold serverAfterCKE; rw [hind pms, hcv]; simp only [hccs]
      refine ⟨hrun, fun e he => ?_⟩
      rw [hrun] at he
      have := finishedStep_consumed S E pms M2 e he
      unfold finishedIndex; omega

/-- **No early alert.** Outside SSLv3-with-client-certificate: if the server writes anything
    (in particular an alert) before the client's Finished record has been consumed, then the
    whole run is one that does not depend on the premaster — it would have been the same for a
    valid ClientKeyExchange.  A rejected premaster therefore never causes an alert before the
    client's Finished is read. -/
theorem no_early_alert (S : SrvPrims) (E : SrvEnv) (inc : List WireRec) (pms : Bytes) (e : Emit)
    (hne : ¬ (E.version = (3, 0) ∧ E.hasClientCert = true))
    (he : e ∈ (serverAfterCKE S E pms inc).trace) (hearly : e.consumed < finishedIndex E) :
    ∀ pms', serverAfterCKE S E pms' inc = serverAfterCKE S E pms inc := by
  rcases server_differs_from_valid_only_at_finished S E inc hne with ⟨r, hr⟩ | ⟨M, _, hM⟩
  · intro pms'; rw [hr pms', hr pms]
  · have := (hM pms).2 e he
    omega

/-- **The alert the code sends.** When the Finished step is reached and the record layer rejects
    the client's Finished record under the keys the server derived (which is what happens when
    the premaster was replaced), the server writes exactly one fatal alert — the one the record
    layer exception maps to (bad_record_mac for a MAC / padding / tag failure) — and stops. -/
theorem finished_record_failure (S : SrvPrims) (E : SrvEnv) (pms : Bytes) (M : Mid) (r : WireRec)
    (rest : List WireRec) (x : RecErr) (hM : M.rest = r :: rest)
    (herr : S.recv (some (keyBlock S E pms)) r = .error x) :
    finishedStep S E pms M = sendError x.alert (M.consumed + 1) := by
  unfold finishedStep
  simp only [getMsg, hM, herr]

/-! non-vacuity on the symbolic instance: TLS 1.2, no client certificate, honest client flight
    for premaster `exPmsC`; the server holding the same premaster completes, the server holding
    the substitute writes one bad_record_mac alert after the client's Finished; SSLv3 with a client
    certificate (excluded above) fails at CertificateVerify with decrypt_error instead. -/
def exEnv (v : Nat × Nat) (cert : Bool) : SrvEnv :=
  { version := v, ems := true, hasClientCert := cert, clientRandom := [1, 2], serverRandom := [3, 4],
    transcript := [[1, 0], [16, 9]], keyLen := 104, consumed := 2 }
def exPmsC : Bytes := 3 :: 3 :: List.replicate 46 7

example : serverAfterCKE symPrims (exEnv (3, 3) false) exPmsC (symClientFlight (exEnv (3, 3) false) exPmsC 1) =
    { trace := [{ ctype := 20, encrypted := false, plainLen := 1, alert := none, consumed := 4 },
                { ctype := 22, encrypted := true, plainLen := 16, alert := none, consumed := 4 }],
      outcome := .done } := by decide +kernel
example : serverAfterCKE symPrims (exEnv (3, 3) false) exRand (symClientFlight (exEnv (3, 3) false) exPmsC 1) =
    sendError 20 4 := by decide +kernel
example : finishedIndex (exEnv (3, 3) false) = 4 := by decide
example : serverAfterCKE symPrims (exEnv (3, 3) true) exRand (symClientFlight (exEnv (3, 3) true) exPmsC 1) =
    sendError 20 5 := by decide +kernel
example : serverAfterCKE symPrims (exEnv (3, 0) true) exRand (symClientFlight (exEnv (3, 0) true) exPmsC 1) =
    sendError 51 3 ∧ finishedIndex (exEnv (3, 0) true) = 5 := by decide +kernel
example : serverAfterCKE symPrims (exEnv (3, 1) false) exPmsC (symClientFlight (exEnv (3, 1) false) exPmsC 2) =
    sendError 47 3 ∧
    serverAfterCKE symPrims (exEnv (3, 1) false) exRand (symClientFlight (exEnv (3, 1) false) exPmsC 2) =
    sendError 47 3 := by decide +kernel

end Tls.RsaServer
