import TlsProofs.TranscriptFlows
import TlsProofs.TranscriptHrr
import TlsProofs.TranscriptGen
import TlsModel.TranscriptKeys
/-
  C04 — tampering with the handshake in flight cannot yield two endpoints that disagree.

  The endpoints of `TlsModel/Transcript.lean` run a flow script each, against deliveries chosen
  freely by the attacker (`inC`, `inS` are arbitrary lists: any replacement, drop, insertion or
  reordering of messages in either direction is a choice of these lists).  Message bodies, the
  Finished keys and all semantic checks are arbitrary functions of the local history (`Beh`).
  The cryptographic functions are parameters of which nothing is assumed; what would be a
  probabilistic security claim appears as the named events `HashCollision` / `FinishedForgery`.
-/
namespace Tls.Transcript

/-- The byte stream that is hashed determines the message list: handshake messages are
    self-delimiting (type, 3-byte length, body). -/
theorem transcript_encoding_injective (a b : List Msg)
    (ha : ∀ m ∈ a, m.WF) (hb : ∀ m ∈ b, m.WF) (h : encAll a = encAll b) : a = b :=
  encAll_inj ha hb h

example : encAll [⟨1, [7, 7]⟩, ⟨2, []⟩] = [1, 0, 0, 2, 7, 7, 2, 0, 0, 0] := by decide +kernel
/- without the length field the claim would be false: -/
example : ([1, 2] : Bytes) ++ [3] = [1] ++ [2, 3] := rfl

/-- If both endpoints accept the peer's Finished and reach the end of their flow — whatever the
    attacker delivered, and even if the two endpoints followed different flows or saw different
    optional messages — then their transcripts are equal and they hold the same Finished keys, or
    two different transcripts had the same digest, or a verify_data was accepted that the holder of
    the key never computed for that input. -/
theorem both_complete_transcripts_equal_or_bad_event (P : Prims) (fc fs : Flow) (oc os : Opts)
    (Bc Bs : Beh) (inC inS : List Wire) (c s : EP)
    (hc : runSide P .client Bc (flowScript fc oc) inC = .ok c)
    (hs : runSide P .server Bs (flowScript fs os) inS = .ok s) :
    (c.tr = s.tr ∧ finKeysAgree c s) ∨ HashCollision P c s ∨ FinishedForgery c s :=
  both_complete_of_twoFins (flowScript_twoFins fc oc) (flowScript_twoFins fs os) hc hs

/-! non-vacuity: a concrete TLS 1.3 PSK run with an "identity hash" completes on both sides -/
def exPrims : Prims := { inner := fun _ _ t => t, outer := fun k _ d => k ++ d, H := fun x => x }
def exBeh : Beh := { produce := fun k _ => [k.htype, 9], secret := fun _ => [5], check := fun _ _ _ => true }
def exCH : Msg := ⟨1, [1, 9]⟩
def exSH : Msg := ⟨2, [2, 9]⟩
def exEE : Msg := ⟨8, [8, 9]⟩
def exSFin : Msg := ⟨20, [5] ++ encAll [exCH, exSH, exEE]⟩
def exCFin : Msg := ⟨20, [5] ++ encAll [exCH, exSH, exEE, exSFin]⟩

example :
    (runSide exPrims .client exBeh (flowScript .psk13 {}) [.hs exSH, .hs exEE, .hs exSFin]).toOption.map (·.tr)
      = some [exCH, exSH, exEE, exSFin, exCFin] ∧
    (runSide exPrims .server exBeh (flowScript .psk13 {}) [.hs exCH, .hs exCFin]).toOption.map (·.tr)
      = some [exCH, exSH, exEE, exSFin, exCFin] := by decide +kernel
/- and a modified ServerHello makes the client stop at the server's Finished -/
example :
    (runSide exPrims .client exBeh (flowScript .psk13 {}) [.hs ⟨2, [2, 8]⟩, .hs exEE, .hs exSFin]).toOption.isNone
      = true := by decide +kernel

/-- Every view that is a function of the transcript — in particular the negotiated ServerHello
    parameters, both hellos, EncryptedExtensions and certificates — and the Finished keys coincide
    when both complete and no bad event occurred. -/
theorem complete_views_equal (P : Prims) (fc fs : Flow) (oc os : Opts)
    (Bc Bs : Beh) (inC inS : List Wire) (c s : EP)
    (hc : runSide P .client Bc (flowScript fc oc) inC = .ok c)
    (hs : runSide P .server Bs (flowScript fs os) inS = .ok s)
    (hcol : ¬ HashCollision P c s) (hforge : ¬ FinishedForgery c s) :
    negotiated c.tr = negotiated s.tr ∧ finKeysAgree c s ∧
    ∀ {α : Type} (view : List Msg → α), view c.tr = view s.tr := by
  rcases both_complete_transcripts_equal_or_bad_event P fc fs oc os Bc Bs inC inS c s hc hs with ⟨htr, hk⟩ | h | h
  · exact ⟨by rw [htr], hk, fun view => by rw [htr]⟩
  · exact absurd h hcol
  · exact absurd h hforge

example : (negotiated [⟨1, [3, 3]⟩, ⟨2, [3, 3] ++ List.replicate 32 0 ++ [0, 0xc0, 0x2f, 0]⟩]).serverHello
    = some { legacyVersion := (3, 3), random := List.replicate 32 0, sessionId := [],
             suite := 0xc02f, compression := 0, extensions := [] } := by decide +kernel

/-- Downgrade sentinel, all version pairs SSLv3 … TLS 1.3: if both sides allow TLS 1.2 or
    higher and the ServerHello ends up below the highest common version, then with the server's
    honest random (whatever `getRandomBytes` produced) the client's check aborts with
    illegal_parameter. -/
theorem no_downgrade_tls12plus (cmax smax v : Version) (rnd8 : Bytes)
    (hc : cmax ∈ knownVersions) (hs : smax ∈ knownVersions) (hv : v ∈ knownVersions)
    (hc12 : vle (3, 3) cmax = true) (hs12 : vle (3, 3) smax = true)
    (hlt : vlt v (vmin cmax smax) = true) :
    clientChecksSentinel cmax v (serverRandomTail smax v rnd8) = .abort .illegalParameter := by
  simp only [knownVersions, List.mem_cons, List.not_mem_nil, or_false] at hc hs hv
  -- four pairs of maxima remain, and below their minimum a sentinel is written whatever `rnd8`
  rcases hc with rfl | rfl | rfl | rfl | rfl <;> try cases hc12
  all_goals rcases hs with rfl | rfl | rfl | rfl | rfl <;> try cases hs12
  all_goals rcases hv with rfl | rfl | rfl | rfl | rfl <;> try cases hlt
  all_goals rfl

example : vle (3, 3) (3, 4) = true ∧ vlt (3, 2) (vmin (3, 4) (3, 3)) = true := by decide +kernel

/-- The sentinel never fires on an honest negotiation at the highest common version unless the
    random bytes happen to spell a sentinel. -/
theorem sentinel_no_false_alarm (cmax smax : Version) (rnd8 : Bytes)
    (hc : cmax ∈ knownVersions) (hs : smax ∈ knownVersions)
    (hr : rnd8 ≠ sentinel11 ∧ rnd8 ≠ sentinel12) :
    clientChecksSentinel cmax (vmin cmax smax) (serverRandomTail smax (vmin cmax smax) rnd8) = .proceed := by
  have quiet (c v : Version) : clientChecksSentinel c v rnd8 = .proceed := by
    simp [clientChecksSentinel, hr.1, hr.2]
  simp only [knownVersions, List.mem_cons, List.not_mem_nil, or_false] at hc hs
  -- either the server leaves `rnd8` in place, or the client's version guard is off
  rcases hc with rfl | rfl | rfl | rfl | rfl <;> rcases hs with rfl | rfl | rfl | rfl | rfl <;>
    first | rfl | exact quiet _ _

/-- FALLBACK_SCSV: a client retrying with a lower maximum version (it then appends the SCSV) is
    refused with inappropriate_fallback by every server whose maximum is higher; and the SCSV
    alone never makes a server refuse a client at the server's own maximum. -/
theorem fallback_scsv_enforced (smin smax cmax' : Version) (sversions cversions : List Version)
    (suites : List Nat)
    (hs : smax ∈ knownVersions) (hc : cmax' ∈ knownVersions)
    (hcv : ∀ v ∈ cversions, vle v cmax' = true) :
    (vlt cmax' smax = true →
      ∃ v, serverSelectVersion sversions smin smax (clientOffer cmax' cversions).1 (clientOffer cmax' cversions).2 = .ok v ∧
        serverChecksScsv smax v (clientWireSuites suites true) = .abort .inappropriateFallback) ∧
    (∀ v, serverChecksScsv smax v (clientWireSuites suites true) = .proceed → vlt v smax = false) ∧
    (fallbackScsv ∉ suites → ∀ v, serverChecksScsv smax v (clientWireSuites suites false) = .proceed) := by
  have scsv : (clientWireSuites suites true).contains fallbackScsv = true := by simp [clientWireSuites]
  refine ⟨?_, ?_, ?_⟩
  · intro hlt
    -- below a known server maximum the client's maximum is at most TLS 1.2, and the version the
    -- server takes from the hello's legacy version is the client's maximum
    have known : ∀ s ∈ knownVersions, ∀ c ∈ knownVersions, vlt c s = true → vle c (3, 3) = true ∧
        (if vlt s (vmin c (3, 3)) then vmin s (3, 3) else vmin (vmin c (3, 3)) (3, 3)) = c := by
      decide +kernel
    obtain ⟨h33, hsel⟩ := known smax hs cmax' hc hlt
    have hno13 : cversions.any (fun v => vlt (3, 3) v) = false :=
      List.any_eq_false.mpr fun v hv => by rw [vlt_false_of_vle_of_vle (hcv v hv) h33]; decide
    refine ⟨cmax', ?_, ?_⟩
    · simp only [clientOffer, hno13, serverSelectVersion, hsel]; rfl
    · simp only [serverChecksScsv, hlt, scsv]; rfl
  · intro v h
    cases hvl : vlt v smax with
    | false => rfl
    | true => rw [serverChecksScsv, hvl, scsv] at h; cases h
  · intro hn v
    simp [serverChecksScsv, clientWireSuites, hn]

/-- … and this holds whatever the resumption lookup would return: the SCSV test comes before
    the server's resumption decision, so a fallback retry that offers a cached session or a ticket
    is refused exactly like one that does not; no abbreviated handshake is started. -/
theorem fallback_scsv_enforced_before_resumption (smin smax cmax' : Version)
    (sversions cversions : List Version) (suites : List Nat) (sessionFound : Bool)
    (hs : smax ∈ knownVersions) (hc : cmax' ∈ knownVersions)
    (hcv : ∀ v ∈ cversions, vle v cmax' = true) (hlt : vlt cmax' smax = true) :
    serverAfterHello sversions smin smax (clientOffer cmax' cversions).1 (clientOffer cmax' cversions).2
        (clientWireSuites suites true) sessionFound = .error .inappropriateFallback := by
  obtain ⟨v, hv, ha⟩ := (fallback_scsv_enforced smin smax cmax' sversions cversions suites hs hc hcv).1 hlt
  simp only [serverAfterHello, hv, ha]

example : (serverAfterHello [(3, 3), (3, 2), (3, 1)] (3, 1) (3, 3) (3, 2) none (clientWireSuites [0x2f] true) true).toOption
      = none ∧
    (serverAfterHello [(3, 3), (3, 2), (3, 1)] (3, 1) (3, 3) (3, 3) none (clientWireSuites [0x2f] true) true).toOption
      = some ((3, 3), .abbreviated) := by decide +kernel

example : (serverSelectVersion [(3, 4), (3, 3), (3, 2), (3, 1)] (3, 1) (3, 4) (3, 3) none).toOption = some (3, 3) ∧
    serverChecksScsv (3, 4) (3, 3) (clientWireSuites [0x2f] true) = .abort .inappropriateFallback := by
  decide +kernel

/-- HelloRetryRequest flows: when both complete without a bad event, they also agree on the
    first ClientHello, which enters the restarted transcript only through its digest in the
    synthetic `message_hash` message at the head of the transcript. -/
theorem hrr_transcript_binds_first_hello (P : Prims) (fc fs : Flow) (oc os : Opts)
    (Bc Bs : Beh) (inC inS : List Wire) (c s : EP)
    (hfc : isHrrFlow fc = true) (hfs : isHrrFlow fs = true)
    (hc : runSide P .client Bc (flowScript fc oc) inC = .ok c)
    (hs : runSide P .server Bs (flowScript fs os) inS = .ok s) :
    (c.tr = s.tr ∧ c.pre = s.pre ∧
      ∃ ch1 rest, c.pre = [ch1] ∧ ch1.htype = Kind.clientHello.htype ∧
        c.tr = ⟨Kind.messageHash.htype, P.H (encAll [ch1])⟩ :: rest) ∨
    HashCollision P c s ∨ FinishedForgery c s := by
  rcases both_complete_transcripts_equal_or_bad_event P fc fs oc os Bc Bs inC inS c s hc hs with ⟨htr, _⟩ | h | h
  · obtain ⟨m1, r1, hp1, ht1, hw1, htr1⟩ := hrr_run_shape hfc hc
    obtain ⟨m2, r2, hp2, _, hw2, htr2⟩ := hrr_run_shape hfs hs
    rw [htr1, htr2] at htr
    simp only [List.cons.injEq, Msg.mk.injEq, true_and] at htr
    by_cases hpre : encAll c.pre = encAll s.pre
    · left
      have hm : m1 = m2 := by
        rw [hp1, hp2] at hpre
        exact (enc_append_inj hw1 hw2 hpre).1
      refine ⟨by rw [htr1, htr2, htr.1, htr.2], by rw [hp1, hp2, hm], m1, r1, hp1, ht1, htr1⟩
    · right; left; right
      refine ⟨hpre, ?_⟩
      rw [hp1, hp2]; exact htr.1
  · exact Or.inr (Or.inl h)
  · exact Or.inr (Or.inr h)

example : isHrrFlow .hrr13 = true ∧
    shapeOf (flowScript .hrr13 {}) [] = [254, 2, 1, 2, 8, 11, 15, 20, 20] := by decide +kernel

/-- The server's comparison of the second ClientHello with the first (after HelloRetryRequest):
    when it passes, the second hello has the same version, random, session id, cipher suites,
    compression methods and — in the same order, with the same payloads — the same extensions as
    the first, apart from key_share, cookie, padding, pre_shared_key and early_data.
    `pskLast` is the guard the server applied to the first hello ("PSK extension not last"). -/
theorem hrr_second_hello_consistent (ch1 ch2 : Hello) (groups : List Nat) (sel : Nat) (cookie : Bytes)
    (hpsk : pskLast ch1.exts) (h : hrrConsistent ch1 ch2 groups sel cookie = .ok ()) :
    ch2.version = ch1.version ∧ ch2.random = ch1.random ∧ ch2.sessionId = ch1.sessionId ∧
    ch2.suites = ch1.suites ∧ ch2.compression = ch1.compression ∧
    ch2.exts.filter (fun e => !hrrMutable e.typ) = ch1.exts.filter (fun e => !hrrMutable e.typ) :=
  hrrConsistent_sound ch1 ch2 groups sel cookie hpsk h

def exHello1 : Hello :=
  { version := (3, 3), random := [1, 2], sessionId := [9], suites := [0x1301], compression := [0],
    exts := [⟨43, [2, 3, 4]⟩, ⟨51, [0, 29, 1]⟩, ⟨16, [5]⟩] }
def exHello2 : Hello :=
  { exHello1 with exts := [⟨43, [2, 3, 4]⟩, ⟨51, [0, 23, 7]⟩, ⟨44, [0xaa]⟩, ⟨16, [5]⟩] }

example : (hrrConsistent exHello1 exHello2 [23] 23 [0xaa]).toOption = some () := by decide +kernel
/- a changed ALPN payload (or any other fixed extension) is refused -/
example : (hrrConsistent exHello1
    { exHello2 with exts := [⟨43, [2, 3, 4]⟩, ⟨51, [0, 23, 7]⟩, ⟨44, [0xaa]⟩, ⟨16, [6]⟩] } [23] 23 [0xaa]).toOption
      = none := by decide +kernel

/-- PSK binders: the binder is computed over everything hashed before the ClientHello plus the
    ClientHello cut exactly before the binder list.  If the server's `verify_binder` accepts the
    binder at `position` and the client computed that binder over its own hello with its own PSK,
    then both hold the same binder key and the same truncated hello (and prefix), or there is a
    hash collision, or the accepted binder is a forgery (valid under a key/input the client never
    used).  The truncation removes only the binder list: the hello is its truncation followed by
    `encBinders`. -/
theorem binder_covers_truncated_hello (Q : BinderPrims) (pskS pskC : Bytes) (ext : Bool)
    (preS preC chS chC : Bytes) (bindersS bindersC : List Bytes) (position : Nat) (b : Bytes)
    (hacc : verifyBinder Q pskS ext preS chS bindersS position = some true)
    (hb : bindersS[position]? = some b)
    (hcomp : b = binderValue Q pskC ext preC chC bindersC) :
    (Q.bkey pskS ext = Q.bkey pskC ext ∧ preS ++ pskTruncate chS bindersS = preC ++ pskTruncate chC bindersC) ∨
    -- hash collision
    (preS ++ pskTruncate chS bindersS ≠ preC ++ pskTruncate chC bindersC ∧
      Q.H (preS ++ pskTruncate chS bindersS) = Q.H (preC ++ pskTruncate chC bindersC)) ∨
    -- forgery: the accepted tag, computed by the client for its own (key, digest), is also valid
    -- for the different (key, digest) of the server
    ((Q.bkey pskS ext, Q.H (preS ++ pskTruncate chS bindersS)) ≠
       (Q.bkey pskC ext, Q.H (preC ++ pskTruncate chC bindersC)) ∧
      Q.mac (Q.bkey pskS ext) (Q.H (preS ++ pskTruncate chS bindersS)) =
        Q.mac (Q.bkey pskC ext) (Q.H (preC ++ pskTruncate chC bindersC))) := by
  have hv : b = binderValue Q pskS ext preS chS bindersS := by
    simpa [verifyBinder, hb] using hacc
  by_cases hin : (Q.bkey pskS ext, Q.H (preS ++ pskTruncate chS bindersS)) =
      (Q.bkey pskC ext, Q.H (preC ++ pskTruncate chC bindersC))
  · simp only [Prod.mk.injEq] at hin
    by_cases ht : preS ++ pskTruncate chS bindersS = preC ++ pskTruncate chC bindersC
    · exact Or.inl ⟨hin.1, ht⟩
    · exact Or.inr (Or.inl ⟨ht, hin.2⟩)
  · exact Or.inr (Or.inr ⟨hin, hv.symm.trans hcomp⟩)

/-- what `psk_truncate` cuts off is exactly the serialised binder list -/
theorem truncate_append_binders (body : Bytes) (binders : List Bytes) :
    pskTruncate (body ++ encBinders binders) binders = body := by
  have hlen : (encBinders binders).length = bindersLen binders := by
    simp only [encBinders, bindersLen, List.length_append, List.length_cons, List.length_nil,
      List.length_flatMap]
    exact Nat.add_comm _ _
  unfold pskTruncate
  rw [List.length_append, hlen, Nat.add_sub_cancel, List.take_left' rfl]

example : pskTruncate ([1, 2, 3] ++ encBinders [[7, 7], [8]]) [[7, 7], [8]] = [1, 2, 3] := by decide +kernel

/-! ## the regenerated tables (translate/gen_transcript.py reads them from the source on every run)

The theorems below tie `TlsModel/Gen/Transcript.lean` to the hand-written model.  An edit of the
sentinel / SCSV conditions, of what the record layer hashes, of the transcript a Derive-Secret /
Finished / CertificateVerify uses, or of the <= 1.2 labels and EMS snapshot makes one of them false (a shape the translator does not understand evaluates to
`none` / an unknown kind and fails as well). -/
open GenBase Keys

/-- the server's sentinel writes, as read from the source, compute `serverRandomTail` -/
theorem generated_sentinel_write_is_model (smax v : Version) (rnd : Bytes)
    (hs : smax ∈ knownVersions) (hv : v ∈ knownVersions) :
    applyWrites { version := v, maxVersion := smax } Gen.sentinelWrites rnd
      = some (serverRandomTail smax v rnd) :=
  sentinelWrites_eq_model smax v rnd

/-- the client's sentinel checks, as read from the source, compute `clientChecksSentinel`; the
    constants are used nowhere else -/
theorem generated_sentinel_check_is_model (cmax v : Version) (tail : Bytes)
    (hc : cmax ∈ knownVersions) (hv : v ∈ knownVersions) :
    firstAlert { selfVersion := v, maxVersion := cmax, tail := tail } Gen.sentinelChecks
      = some (verdictAlert (clientChecksSentinel cmax v tail)) ∧ Gen.sentinelMentions = 5 :=
  ⟨sentinelChecks_eq_model cmax v tail, rfl⟩

/-- the single FALLBACK_SCSV test of the server is `serverChecksScsv`, stands before the resumption
    block, the client appends the SCSV exactly under `settings.sendFallbackSCSV`, and every
    ClientHello it builds (with or without an offered session) carries that list -/
theorem generated_scsv_check_is_model :
    Gen.scsvBeforeResumption = true ∧ Gen.scsvMentions = 2 ∧
    Gen.scsvAppend = [(.flag "sendFallbackSCSV", "wireCipherSuites")] ∧
    (∀ a ∈ Gen.clientHelloSuites, a = "wireCipherSuites") ∧
    ∀ smax ∈ knownVersions, ∀ v ∈ knownVersions, ∀ scsv : Bool,
      firstAlert { version := v, maxVersion := smax, scsv := scsv } Gen.scsvChecks
        = some (verdictAlert (serverChecksScsv smax v (if scsv then [fallbackScsv] else []))) :=
  ⟨rfl, rfl, rfl, by decide +kernel, fun smax _ v _ => scsvChecks_eq_model smax v⟩

/-- what enters `_handshake_hash`: every handshake message sent (`msg.write()`), queued or received
    (raw `p.bytes`), unconditionally; nothing else; the two HRR restarts feed `message_hash` -/
theorem generated_hash_sites_are_model :
    Gen.hashSites = [("_sendMsg", "buf", .and (.flag "updateHashes") (.flag "isHandshake")),
                     ("_queue_message", "serialised_msg", .flag "isHandshake"),
                     ("_getMsg", "p.bytes", .flag "always")] ∧
    Gen.otherHashUpdates = [] ∧
    ("buf", "msg.write()") ∈ Gen.hashedVarDefs ∧ ("serialised_msg", "msg.write()") ∈ Gen.hashedVarDefs ∧
    Gen.restartSites =
      [("_clientGetServerHello", "inline",
        ["writer.add(HandshakeType.message_hash, 1)", "writer.addVarSeq(client_hello_hash.digest(prf_name), 1, 3)",
         "self._handshake_hash.update(writer.bytes)", "self._handshake_hash.update(hello_retry.write())"]),
       ("_serverGetClientHello", "self._handshake_hash.digest(prf_name)",
        ["writer.add(HandshakeType.message_hash, 1)", "writer.addVarSeq(client_hello_hash, 1, 3)",
         "self._handshake_hash.update(writer.bytes)"])] :=
  ⟨rfl, rfl, by decide +kernel, by decide +kernel, rfl⟩

def flows13 : List Flow := [.full13, .hrr13, .psk13, .pskHrr13]

/-- For every TLS 1.3 flow and option set: running the source-ordered message calls of
    `_clientTLS13Handshake` / `_serverTLS13Handshake` against the flow, each Derive-Secret, Finished
    digest, CertificateVerify context and the `_first_handshake_hashes` snapshot sees exactly the
    transcript prefix RFC 8446 prescribes (`specPoints13`), and nothing else is derived. -/
theorem generated_schedule13_conforms (f : Flow) (o : Opts) (hf : f ∈ flows13) :
    schedConforms Gen.sched13Client f o = true ∧ schedConforms Gen.sched13Server f o = true := by
  -- a TLS 1.3 flow looks at three of the options only
  have script : flowScript f o =
      flowScript f { certReq := o.certReq, clientCert := o.clientCert, compress := o.compress } := by
    simp only [flows13, List.mem_cons, List.not_mem_nil, or_false] at hf
    rcases hf with rfl | rfl | rfl | rfl <;> rfl
  have table : ∀ f ∈ flows13, ∀ certReq clientCert compress : Bool,
      schedConforms Gen.sched13Client f { certReq, clientCert, compress } = true ∧
      schedConforms Gen.sched13Server f { certReq, clientCert, compress } = true := by
    decide +kernel
  rw [schedConforms_congr _ script, schedConforms_congr _ script]
  exact table f hf _ _ _

/-- <= 1.2: labels of sender and receiver correspond, the whole verify_data is compared (also in
    1.3), the EMS session hash is frozen right after ClientKeyExchange on both sides -/
theorem generated_tls12_finished_and_master_secret :
    Gen.finished12 =
      [("_sendFinished", "client finished", "server finished", "self._handshake_hash/12", "no comparison"),
       ("_getFinished", "server finished", "client finished", "self._handshake_hash/12",
        "finished.verify_data != verifyData")] ∧
    Gen.finished13Compares =
      [("_clientTLS13Handshake", "finished.verify_data != verify_data"),
       ("_serverTLS13Handshake", "cl_finished.verify_data != cl_verify_data")] ∧
    Gen.emsSnapshots = [("_clientKeyExchange", "send:client_key_exchange"),
                        ("_serverCertKeyExchange", "recv:client_key_exchange")] ∧
    Gen.masterSecretCalls =
      [("extended master secret", "handshake_hashes=cvhh", "ems"),
       ("master secret", "client_random=client_random;server_random=server_random", "noems")] ∧
    Gen.masterSecretFallback = ["not cvhh"] :=
  ⟨rfl, rfl, rfl, rfl, rfl⟩

/-- TLS 1.3: every secret of the key schedule is a function of (PSK, ECDHE, transcript prefix up
    to the message RFC 8446 prescribes): two transcripts that agree on the first `n` messages give
    the same secrets for every point `≤ n`; in particular the handshake traffic secrets depend on
    nothing after ServerHello and nothing at all depends on what follows the client Finished. -/
theorem keys13_depend_only_on_transcript_prefix (K : Hkdf) (psk ecdhe : Bytes) (pre tr1 tr2 : List Msg)
    (p : Points13) :
    (tr1.take p.hs = tr2.take p.hs →
      (keySchedule13 K psk ecdhe pre tr1 p).sHsTraffic = (keySchedule13 K psk ecdhe pre tr2 p).sHsTraffic ∧
      (keySchedule13 K psk ecdhe pre tr1 p).cHsTraffic = (keySchedule13 K psk ecdhe pre tr2 p).cHsTraffic) ∧
    (tr1.take p.ap = tr2.take p.ap →
      (keySchedule13 K psk ecdhe pre tr1 p).sApTraffic = (keySchedule13 K psk ecdhe pre tr2 p).sApTraffic ∧
      (keySchedule13 K psk ecdhe pre tr1 p).cApTraffic = (keySchedule13 K psk ecdhe pre tr2 p).cApTraffic) ∧
    (tr1.take p.cFinished = tr2.take p.cFinished →
      (keySchedule13 K psk ecdhe pre tr1 p).exporter = (keySchedule13 K psk ecdhe pre tr2 p).exporter) ∧
    (tr1.take p.res = tr2.take p.res →
      (keySchedule13 K psk ecdhe pre tr1 p).resumption = (keySchedule13 K psk ecdhe pre tr2 p).resumption) := by
  refine ⟨?_, ?_, ?_, ?_⟩ <;> intro h <;> simp [keySchedule13, h]

/-- two endpoints with the same PSK and (EC)DHE secret and equal transcripts hold equal secrets -/
theorem equal_transcripts_equal_secrets13 (K : Hkdf) (psk ecdhe : Bytes) (pre1 pre2 tr1 tr2 : List Msg)
    (p : Points13) (hpre : pre1 = pre2) (htr : tr1 = tr2) :
    keySchedule13 K psk ecdhe pre1 tr1 p = keySchedule13 K psk ecdhe pre2 tr2 p := by
  rw [hpre, htr]

/-- The Finished values of the TLS 1.3 key schedule are the `finishedVerifyData` of the reduction
    theorem (primitives `prims13`, key = the sender's handshake traffic secret, transcript = the
    prescribed prefix): `both_complete_transcripts_equal_or_bad_event` speaks about this schedule. -/
theorem keySchedule13_finished_is_model_finished (K : Hkdf) (psk ecdhe : Bytes) (pre tr : List Msg) (p : Points13) :
    (keySchedule13 K psk ecdhe pre tr p).sFinished =
      finishedVerifyData (prims13 K) .server (pre ++ tr.take p.sFinished) (keySchedule13 K psk ecdhe pre tr p).sHsTraffic ∧
    (keySchedule13 K psk ecdhe pre tr p).cFinished =
      finishedVerifyData (prims13 K) .client (pre ++ tr.take p.cFinished) (keySchedule13 K psk ecdhe pre tr p).cHsTraffic :=
  ⟨rfl, rfl⟩

/-- Different prefixes at a Finished give different MAC inputs unless two different transcripts
    have the same hash (the `HashCollision` event), for TLS 1.3 and below. -/
theorem finished_inputs_differ_or_collision (H : Bytes → Bytes) (t1 t2 : List Msg)
    (h1 : ∀ m ∈ t1, m.WF) (h2 : ∀ m ∈ t2, m.WF) (hne : t1 ≠ t2) :
    H (encAll t1) ≠ H (encAll t2) ∨ (encAll t1 ≠ encAll t2 ∧ H (encAll t1) = H (encAll t2)) := by
  by_cases h : H (encAll t1) = H (encAll t2)
  · exact Or.inr ⟨fun he => hne (encAll_inj h1 h2 he), h⟩
  · exact Or.inl h

/-- TLS ≤ 1.2: verify_data is the model's Finished with the version's PRF and labels, and with the
    extended master secret the master secret is a function of the transcript through
    ClientKeyExchange (so equal session transcripts and premaster secrets give equal masters). -/
theorem verifyData12_is_model_finished (R : Prf12) (master : Bytes) (sender : Side) (tr : List Msg) :
    verifyData12 R master sender tr = finishedVerifyData (prims12 R) sender tr master ∧
    ∀ (pms cr1 sr1 cr2 sr2 : Bytes) (s1 s2 : List Msg), s1 = s2 →
      masterSecret12 R true pms cr1 sr1 (encAll s1) = masterSecret12 R true pms cr2 sr2 (encAll s2) := by
  refine ⟨rfl, ?_⟩
  intro pms cr1 sr1 cr2 sr2 s1 s2 h
  simp [masterSecret12, h]

example : specPoints13 .full13 { certReq := true, clientCert := true } =
    some { hs := 2, sCertVerify := some 5, sFinished := 6, ap := 7, cCertVerify := some 8, cFinished := 9, res := 10 } := by
  decide +kernel
example : specPoints12 .full12 { ske := true } = some { ems := some 6, cFinished := 6, sFinished := 7 } := by
  decide +kernel

end Tls.Transcript
