import TlsProofs.IO
import TlsProofs.IODefrag
import TlsProofs.IOAsm
import TlsModel.Gen.Wrappers
/-
  C14 — results do not depend on how the transport chunks, delays or blocks; sync ≡ async.

  Model: TlsModel/IO.lean.  A socket is an event list (`Sock.rsched` / `Sock.ssched`: every
  `recv()` / `send()` call consumes one event: deliver/accept at most k bytes, would-block, EOF,
  error) next to the bytes in flight (`Sock.stream`).  BufferedSocket (`BSock`) wraps it.
  `LawfulDev` / `LiveDev` / `LawfulSend` / `LiveSend` (TlsProofs/IO.lean) are the laws "the device
  is a byte stream" and "n more bytes are guaranteed to arrive / be accepted"; both `Sock` and
  `BSock` are proved instances for EVERY schedule, so the theorems below quantify over all
  schedules (and over both devices).  `upstream s` = the bytes not yet handed to the reader
  (`stream`, plus the read-ahead buffer for BSock); `credit s` = min(#delivery events, #bytes in
  flight) if the schedule has no EOF / error / empty delivery, else 0.
-/
namespace Tls.IO

open LawfulDev LawfulSend

/-- For EVERY device state (= every schedule of partial deliveries, would-blocks, EOFs, errors,
    raw socket or BufferedSocket): `_sockRecvAll(n)` yields only 0; if it returns, the result is
    exactly the next n bytes of the stream and the residue is the rest; the only exceptions are
    the transport faults; the internal recursion bound is never hit; and (liveness) whenever n
    more bytes are guaranteed to arrive it does return them. -/
theorem recvAll_schedule_independent {σ : Type} [Dev σ] [LawfulDev σ] [LiveDev σ] (n : Nat) (s : σ) :
    (∀ y ∈ (sockRecvAll n s).yields, y = 0) ∧
    (sockRecvAll n s).res ≠ .fuelOut ∧
    (∀ r, (sockRecvAll n s).res = .ok r →
        n ≤ (upstream s).length ∧ r = (upstream s).take n ∧
        upstream (sockRecvAll n s).dev = (upstream s).drop n) ∧
    (∀ e, (sockRecvAll n s).res = .exc e → e = .abruptClose ∨ e = .socketError) ∧
    (n ≤ LiveDev.credit s → (sockRecvAll n s).res = .ok ((upstream s).take n)) := by
  have ⟨h1, h2, h3, h4, h5⟩ := sockRecvAll_spec n s
  exact ⟨h1, h2, h3, h4, fun h => (h5 h).1⟩

/-- the same, spelled out for the raw socket: explicit quantifier over the schedule -/
theorem recvAll_schedule_independent_sock (n : Nat) (stream : Bytes) (rsched : List REv)
    (ssched : List SEv) (sent : Bytes) :
    let o := sockRecvAll n (⟨stream, rsched, ssched, sent⟩ : Sock)
    (∀ r, o.res = .ok r → r = stream.take n ∧ o.dev.stream = stream.drop n) ∧
    (cleanSched rsched = true → n ≤ chunks rsched → n ≤ stream.length → o.res = .ok (stream.take n)) := by
  obtain ⟨-, -, hok, -, hlive⟩ := recvAll_schedule_independent n (⟨stream, rsched, ssched, sent⟩ : Sock)
  refine ⟨fun r hr => (hok r hr).2, fun hc hn hl => hlive ?_⟩
  show n ≤ Sock.credit _
  rw [Sock.credit_of_clean hc]
  exact Nat.le_min.2 ⟨hn, hl⟩

/-- and through BufferedSocket (read-ahead of max(4096, n)): same bytes, whatever is buffered -/
theorem recvAll_schedule_independent_buffered (n : Nat) (b : BSock) :
    let o := sockRecvAll n b
    (∀ r, o.res = .ok r →
        r = (b.readBuf ++ b.inner.stream).take n ∧
        o.dev.readBuf ++ o.dev.inner.stream = (b.readBuf ++ b.inner.stream).drop n) ∧
    (cleanSched b.inner.rsched = true → n ≤ b.readBuf.length + min (chunks b.inner.rsched) b.inner.stream.length →
        o.res = .ok ((b.readBuf ++ b.inner.stream).take n)) := by
  obtain ⟨-, -, hok, -, hlive⟩ := recvAll_schedule_independent n b
  refine ⟨fun r hr => (hok r hr).2, fun hc hn => hlive ?_⟩
  show n ≤ b.readBuf.length + Sock.credit _
  rw [Sock.credit_of_clean hc]
  exact hn

example : (sockRecvAll 3 (⟨[1, 2, 3, 4], [.wb, .chunk 1, .wb, .wb, .chunk 5], [], []⟩ : Sock)).res = .ok [1, 2, 3] ∧
    (sockRecvAll 3 (⟨[1, 2, 3, 4], [.wb, .chunk 1, .wb, .wb, .chunk 5], [], []⟩ : Sock)).yields = [0, 0, 0] ∧
    (sockRecvAll 3 (⟨[1, 2, 3, 4], [.wb, .chunk 1, .wb, .wb, .chunk 5], [], []⟩ : Sock)).dev.stream = [4] := by
  decide +kernel

example : (sockRecvAll 3 (⟨[1, 2, 3, 4], [.chunk 2, .eof], [], []⟩ : Sock)).res = .exc .abruptClose ∧
    (sockRecvAll 3 (⟨[1, 2, 3, 4], [.chunk 2, .wb], [], []⟩ : Sock)).res = .pending := by decide +kernel

example : LiveDev.credit (⟨[1, 2, 3, 4], [.wb, .chunk 1, .wb, .wb, .chunk 5, .chunk 1], [], []⟩ : Sock) = 3 := by
  decide +kernel

/-- `RecordSocket.recv` computes, for every schedule and device, what the pure parser `recordP`
    says about the byte stream: same header and body, residue = the rest of the stream; a
    non-transport exception (malformed SSLv2 header, oversized length) only when the parser fails
    with it; only 0 is yielded; and whenever the bytes of the record are guaranteed to arrive the
    record is returned. -/
theorem records_match_stream {σ : Type} [Dev σ] [LawfulDev σ] [LiveDev σ] (cfg : RSCfg) (s : σ) :
    (∀ y ∈ (recordRecv cfg s).yields, y = 0) ∧
    (recordRecv cfg s).res ≠ .fuelOut ∧
    (∀ hb, (recordRecv cfg s).res = .ok hb →
        recordP cfg (upstream s) = .ok hb (upstream (recordRecv cfg s).dev)) ∧
    (∀ e, (recordRecv cfg s).res = .exc e →
        e = .abruptClose ∨ e = .socketError ∨ recordP cfg (upstream s) = .fail e) ∧
    (∀ hb rest, recordP cfg (upstream s) = .ok hb rest →
        (upstream s).length - rest.length ≤ LiveDev.credit s → (recordRecv cfg s).res = .ok hb) := by
  have h := recordRecv_refines cfg s
  exact ⟨h.yields, h.noFuel, h.ok, h.exc,
    fun hb rest hp hc => (h.live hb rest hp (Nat.sub_le_iff_le_add.1 hc)).1⟩

/-- Two runs over the same byte stream under ANY two schedules, on any two devices (raw vs
    buffered included): if both return a record it is the same record and the same bytes remain;
    a run that returns a record excludes a non-transport exception in the other. -/
theorem records_schedule_independent {σ₁ σ₂ : Type} [Dev σ₁] [LawfulDev σ₁] [Dev σ₂] [LawfulDev σ₂]
    (cfg : RSCfg) (s₁ : σ₁) (s₂ : σ₂) (h : upstream s₁ = upstream s₂) :
    (∀ a b, (recordRecv cfg s₁).res = .ok a → (recordRecv cfg s₂).res = .ok b →
        a = b ∧ upstream (recordRecv cfg s₁).dev = upstream (recordRecv cfg s₂).dev) ∧
    (∀ a e, (recordRecv cfg s₁).res = .ok a → (recordRecv cfg s₂).res = .exc e →
        e = .abruptClose ∨ e = .socketError) ∧
    (∀ e₁ e₂, (recordRecv cfg s₁).res = .exc e₁ → (recordRecv cfg s₂).res = .exc e₂ →
        e₁ = e₂ ∨ e₁ = .abruptClose ∨ e₁ = .socketError ∨ e₂ = .abruptClose ∨ e₂ = .socketError) :=
  (recordRecv_refines cfg s₁).agree (recordRecv_refines cfg s₂) h

-- a TLS 1.2 handshake record `16 03 03 00 02 | aa bb` followed by one more byte, delivered 1+4 / 1 / rest
example : (recordRecv {} (⟨[0x16, 3, 3, 0, 2, 0xaa, 0xbb, 0x17], [.chunk 1, .wb, .chunk 4, .chunk 1, .wb, .chunk 9], [], []⟩ : Sock)).res
      = .ok ({ type := 22, vmaj := 3, vmin := 3, length := 2, ssl2 := false }, [0xaa, 0xbb]) ∧
    (recordRecv {} (⟨[0x16, 3, 3, 0, 2, 0xaa, 0xbb, 0x17], [.chunk 1, .wb, .chunk 4, .chunk 1, .wb, .chunk 9], [], []⟩ : Sock)).dev.stream = [0x17] ∧
    (recordRecv {} ({ inner := ⟨[0x16, 3, 3, 0, 2, 0xaa, 0xbb, 0x17], [.chunk 3, .chunk 9], [], []⟩ } : BSock)).res
      = .ok ({ type := 22, vmaj := 3, vmin := 3, length := 2, ssl2 := false }, [0xaa, 0xbb]) := by decide +kernel

-- SSLv2 header with padding larger than the length: the same exception under two schedules
example : (recordRecv {} (⟨[0x00, 0x08, 0x09, 1, 2], [.chunk 9, .chunk 9], [], []⟩ : Sock)).res = .exc .illegalParameter ∧
    (recordRecv {} (⟨[0x00, 0x08, 0x09, 1, 2], [.chunk 1, .wb, .chunk 1, .chunk 1], [], []⟩ : Sock)).res = .exc .illegalParameter := by
  decide +kernel

/-- For EVERY schedule of partial accepts and would-blocks: only 1 is yielded; the bytes the
    device accepted are a prefix of the data, appended in order to what it had accepted before;
    all of the data when the call returns; the only exception is the socket's; and if
    enough accepts are guaranteed the call returns. -/
theorem sendAll_delivers_exactly {σ : Type} [Dev σ] [LawfulSend σ] [LiveSend σ] (data : Bytes) (s : σ)
    (hi : LawfulSend.inv s) :
    (∀ y ∈ (sockSendAll data s).yields, y = 1) ∧
    (sockSendAll data s).res ≠ .fuelOut ∧
    (∃ k, k ≤ data.length ∧ written (sockSendAll data s).dev = written s ++ data.take k ∧
        ((sockSendAll data s).res = .ok () → k = data.length)) ∧
    ((sockSendAll data s).res = .ok () → written (sockSendAll data s).dev = written s ++ data) ∧
    (∀ e, (sockSendAll data s).res = .exc e → e = .socketError) ∧
    (1 ≤ LiveSend.scredit s → data.length ≤ LiveSend.scredit s → (sockSendAll data s).res = .ok ()) := by
  have ⟨h1, h3, h4, k, hk, hw, hok⟩ := sockSendAll_spec data s hi
  refine ⟨h1, h3, ⟨k, hk, hw, hok⟩, ?_, h4, sockSendAll_live data s hi⟩
  intro h
  rw [hw, hok h, List.take_length]

/-- raw socket, explicit quantifier over the schedule -/
theorem sendAll_delivers_exactly_sock (data : Bytes) (s : Sock) :
    ((sockSendAll data s).res = .ok () → (sockSendAll data s).dev.sent = s.sent ++ data) ∧
    (∃ k, k ≤ data.length ∧ (sockSendAll data s).dev.sent = s.sent ++ data.take k) ∧
    (cleanSSched s.ssched = true → 1 ≤ accepts s.ssched → data.length ≤ accepts s.ssched →
        (sockSendAll data s).res = .ok ()) := by
  obtain ⟨-, -, ⟨k, hk, hw, -⟩, hall, -, hlive⟩ := sendAll_delivers_exactly data s trivial
  refine ⟨hall, ⟨k, hk, hw⟩, fun hc h1 h2 => hlive ?_ ?_⟩
  · show 1 ≤ Sock.scredit s
    simp [Sock.scredit, hc]; exact h1
  · show data.length ≤ Sock.scredit s
    simp [Sock.scredit, hc]; exact h2

example : (sockSendAll [1, 2, 3, 4, 5] (⟨[], [], [.accept 2, .wb, .accept 0, .accept 1, .accept 9], [7]⟩ : Sock)).dev.sent
      = [7, 1, 2, 3, 4, 5] ∧
    (sockSendAll [1, 2, 3, 4, 5] (⟨[], [], [.accept 2, .wb, .accept 0, .accept 1, .accept 9], [7]⟩ : Sock)).yields
      = [1, 1, 1, 1] ∧
    (sockSendAll [1, 2, 3] (⟨[], [], [.accept 2, .err], []⟩ : Sock)).res = .exc .socketError := by decide +kernel

/-- BufferedSocket is transparent.
    Read side: for every sequence of `recv(n)` calls under every schedule of the socket below,
    the bytes returned above, followed by what is still buffered / in flight, are the stream
    (nothing lost, duplicated or reordered), each call returning at most `n` bytes.
    Write side: for every sequence of send / sendall / flush / buffer_writes switches that
    switches buffering off only with an empty queue (what `_sendMsgs` / `_sendError` do by
    flushing first), the bytes accepted from above equal, in order, what reached the socket
    followed by the write queue; after `flush()` all of it is on the socket and the queue is empty. -/
theorem bufferedsocket_transparent :
    (∀ (ns : List Nat) (b : BSock),
        (recvMany ns b).1 ++ ((recvMany ns b).2.readBuf ++ (recvMany ns b).2.inner.stream)
          = b.readBuf ++ b.inner.stream) ∧
    (∀ (n : Nat) (b b' : BSock) (r : Bytes), b.recv n = (.data r, b') →
        r.length ≤ n ∧ b.readBuf ++ b.inner.stream = r ++ (b'.readBuf ++ b'.inner.stream)) ∧
    (∀ (ops : List WOp) (b : BSock), b.WInv → Disciplined b ops →
        (b.wrun ops).1.inner.sent ++ (b.wrun ops).1.writeQueue.flatten
          = b.inner.sent ++ b.writeQueue.flatten ++ (b.wrun ops).2) ∧
    (∀ (b : BSock), b.flush.writeQueue = [] ∧
        b.flush.inner.sent = b.inner.sent ++ b.writeQueue.flatten) := by
  refine ⟨fun ns b => recvMany_stream (σ := BSock) ns b, ?_, ?_, ?_⟩
  · intro n b b' r h
    have := LawfulDev.recv_data (σ := BSock) n b b' r h
    exact ⟨this.1, this.2.1⟩
  · intro ops b hi hd
    exact (BSock.wrun_spec ops b hi hd).2
  · intro b
    exact ⟨b.flush_spec.1, b.flush_spec.2.1⟩

-- read-ahead: one recv(2) pulls 5 bytes from below, the next calls are served from the buffer
example : (recvMany [2, 1, 4] ({ inner := ⟨[1, 2, 3, 4, 5, 6], [.chunk 5, .wb, .chunk 5], [], []⟩ } : BSock)).1
      = [1, 2, 3, 4, 5] ∧
    (recvMany [2] ({ inner := ⟨[1, 2, 3, 4, 5, 6], [.chunk 5, .wb, .chunk 5], [], []⟩ } : BSock)).2.readBuf
      = [3, 4, 5] := by decide +kernel

-- buffered writes are held until flush and keep their order relative to earlier direct sends
example : (({ inner := ⟨[], [], [.accept 9], []⟩ } : BSock).wrun
      [.send [1], .setBuffer true, .send [2, 3], .sendall [4], .flush, .setBuffer false]).1.inner.sent
      = [1, 2, 3, 4] ∧
    (({ inner := ⟨[], [], [.accept 9], []⟩ } : BSock).wrun
      [.send [1], .setBuffer true, .send [2, 3], .sendall [4]]).1.inner.sent = [1] := by decide +kernel

/-- For EVERY way of cutting a handshake byte stream into (non-empty) records — one byte per
    record, several messages packed into one record, anything in between — `_getNextRecord` on the
    TLS defragmenter delivers exactly the messages of the stream, in order, and keeps exactly the
    incomplete tail; hence two different cuttings of the same stream are processed identically.
    (Zero-length handshake records are rejected by `_getNextRecordFromSocket`, so they are not a
    framing the protocol allows.) -/
theorem defrag_refragmentation_invariant (tls13 : Bool) (frags₁ frags₂ : List Bytes)
    (h₁ : ∀ f ∈ frags₁, f ≠ []) (h₂ : ∀ f ∈ frags₂, f ≠ [])
    (hcut : frags₁.flatten = frags₂.flatten) (fuel₁ fuel₂ : Nat)
    (hf₁ : fragMeasure [] frags₁ < fuel₁) (hf₂ : fragMeasure [] frags₂ < fuel₂) :
    getAll tls13 fuel₁ tlsDefrag (hsRecs frags₁) = getAll tls13 fuel₂ tlsDefrag (hsRecs frags₂) ∧
    getAll tls13 fuel₁ tlsDefrag (hsRecs frags₁) =
      ((splitAll hsHandler frags₁.flatten).1.map (GOut.msg 22), none,
       tls3 [] [] (splitAll hsHandler frags₁.flatten).2) := by
  have e1 := getAll_hs tls13 fuel₁ frags₁ [] h₁ hf₁
  have e2 := getAll_hs tls13 fuel₂ frags₂ [] h₂ hf₂
  simp only [List.nil_append] at e1 e2
  rw [tlsDefrag_eq, e1, e2, hcut]
  exact ⟨rfl, rfl⟩

/-- ... and when the stream is a sequence of complete messages, those are what is delivered and
    nothing stays buffered -/
theorem defrag_delivers_messages (tls13 : Bool) (msgs frags : List Bytes)
    (hm : ∀ m ∈ msgs, WFMsg m) (hne : ∀ f ∈ frags, f ≠ []) (hcut : frags.flatten = msgs.flatten)
    (fuel : Nat) (hf : fragMeasure [] frags < fuel) :
    getAll tls13 fuel tlsDefrag (hsRecs frags) = (msgs.map (GOut.msg 22), none, tlsDefrag) := by
  have e := getAll_hs tls13 fuel frags [] hne hf
  simp only [List.nil_append] at e
  rw [tlsDefrag_eq, e, hcut, splitAll_wellformed msgs hm]

/-- Sender fragmentation (`_sendMsg`, any `recordSize` ≥ 1 — user setting or negotiated
    record_size_limit): every buffer handed to `_sendMsg` (a handshake message, or a coalesced
    flight) is cut into records that concatenate to the buffer, are at most `recordSize` long and,
    for a non-empty buffer, are NEVER empty — also when `recordSize` divides the length exactly. -/
theorem sendMsg_fragments (k : Nat) (hk : 1 ≤ k) (buf : Bytes) :
    (fragmentMsg k buf).flatten = buf ∧ (∀ f ∈ fragmentMsg k buf, f.length ≤ k) ∧
    (buf ≠ [] → ∀ f ∈ fragmentMsg k buf, f ≠ []) :=
  fragmentMsg_spec k hk buf

/-- ... so the receiver's result is invariant under the sender's chunking: whatever `recordSize`
    the sender uses and however it groups the messages into `_sendMsg` buffers, `_getNextRecord`
    delivers exactly the messages; and an empty handshake fragment (what an off-by-one in the
    sender's loop produces when `recordSize` divides a message length) is refused. -/
theorem receiver_invariant_under_sender_fragmentation (tls13 : Bool) (k : Nat) (hk : 1 ≤ k)
    (msgs bufs : List Bytes) (hm : ∀ m ∈ msgs, WFMsg m) (hb : ∀ b ∈ bufs, b ≠ [])
    (hcut : bufs.flatten = msgs.flatten) (fuel : Nat)
    (hf : fragMeasure [] (bufs.flatMap (fragmentMsg k)) < fuel) :
    getAll tls13 fuel tlsDefrag (hsRecs (bufs.flatMap (fragmentMsg k))) =
      (msgs.map (GOut.msg 22), none, tlsDefrag) ∧
    (∀ (c : Bytes) (rest : List Rec), hsHandler.size c = none →
      getNextRecord tls13 (tls3 [] [] c) ({ type := 22, data := [] } :: rest) = .error .unexpectedMessage) := by
  refine ⟨?_, fun c rest hs => empty_fragment_refused tls13 c rest hs⟩
  apply defrag_delivers_messages tls13 msgs _ hm _ _ fuel hf
  · intro f hf'
    rw [List.mem_flatMap] at hf'
    obtain ⟨b, hbm, hfb⟩ := hf'
    exact (fragmentMsg_spec k hk b).2.2 (hb b hbm) f hfb
  · rw [flatMap_fragment_flatten, hcut]

-- recordSize 4 divides the 4-byte ServerHelloDone exactly: one record, no empty one; 10 bytes with size 5: two records
example : fragmentMsg 4 [0x0e, 0, 0, 0] = [[0x0e, 0, 0, 0]] ∧
    fragmentMsg 5 [0x10, 0, 0, 6, 1, 2, 3, 4, 5, 6] = [[0x10, 0, 0, 6, 1], [2, 3, 4, 5, 6]] ∧
    fragmentMsg 3 [0x0e, 0, 0, 0] = [[0x0e, 0, 0], [0]] := by decide +kernel

-- what the receiver does with the extra empty record of an off-by-one sender
example : getAll false 20 tlsDefrag [{ type := 22, data := [0x0e, 0, 0, 0] }, { type := 22, data := [] }] =
    ([.msg 22 [0x0e, 0, 0, 0]], some .unexpectedMessage, tlsDefrag) := by decide +kernel

/-- the splitting law, for every size handler the Defragmenter can be given -/
theorem defrag_split_append (h : Handler) (hp : h.Pos) (a b : Bytes) :
    splitAll h (a ++ b) =
      ((splitAll h a).1 ++ (splitAll h ((splitAll h a).2 ++ b)).1,
       (splitAll h ((splitAll h a).2 ++ b)).2) := by
  generalize hk : a.length = k
  induction k using Nat.strongRecOn generalizing a with
  | ind k ih =>
    cases hs : h.size a with
    | none => simp [splitAll_none h a hs]
    | some n =>
      have ⟨hn1, hn2⟩ := h.size_bounds hp a n hs
      rw [splitAll_some_append h hp a b n hs, splitAll_some h hp a n hs,
        ih (a.drop n).length (by simp; omega) (a.drop n) rfl]
      simp

-- two messages (ServerHelloDone `0e000000`, then a 2-byte body message): byte-wise, packed, split mid-header
example :
    getAll false 40 tlsDefrag (hsRecs [[0x0e], [0, 0], [0, 0x10, 0], [0, 2, 0xaa], [0xbb]]) =
      ([.msg 22 [0x0e, 0, 0, 0], .msg 22 [0x10, 0, 0, 2, 0xaa, 0xbb]], none, tlsDefrag) ∧
    getAll false 40 tlsDefrag (hsRecs [[0x0e, 0, 0, 0, 0x10, 0, 0, 2, 0xaa, 0xbb]]) =
      ([.msg 22 [0x0e, 0, 0, 0], .msg 22 [0x10, 0, 0, 2, 0xaa, 0xbb]], none, tlsDefrag) ∧
    (getAll false 40 tlsDefrag (hsRecs [[0x0e, 0, 0, 0, 0x10, 0, 0, 2, 0xaa]])).1 = [.msg 22 [0x0e, 0, 0, 0]] := by
  decide +kernel

example : WFMsg (mkMsg 0x10 [0xaa, 0xbb]) := mkMsg_wf _ _ (by decide)

-- a zero-length handshake record is refused
example : (getAll false 9 tlsDefrag [{ type := 22, data := [] }]).2.1 = some .unexpectedMessage := by decide +kernel

/-- After `send()` failed during the handshake the library reads on to see whether the peer's
    alert is in flight.  For EVERY schedule (any number of would-blocks before or inside the alert
    record, any chunking, raw or buffered socket): only 0 is yielded while waiting; if the peek
    ends with a verdict (TLSRemoteAlert(level, description) / re-raise the send error) it is the
    verdict the pure function `alertPeekP` gives for the byte stream; and two runs over the same
    stream under any two schedules that both end with a verdict end with the same one.  A
    would-block alone therefore never turns "remote alert" into "socket error": the only other
    endings are `pending` (still waiting) and the transport faults EOF / socket error. -/
theorem alert_peek_schedule_independent {σ₁ σ₂ : Type} [Dev σ₁] [LawfulDev σ₁] [Dev σ₂] [LawfulDev σ₂]
    (cfg : RSCfg) (tls13 : Bool) (fuel : Nat) (d : Defrag) (s₁ : σ₁) (s₂ : σ₂)
    (h : upstream s₁ = upstream s₂) :
    (∀ y ∈ (alertPeek cfg tls13 fuel d s₁).yields, y = 0) ∧
    (alertPeek cfg tls13 fuel d s₁).res ≠ .fuelOut ∧
    (∀ v, (alertPeek cfg tls13 fuel d s₁).res = .ok v →
        alertPeekP cfg tls13 fuel d (upstream s₁) = .ok v (upstream (alertPeek cfg tls13 fuel d s₁).dev)) ∧
    (∀ v w, (alertPeek cfg tls13 fuel d s₁).res = .ok v → (alertPeek cfg tls13 fuel d s₂).res = .ok w → v = w) ∧
    (∀ v e, (alertPeek cfg tls13 fuel d s₁).res = .ok v → (alertPeek cfg tls13 fuel d s₂).res = .exc e →
        e = .abruptClose ∨ e = .socketError) := by
  have h1 := alertPeek_refines cfg tls13 fuel d s₁
  have ⟨a1, a2, _⟩ := h1.agree (alertPeek_refines cfg tls13 fuel d s₂) h
  exact ⟨h1.yields, h1.noFuel, h1.ok, fun v w hv hw => (a1 v w hv hw).1, a2⟩

-- fatal handshake_failure `15 03 03 00 02 | 02 28`: all at once, would-block first, header / would-block / body,
-- and through BufferedSocket: always TLSRemoteAlert(2, 40); a ServerHelloDone instead: the send error is re-raised
example :
    (alertPeek {} false 9 tlsDefrag (⟨[0x15, 3, 3, 0, 2, 2, 40], [.chunk 9, .chunk 9, .chunk 9], [], []⟩ : Sock)).res
      = .ok (.remoteAlert 2 40) ∧
    (alertPeek {} false 9 tlsDefrag (⟨[0x15, 3, 3, 0, 2, 2, 40], [.wb, .chunk 9, .chunk 9, .wb, .wb, .chunk 1, .chunk 1], [], []⟩ : Sock)).res
      = .ok (.remoteAlert 2 40) ∧
    (alertPeek {} false 9 tlsDefrag (⟨[0x15, 3, 3, 0, 2, 2, 40], [.wb, .chunk 9, .chunk 9, .wb, .wb, .chunk 1, .chunk 1], [], []⟩ : Sock)).yields
      = [0, 0, 0] ∧
    (alertPeek {} false 9 tlsDefrag ({ inner := ⟨[0x15, 3, 3, 0, 2, 2, 40], [.wb, .chunk 5, .wb, .chunk 2], [], []⟩ } : BSock)).res
      = .ok (.remoteAlert 2 40) ∧
    (alertPeek {} false 9 tlsDefrag (⟨[0x16, 3, 3, 0, 4, 14, 0, 0, 0], [.chunk 9, .wb, .chunk 9, .chunk 9], [], []⟩ : Sock)).res
      = .ok .originalError ∧
    (alertPeek {} false 9 tlsDefrag (⟨[0x15, 3, 3, 0, 2, 2, 40], [.chunk 9, .wb], [], []⟩ : Sock)).res = .pending := by
  decide +kernel

/-- Only 0 ("want read") is yielded while a record is read and only 1 ("want write") while a
    record is sent, for every schedule, on the raw socket and through BufferedSocket. -/
theorem yield_protocol {σ : Type} [Dev σ] [LawfulDev σ] [LawfulSend σ] (cfg : RSCfg) (s : σ)
    (vmaj vmin type : Nat) (data : Bytes) (padding : Nat) (hi : LawfulSend.inv s) :
    (∀ y ∈ (recordRecv cfg s).yields, y = 0) ∧
    (∀ y ∈ (recvHeader s).yields, y = 0) ∧
    (∀ y ∈ (recordSend vmaj vmin type data padding s).yields, y = 1) := by
  refine ⟨(recordRecv_refines cfg s).yields, (recvHeader_refines s).yields, ?_⟩
  unfold recordSend
  generalize (if ((vmaj, vmin) == (2, 0) || (vmaj, vmin) == (0, 2)) = true then
      writeHeader2 data.length padding else writeHeader3 vmaj vmin type data.length) = hdr
  cases hdr with
  | none => intro y hy; simp at hy
  | some h => intro y hy; exact (sockSendAll_spec _ s hi).1 y hy

example : (recordSend 3 3 23 [1, 2] 0 (⟨[], [], [.wb, .accept 3, .accept 9], []⟩ : Sock)).yields = [1, 1] ∧
    (recordSend 3 3 23 [1, 2] 0 (⟨[], [], [.wb, .accept 3, .accept 9], []⟩ : Sock)).dev.sent = [23, 3, 3, 0, 2, 1, 2] := by
  decide +kernel

/-- `_checkAssert`'s invariant is preserved by every transition, from EVERY state, for every
    behaviour of the generator being advanced:
    * a transition that raises (AssertionError or the generator's exception) leaves the cleared state;
    * a transition that succeeds started from a state satisfying `_checkAssert()` and leaves at most
      one operation slot occupied — and the full invariant when the generator obeys the 0/1 protocol;
    * starting an operation (`setHandshakeOp` / `setCloseOp` / `setWriteOp`) while another one is
      active raises AssertionError. -/
theorem asm_single_active_op (a : ASM) (op : AsmOp) (g : GenStep) :
    ((a.step op g).2 = .assertionError ∨ (a.step op g).2 = .raised → (a.step op g).1 = ASM.clear) ∧
    (∀ evs, (a.step op g).2 = .ok evs →
        a.checkAssert 1 = true ∧ (a.step op g).1.activeOps ≤ 1 ∧
        (g.proto → (a.step op g).1.checkAssert 1 = true)) ∧
    (op.isSet = true → 1 ≤ a.activeOps → (a.step op g).2 = .assertionError) := by
  have ⟨h1, h2, h3, h4⟩ := ASM.step_spec a op g
  refine ⟨h1, fun evs he => ⟨ASM.checkAssert_mono (by split <;> omega) (h2 evs he), (h3 evs he).1, (h3 evs he).2.1⟩,
    fun hs hb => h4 ?_⟩
  rw [hs, if_pos rfl, Bool.eq_false_iff]
  exact fun hc => absurd (ASM.activeOps_le_of_checkAssert hc) (by omega)

/-- Callbacks run with an idle machine: every transition that invokes outConnectEvent /
    outCloseEvent / outReadEvent / outWriteEvent (the callback is the last statement of `_do*Op`, of
    `_doReadOp` when nothing was read ahead, which are the transitions of `ASM.step`,
    so the state returned by the model is the state at callback entry — tied by the
    correspondence, where the real subclass records its state inside each callback) does so with
    NO operation slot occupied and `result = None`; so a callback may start the next operation
    (`setWriteOp` / `setCloseOp` from inside `outReadEvent`, ...) and `_checkAssert(0)` passes. -/
theorem asm_callback_entry_idle (a : ASM) (op : AsmOp) (g : GenStep) (evs : List AsmEv)
    (h : (a.step op g).2 = .ok evs) (hne : evs ≠ []) :
    (a.step op g).1.activeOps = 0 ∧ (a.step op g).1.result = none ∧
    (∀ g', (((a.step op g).1.step .setWrite g').2 ≠ .assertionError) ∧
           (((a.step op g).1.step .setClose g').2 ≠ .assertionError)) := by
  have ⟨h1, h2⟩ := ((ASM.step_spec a op g).2.2.1 evs h).2.2 hne
  refine ⟨h1, h2, fun g' => ?_⟩
  rw [ASM.eq_clear h1 h2]
  cases g' <;> exact ⟨nofun, nofun⟩

example : (({ reader := true, result := some 0 } : ASM).step .inRead (.yld 7)) = (ASM.clear, .ok [.outRead]) := by decide +kernel

/-- `_doReadOp` drains the read-ahead buffer whenever a read completes, in whichever event
    (`pend` = what each extra `readAsync(16384)` does while `_read_ahead_pending()` holds):
    * with nothing read ahead inReadEvent / inWriteEvent are the plain transitions
      (`asm_single_active_op` applies);
    * for every `pend` the outcome keeps the invariant: a raise leaves the cleared state, a success
      leaves at most one operation active (an incomplete buffered record leaves the reader waiting);
    * everything complete in the read-ahead buffer is delivered before the event returns: if the
      read and all n extra reads complete, n+1 outReadEvents are emitted and the machine ends idle —
      also when the read had been started by an earlier event and only completes now.
      (A callback that starts another operation makes `_read_ahead_pending()` false: `noOp`.) -/
theorem asm_read_ahead_drained (a : ASM) (g : GenStep) (pend : List GenStep) :
    a.inReadDrain g [] = a.inReadEvent g ∧ a.inWriteDrain g [] = a.inWriteEvent g ∧
    ((a.inReadDrain g pend).2 = .assertionError ∨ (a.inReadDrain g pend).2 = .raised →
        (a.inReadDrain g pend).1 = ASM.clear) ∧
    (∀ evs, (a.inReadDrain g pend).2 = .ok evs → (a.inReadDrain g pend).1.activeOps ≤ 1) ∧
    ((a.inWriteDrain g pend).2 = .assertionError ∨ (a.inWriteDrain g pend).2 = .raised →
        (a.inWriteDrain g pend).1 = ASM.clear) ∧
    (∀ evs, (a.inWriteDrain g pend).2 = .ok evs → (a.inWriteDrain g pend).1.activeOps ≤ 1) ∧
    (∀ (v : Nat) (vs : List Nat) (r : Nat), (v ≠ 0 ∧ v ≠ 1) → (∀ x ∈ vs, x ≠ 0 ∧ x ≠ 1) → (r = 0 ∨ r = 1) →
        ASM.clear.inReadDrain (.yld v) (vs.map GenStep.yld) =
          (ASM.clear, .ok (List.replicate (vs.length + 1) AsmEv.outRead)) ∧
        ({ reader := true, result := some r } : ASM).inReadDrain (.yld v) (vs.map GenStep.yld) =
          (ASM.clear, .ok (List.replicate (vs.length + 1) AsmEv.outRead)) ∧
        ({ reader := true, result := some r } : ASM).inWriteDrain (.yld v) (vs.map GenStep.yld) =
          (ASM.clear, .ok (List.replicate (vs.length + 1) AsmEv.outRead))) := by
  refine ⟨rfl, rfl, (a.inReadDrain_spec g pend).1, (a.inReadDrain_spec g pend).2,
    (a.inWriteDrain_spec g pend).1, (a.inWriteDrain_spec g pend).2, ?_⟩
  intro v vs r hv hvs hr
  have hne : ¬ (v = 0 ∨ v = 1) := by omega
  have h0 : ∀ res, (({ reader := true, result := res } : ASM).doReadOp (.yld v)) = (ASM.clear, .ok [AsmEv.outRead]) := by
    intro res; simp [ASM.doReadOp, ASM.clear, hne]
  have hd := ASM.drainLoop_all_complete vs [AsmEv.outRead] hvs
  have hfin : (ASM.guard (ASM.clear, AsmRes.ok ([AsmEv.outRead] ++ List.replicate vs.length AsmEv.outRead))) =
      (ASM.clear, .ok (List.replicate (vs.length + 1) AsmEv.outRead)) := by
    simp [ASM.guard, List.replicate_succ]
  have hc : ({ reader := true, result := some r } : ASM).checkAssert = true := by
    rcases hr with rfl | rfl <;> decide
  refine ⟨?_, ?_, ?_⟩
  · have hc : ASM.clear.checkAssert = true := by decide
    simp only [ASM.inReadDrain, ASM.doReadOpD, hc, Bool.not_true, Bool.false_eq_true, if_false]
    have hf : ASM.clear.handshaker = false ∧ ASM.clear.closer = false ∧ ASM.clear.reader = false ∧ ASM.clear.writer = false := by
      decide
    simp only [hf.1, hf.2.1, hf.2.2.1, hf.2.2.2, Bool.false_eq_true, if_false]
    rw [h0, hd, hfin]
  · simp only [ASM.inReadDrain, ASM.doReadOpD, hc, Bool.not_true, Bool.false_eq_true, if_false, if_true]
    rw [h0, hd, hfin]
  · simp only [ASM.inWriteDrain, ASM.doReadOpD, hc, Bool.not_true, Bool.false_eq_true, if_false, if_true]
    rw [h0, hd, hfin]

example : ASM.clear.inReadDrain (.yld 7) [.yld 8, .yld 0, .yld 9] =
      ({ reader := true, result := some 0 }, .ok [.outRead, .outRead]) ∧
    -- a read started earlier (it had yielded 0) completes in this event: the read-ahead is drained too
    ({ reader := true, result := some 0 } : ASM).inReadDrain (.yld 7) [.yld 8] = (ASM.clear, .ok [.outRead, .outRead]) := by
  decide +kernel

/-- over whole histories: from the initial state, after any sequence of transitions with
    protocol-obeying generators, `_checkAssert()` holds -/
theorem asm_invariant_all_histories (steps : List (AsmOp × GenStep)) (hp : ∀ x ∈ steps, x.2.proto) :
    (steps.foldl (fun a x => (a.step x.1 x.2).1) ASM.clear).checkAssert 1 = true := by
  suffices h : ∀ (a : ASM), a.checkAssert 1 = true →
      (steps.foldl (fun a x => (a.step x.1 x.2).1) a).checkAssert 1 = true from h _ (by decide)
  induction steps with
  | nil => intro a h; exact h
  | cons x xs ih =>
    intro a ha
    apply ih (fun y hy => hp y (by simp [hy]))
    show ((a.step x.1 x.2).1).checkAssert 1 = true
    have ⟨h1, _, h3, _⟩ := ASM.step_spec a x.1 x.2
    cases hr : (a.step x.1 x.2).2 with
    | ok evs => exact (h3 evs hr).2.1 (hp x (by simp))
    | assertionError => rw [h1 (Or.inl hr)]; decide
    | raised => rw [h1 (Or.inr hr)]; decide

example : (ASM.clear.step .setHandshake (.yld 0)).1 = { handshaker := true, result := some 0 } ∧
    (({ handshaker := true, result := some 0 } : ASM).step .setWrite (.yld 1)) = (ASM.clear, .assertionError) ∧
    (({ handshaker := true, result := some 0 } : ASM).step .inRead .stop) = (ASM.clear, .ok [.outConnect]) := by
  decide +kernel

/-- AsyncStateMachine's implicit read asks for at least a full record (the constant is read off
    the AST on every run), so for every record plaintext the record layer accepts (≤ 2^14 bytes,
    `recv_record_limit`) the whole record is handed to outReadEvent and nothing stays in
    `_readBuffer` when the transport is drained. -/
theorem asm_read_event_delivers_whole_record (data : Bytes) (h : data.length ≤ 16384) :
    16384 ≤ Tls.Gen.Wrappers.asmReadMax ∧
    asmReadEvent Tls.Gen.Wrappers.asmReadMax data = (data, []) := by
  have hc : 16384 ≤ Tls.Gen.Wrappers.asmReadMax := by decide
  refine ⟨hc, ?_⟩
  simp only [asmReadEvent, readAsyncReturn]
  rw [List.take_of_length_le (by omega), List.drop_of_length_le (by omega)]

-- with a smaller constant the tail of a larger record would stay behind
example : (asmReadEvent 4 [1, 2, 3, 4, 5, 6]).2 = [5, 6] ∧ (asmReadEvent 16384 [1, 2, 3, 4, 5, 6]) = ([1, 2, 3, 4, 5, 6], []) := by
  decide +kernel

/-- blocking functions whose body must literally be "drive the asynchronous generator to
    exhaustion (and return its last result)" -/
def requiredWrappers : List String :=
  ["TLSConnection.handshakeClientAnonymous", "TLSConnection.handshakeClientSRP",
   "TLSConnection.handshakeClientCert", "TLSConnection.handshakeServer",
   "TLSRecordLayer.read", "TLSRecordLayer.write", "TLSRecordLayer.close",
   "TLSRecordLayer.send_heartbeat_request", "TLSRecordLayer.send", "TLSRecordLayer.sendall",
   "TLSRecordLayer.recv", "MessageSocket.recvMessageBlocking", "MessageSocket.flushBlocking",
   "MessageSocket.queueMessageBlocking", "MessageSocket.sendMessageBlocking"]

/-- re-checked against the current source on every run (TlsModel/Gen/Wrappers.lean is generated
    from the AST; an unrecognised shape is emitted as `false`) -/
theorem blocking_wrappers_drive_to_exhaustion :
    requiredWrappers.all (fun n => Tls.Gen.Wrappers.facts.contains (n, true)) = true ∧
    Tls.Gen.Wrappers.facts.all (fun f => f.2) = true := by
  decide +kernel

end Tls.IO
