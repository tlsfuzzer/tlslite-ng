import TlsProofs.CbcCheck
import TlsProofs.PyRt
import TlsModel.Gen.CT
/-
  C12 — the CBC MAC-and-padding check accepts exactly the well-formed records.

  `cbcCheck` mirrors `ct_check_cbc_mac_and_pad` (tlslite/utils/constanttime.py) statement by
  statement; `wellFormed` is the plain specification.  The MAC is an arbitrary function
  `digest` of the accumulated input with a fixed output length (what an incremental
  HMAC object is); nothing else is assumed about it.

  `Tls.CT.Gen.*` (TlsModel/Gen/CT.lean) is regenerated on every run from
  the Python AST of the tree under check by translate/gen_ct.py, over the Python-runtime model
  TlsModel/PyInt.lean.  The theorems `gen_*` prove, for all inputs, that what the source says now
  computes the hand-written model (`Gen.ct_lt_u32 a b = some (ctLtU32 a b)` …,
  `Gen.ct_check_cbc_mac_and_pad … = some (cbcCheck …)`), so every theorem about the hand model
  above is a theorem about the regenerated source text; `gen_cbcCheck_eq_wellFormed` spells the
  main one out.  An edit of the arithmetic in constanttime.py changes the generated module and
  breaks the corresponding `gen_*` obligation.
-/
namespace Tls.CT

/-- Full characterisation, for every body, MAC, sequence number, content type, version
    and block size: the constant-time check computes exactly the specification. -/
theorem cbcCheck_eq_wellFormed (m : MacAlg) (data seq : Bytes) (ct : UInt8) (vmaj vmin bs : Nat)
    (hd : ∀ x, (m.digest x).length = m.dlen) (_hb : 0 < m.blockSize)
    (hL : data.length < 2^31) (hdl : m.dlen < 2^31) (hbs : bs < 2^32) :
    cbcCheck m data seq ct vmaj vmin bs = wellFormed m data seq ct vmaj vmin bs :=
  cbcCheck_spec m data seq ct vmaj vmin bs hd hL hbs

/-- what the sender builds, split into its three parts -/
theorem macThenPad_eq (m : MacAlg) (frag seq : Bytes) (ct : UInt8) (vmaj vmin bs : Nat) :
    macThenPad m frag seq ct vmaj vmin bs =
      frag ++ (m.digest (macHeader seq ct vmaj vmin frag.length ++ frag) ++
        List.replicate (bs - 1 - ((frag.length + (m.digest (macHeader seq ct vmaj vmin frag.length ++ frag)).length) % bs) + 1)
          (UInt8.ofNat (bs - 1 - ((frag.length + (m.digest (macHeader seq ct vmaj vmin frag.length ++ frag)).length) % bs)))) := by
  unfold macThenPad addPadding
  simp [List.append_assoc]

/-- Sender side: every body `_macThenEncrypt` produces (MAC, then `addPadding`) is well formed,
    for every fragment, block size 1..256 and version; so no conforming record is rejected. -/
theorem wellFormed_macThenPad (m : MacAlg) (frag seq : Bytes) (ct : UInt8) (vmaj vmin bs : Nat)
    (hd : ∀ x, (m.digest x).length = m.dlen) (hbs : 0 < bs) (hbs2 : bs ≤ 256) :
    wellFormed m (macThenPad m frag seq ct vmaj vmin bs) seq ct vmaj vmin bs = true := by
  rw [macThenPad_eq]
  exact wellFormed_append m frag _ seq ct vmaj vmin bs _ (by omega) (fun _ => by omega) rfl (hd _)

/-- Corollary: the receiver's check accepts everything a conforming sender produces. -/
theorem cbcCheck_macThenPad (m : MacAlg) (frag seq : Bytes) (ct : UInt8) (vmaj vmin bs : Nat)
    (hd : ∀ x, (m.digest x).length = m.dlen) (hb : 0 < m.blockSize)
    (hbs : 0 < bs) (hbs2 : bs ≤ 256) (hdl : m.dlen < 2^29) (hfl : frag.length < 2^29) :
    cbcCheck m (macThenPad m frag seq ct vmaj vmin bs) seq ct vmaj vmin bs = true := by
  rw [macThenPad_eq]
  exact cbcCheck_append m frag _ seq ct vmaj vmin bs _ (by omega) (fun _ => by omega) rfl hd hdl hfl (by omega)

/-- ... and what the caller strips after a successful check is exactly the fragment. -/
theorem stripPadMac_macThenPad (m : MacAlg) (frag seq : Bytes) (ct : UInt8) (vmaj vmin bs : Nat)
    (hd : ∀ x, (m.digest x).length = m.dlen) (hbs : 0 < bs) (hbs2 : bs ≤ 256) :
    stripPadMac m (macThenPad m frag seq ct vmaj vmin bs) = frag := by
  rw [macThenPad_eq]
  exact stripPadMac_append m frag _ _ (by omega) (hd _)

/-- Soundness read off the characterisation: an accepted TLS body *is* fragment ++ MAC ++ padding
    with the MAC computed over that fragment under this sequence number, type and version. -/
theorem cbcCheck_accept_decomp (m : MacAlg) (data seq : Bytes) (ct : UInt8) (vmaj vmin bs : Nat)
    (hd : ∀ x, (m.digest x).length = m.dlen) (hb : 0 < m.blockSize)
    (hL : data.length < 2^31) (hdl : m.dlen < 2^31) (hbs : bs < 2^32)
    (hacc : cbcCheck m data seq ct vmaj vmin bs = true) :
    data = stripPadMac m data
        ++ m.digest (macHeader seq ct vmaj vmin (stripPadMac m data).length ++ stripPadMac m data)
        ++ data.drop (data.length - (byteAt data (data.length - 1) + 1)) ∧
    (stripPadMac m data).length + m.dlen + (byteAt data (data.length - 1) + 1) = data.length :=
  wellFormed_decomp m data seq ct vmaj vmin bs
    (cbcCheck_eq_wellFormed m data seq ct vmaj vmin bs hd hb hL hdl hbs ▸ hacc)

/-- The function as it stood before the `fix:` commit accepted bodies outside the specification
    (MAC region overlapping the padding, `mac_start` clamped to 0): a concrete witness. -/
theorem cbcCheckOld_accepts_malformed :
    ∃ (m : MacAlg) (data seq : Bytes) (ct : UInt8),
      (∀ x, (m.digest x).length = m.dlen) ∧ 0 < m.blockSize ∧
      cbcCheckOld m data seq ct 3 3 16 = true ∧ wellFormed m data seq ct 3 3 16 = false :=
  ⟨⟨2, 64, fun _ => [1, 1]⟩, [1, 1, 1], [], 23, by intro _; rfl, by decide, by decide, by decide⟩

/-- non-vacuity: a concrete MAC and record meet the hypotheses of the characterisation and
    are accepted -/
example : cbcCheck ⟨2, 64, fun x => [UInt8.ofNat x.length, 7]⟩
    (macThenPad ⟨2, 64, fun x => [UInt8.ofNat x.length, 7]⟩ [10, 20, 30] [0, 0, 0, 0, 0, 0, 0, 1] 23 3 3 16)
    [0, 0, 0, 0, 0, 0, 0, 1] 23 3 3 16 = true :=
  cbcCheck_macThenPad _ _ _ _ _ _ _ (fun _ => rfl) (by decide) (by decide) (by decide) (by decide) (by decide)


open Tls.Py

/-- `ct_lt_u32` as the source has it now, on every pair of naturals (the function masks its
    arguments to 32 bits itself, so no range hypothesis is needed) -/
theorem gen_ct_lt_u32_eq (a b : Nat) : Gen.ct_lt_u32 a b = some (ctLtU32 a b : Int) := by
  simp only [Gen.ct_lt_u32, pure, band_mask32_nat, band_sub_bv, bxor_bv, bor_bv, shr_bv, ctLtU32]

example : Gen.ct_lt_u32 3 5 = some 1 ∧ Gen.ct_lt_u32 5 3 = some 0 ∧ Gen.ct_lt_u32 4294967296 1 = some 1 := by decide +kernel

theorem gen_ct_gt_u32_eq (a b : Nat) : Gen.ct_gt_u32 a b = some (ctGtU32 a b : Int) := by
  simp only [Gen.ct_gt_u32, gen_ct_lt_u32_eq, ctGtU32]

example : Gen.ct_gt_u32 5 3 = some 1 ∧ Gen.ct_gt_u32 3 3 = some 0 := by decide +kernel

theorem gen_ct_le_u32_eq (a b : Nat) : Gen.ct_le_u32 a b = some (ctLeU32 a b : Int) := by
  simp only [Gen.ct_le_u32, gen_ct_gt_u32_eq, bind, pure, pyrt, ctLeU32]

example : Gen.ct_le_u32 5 5 = some 1 ∧ Gen.ct_le_u32 6 5 = some 0 := by decide +kernel

theorem gen_ct_lsb_prop_u8_eq (v : Nat) : Gen.ct_lsb_prop_u8 v = some (ctLsbPropU8 v : Int) := by
  simp only [Gen.ct_lsb_prop_u8, pure, pyrt, ctLsbPropU8]

example : Gen.ct_lsb_prop_u8 1 = some 255 ∧ Gen.ct_lsb_prop_u8 2 = some 0 := by decide +kernel

theorem gen_ct_lsb_prop_u16_eq (v : Nat) : Gen.ct_lsb_prop_u16 v = some (ctLsbPropU16 v : Int) := by
  simp only [Gen.ct_lsb_prop_u16, pure, pyrt, ctLsbPropU16]

example : Gen.ct_lsb_prop_u16 3 = some 65535 := by decide +kernel

theorem gen_ct_isnonzero_u32_eq (v : Nat) : Gen.ct_isnonzero_u32 v = some (ctIsNonZeroU32 v : Int) := by
  simp only [Gen.ct_isnonzero_u32, pure, band_mask32_nat, band_neg_bv, bor_bv, shr_bv, ctIsNonZeroU32]

example : Gen.ct_isnonzero_u32 0 = some 0 ∧ Gen.ct_isnonzero_u32 4294967296 = some 0 ∧ Gen.ct_isnonzero_u32 9 = some 1 := by decide +kernel

theorem gen_ct_neq_u32_eq (a b : Nat) : Gen.ct_neq_u32 a b = some (ctNeqU32 a b : Int) := by
  simp only [Gen.ct_neq_u32, pure, band_mask32_nat, band_sub_bv, bor_bv, shr_bv, ctNeqU32]

example : Gen.ct_neq_u32 7 8 = some 1 ∧ Gen.ct_neq_u32 7 7 = some 0 := by decide +kernel

theorem gen_ct_eq_u32_eq (a b : Nat) : Gen.ct_eq_u32 a b = some (ctEqU32 a b : Int) := by
  simp only [Gen.ct_eq_u32, gen_ct_neq_u32_eq, bind, pure, pyrt, ctEqU32]

example : Gen.ct_eq_u32 7 7 = some 1 ∧ Gen.ct_eq_u32 7 8 = some 0 := by decide +kernel

/-- The same for every Python int, negative ones included: the masking functions see their
    arguments mod 2^32 (Python's `x & 0xffffffff`). -/
theorem gen_ct_lt_u32_int (a b : Int) :
    Gen.ct_lt_u32 a b = some (ctLtU32 (a % 4294967296).toNat (b % 4294967296).toNat : Int) := by
  simp only [Gen.ct_lt_u32, pure, band_mask32_int a, band_mask32_int b, band_sub_bv, bxor_bv, bor_bv, shr_bv,
    ctLtU32, ofNat_emod32]

example : Gen.ct_lt_u32 (-1) 5 = some 0 ∧ Gen.ct_lt_u32 5 (-1) = some 1 := by decide +kernel

theorem gen_ct_neq_u32_int (a b : Int) :
    Gen.ct_neq_u32 a b = some (ctNeqU32 (a % 4294967296).toNat (b % 4294967296).toNat : Int) := by
  simp only [Gen.ct_neq_u32, pure, band_mask32_int a, band_mask32_int b, band_sub_bv, bor_bv, shr_bv,
    ctNeqU32, ofNat_emod32]

example : Gen.ct_neq_u32 (-1) 4294967295 = some 0 ∧ Gen.ct_neq_u32 (-1) 0 = some 1 := by decide +kernel

theorem gen_ct_isnonzero_u32_int (a : Int) :
    Gen.ct_isnonzero_u32 a = some (ctIsNonZeroU32 (a % 4294967296).toNat : Int) := by
  simp only [Gen.ct_isnonzero_u32, pure, band_mask32_int a, band_neg_bv, bor_bv, shr_bv, ctIsNonZeroU32,
    ofNat_emod32]

example : Gen.ct_isnonzero_u32 (-4294967296) = some 0 ∧ Gen.ct_isnonzero_u32 (-1) = some 1 := by decide +kernel

/-- What the docstrings promise, read off the source as it is now: the comparison of the arguments
    (mod 2^32) as 0/1, the propagated low bit.  (Model-level counterparts: `ctLtU32_spec` … in
    TlsProofs/CT.lean.) -/
theorem gen_ct_lt_u32_spec (a b : Nat) :
    Gen.ct_lt_u32 a b = some (if a % 2^32 < b % 2^32 then 1 else 0) := by
  rw [gen_ct_lt_u32_eq, ctLtU32_spec]; split <;> rfl

theorem gen_ct_gt_u32_spec (a b : Nat) :
    Gen.ct_gt_u32 a b = some (if a % 2^32 > b % 2^32 then 1 else 0) := by
  rw [gen_ct_gt_u32_eq, ctGtU32_spec]; split <;> rfl

theorem gen_ct_le_u32_spec (a b : Nat) :
    Gen.ct_le_u32 a b = some (if a % 2^32 ≤ b % 2^32 then 1 else 0) := by
  rw [gen_ct_le_u32_eq, ctLeU32_spec]; split <;> rfl

theorem gen_ct_eq_u32_spec (a b : Nat) :
    Gen.ct_eq_u32 a b = some (if a % 2^32 = b % 2^32 then 1 else 0) := by
  rw [gen_ct_eq_u32_eq, ctEqU32_spec]; split <;> rfl

theorem gen_ct_neq_u32_spec (a b : Nat) :
    Gen.ct_neq_u32 a b = some (if a % 2^32 = b % 2^32 then 0 else 1) := by
  rw [gen_ct_neq_u32_eq, ctNeqU32_spec]; split <;> rfl

theorem gen_ct_isnonzero_u32_spec (v : Nat) :
    Gen.ct_isnonzero_u32 v = some (if v % 2^32 = 0 then 0 else 1) := by
  rw [gen_ct_isnonzero_u32_eq, ctIsNonZeroU32_spec]; split <;> rfl

theorem gen_ct_lsb_prop_u8_spec (v : Nat) :
    Gen.ct_lsb_prop_u8 v = some (if v % 2 = 1 then 255 else 0) := by
  rw [gen_ct_lsb_prop_u8_eq, ctLsbPropU8_spec]; split <;> rfl

theorem gen_ct_lsb_prop_u16_spec (v : Nat) :
    Gen.ct_lsb_prop_u16 v = some (if v % 2 = 1 then 65535 else 0) := by
  rw [gen_ct_lsb_prop_u16_eq, ctLsbPropU16_spec]; split <;> rfl

/-- `ct_check_cbc_mac_and_pad` as the source has it now (both loops, the hmac copy/update/digest
    calls, `max(0, …)`, `//`, the slices, `bytearray([…])`) returns exactly what the hand-written
    `cbcCheck` returns, for every body, MAC algorithm, sequence number, content type, block size
    and each of the four versions the function's `assert` admits.  `mac` is an hmac object that
    has absorbed nothing yet (what the record layer passes).
    Hypotheses: `hv` is the function's own `assert`; `hd` (digest() returns digest_size bytes)
    keeps `mac_compare[j]` in range, `hb` excludes ZeroDivisionError in `// mac.block_size`;
    `hL`: for `mac_start ≥ 65536` the source raises ValueError in `bytearray([mac_start >> 8])`
    (the hand model truncates instead) — TLS record bodies are below 2^14 + 2048 bytes. -/
theorem gen_ct_check_cbc_mac_and_pad_eq (m : MacAlg) (data seq : Bytes) (ct : UInt8) (vmaj vmin bs : Nat)
    (hd : ∀ x, (m.digest x).length = m.dlen) (hb : 0 < m.blockSize)
    (hv : (vmaj, vmin) ∈ [(3, 0), (3, 1), (3, 2), (3, 3)])
    (hL : data.length < 2^16) :
    Gen.ct_check_cbc_mac_and_pad data ⟨m, []⟩ seq (ct.toNat : Int) ((vmaj : Int), (vmin : Int)) (bs : Int)
      = some (cbcCheck m data seq ct vmaj vmin bs) := by
  obtain ⟨hguard, hs1, hs2, hvmaj, hvmin⟩ := ver_facts vmaj vmin hv
  unfold Gen.ct_check_cbc_mac_and_pad cbcCheck
  simp only [bind, pure, macDigestSize_mk, macBlockSize_mk, len_eq, hguard, bind_some', hs1, hs2]
  by_cases h0 : m.dlen + 1 > data.length
  · have : ((m.dlen : Int) + 1 > (data.length : Int)) := by omega
    simp only [h0, this, decide_true, if_true]
  · have h0' : ¬ ((m.dlen : Int) + 1 > (data.length : Int)) := by omega
    simp only [h0, h0', decide_false, if_false, Bool.false_eq_true]
    generalize hp : byteAt data (data.length - 1) = p
    have hgi : getItem data ((data.length : Int) - 1) = some (p : Int) := by
      have e : ((data.length : Int) - 1) = ((data.length - 1 : Nat) : Int) := by omega
      rw [e, getItem_nat data _ (by omega), hp]
    have e6 : ((data.length : Int) - (m.dlen : Int)) = ((data.length - m.dlen : Nat) : Int) :=
      (Int.natCast_sub (by omega)).symm
    have hms16 : data.length - p - 1 - m.dlen < 65536 :=
      Nat.lt_of_le_of_lt (Nat.le_trans (Nat.sub_le _ _) (Nat.le_trans (Nat.sub_le _ _) (Nat.sub_le _ _))) hL
    have b1 : bytearrayOfInts [(ct.toNat : Int)] = some [ct] := by
      rw [bytearrayOfInts_one _ ct.toNat_lt]; simp
    -- one statement at a time: the value it returns, then the rest of the function at that value
    refine bind_eq_of _ hgi (bind_eq_of _ (gen_ct_lt_u32_eq data.length (p + 1 + m.dlen))
      (bind_eq_of _ (gen_ct_lsb_prop_u8_eq _) ?_))
    -- `max(0, a - b)` on Python ints is truncated subtraction; the positions are naturals
    simp only [PyE.lit_cast, PyE.lit_cast_one, ← Int.natCast_add, max2_zero, Int.toNat_sub, toNat_sub_sub, e6,
      bor_zero_nat]
    generalize hr0 : ctLsbPropU8 (ctLtU32 data.length (p + 1 + m.dlen)) = r0
    generalize hms : data.length - p - 1 - m.dlen = ms at hms16 ⊢
    generalize hsp : (data.length - (256 + m.dlen)) / m.blockSize * m.blockSize = sp
    generalize hr1 : (if isSsl3 vmaj vmin = true then ctLsbPropU8 (ctLtU32 bs p)
        else orFold (List.range' (data.length - 256) (data.length - (data.length - 256))) fun i =>
          (byteAt data i ^^^ p) &&& ctLsbPropU8 (ctLeU32 (data.length - p - 1) i)) = r1
    refine Returns.bind_eq (P := fun s => s.2 = ((r0 ||| r1 : Nat) : Int)) ?_ ?_
    · subst hr1
      cases isSsl3 vmaj vmin
      · simp only [Bool.false_eq_true, if_false, Prod.eta, Option.bind_fun_some]
        refine returns_orLoop Prod.snd _ (data.length - 256) data.length _ _ r0 ?_ fun k s r _ hk hs => ?_
        · rfl
        simp only [gen_ct_le_u32_eq, gen_ct_lsb_prop_u8_eq, bind_some', getItem_nat data k hk, bxor_nat, band_nat, hs,
          bor_nat]
        exact .pure rfl
      · simp only [if_true, gen_ct_lt_u32_eq, gen_ct_lsb_prop_u8_eq, bind_some', bor_nat]
        exact .pure rfl
    -- only the result component of the padding state is used below
    intro S0 hS2
    -- MAC part: what data_mac has absorbed is the model's header
    refine bind_eq_of _ (floordiv_nat _ _ hb) (bind_eq_of _ b1 ?_)
    refine bind_eq_of (⟨m, seq ++ [ct] ++ (if isSsl3 vmaj vmin = true then []
        else [UInt8.ofNat vmaj] ++ [UInt8.ofNat vmin])⟩ : MacObj) ?_ ?_
    · cases isSsl3 vmaj vmin <;>
        simp [bytearrayOfInts_one _ hvmaj, bytearrayOfInts_one _ hvmin, macCopy_eq, macUpdate_mk]
    refine bind_eq_of _ (bytearrayOfInts_shr8 _ hms16) (bind_eq_of _ (bytearrayOfInts_and255 _) ?_)
    simp only [← Int.natCast_mul, hsp, macCopy_eq, macUpdate_mk, macDigest_mk, header_eq, slice_to]
    refine Returns.bind_eq (returns_orLoop Prod.snd (fun i => orFold (List.range m.dlen) fun j =>
        (byteAt data (i + j) ^^^ byteAt (m.digest (macHeader seq ct vmaj vmin ms ++ List.take sp data
          ++ (data.drop sp).take (i - sp))) j) &&& ctLsbPropU8 (ctEqU32 i ms))
      sp (data.length - m.dlen) _ _ (r0 ||| r1) hS2 fun k s r _ hk hs => ?_) fun s3 h3 => ?_
    · simp only [gen_ct_eq_u32_eq, gen_ct_lsb_prop_u8_eq, bind_some']
      rw [slice_nat, List.range_eq_range']
      refine (returns_orLoop id _ 0 m.dlen _ _ r hs fun j r' r'' _ hj hr => ?_).bind fun _ h => .pure h
      rw [← Int.natCast_add, getItem_nat data (k + j) (Nat.lt_trans (Nat.add_lt_add_left hj k) (Nat.add_lt_of_lt_sub hk)),
        bind_some', getItem_nat _ j (by rw [hd]; exact hj), bind_some', bxor_nat, band_nat]
      obtain rfl : r' = r'' := hr
      exact .pure (bor_nat _ _)
    · refine congrArg some ?_
      rw [h3, Bool.eq_iff_iff]
      simp only [decide_eq_true_eq, beq_iff_eq, Int.natCast_eq_zero]

/-- non-vacuity: the regenerated function evaluated on a concrete record (accept) -/
example : Gen.ct_check_cbc_mac_and_pad
    (macThenPad ⟨2, 64, fun x => [UInt8.ofNat x.length, 7]⟩ [10, 20, 30] [0, 0, 0, 0, 0, 0, 0, 1] 23 3 3 16)
    ⟨⟨2, 64, fun x => [UInt8.ofNat x.length, 7]⟩, []⟩ [0, 0, 0, 0, 0, 0, 0, 1] 23 (3, 3) 16 = some true :=
  (gen_ct_check_cbc_mac_and_pad_eq _ _ _ 23 3 3 16 (fun _ => rfl) (by decide) (by decide) (by decide)).trans
    (congrArg some (cbcCheck_macThenPad _ _ _ _ _ _ _ (fun _ => rfl) (by decide) (by decide) (by decide) (by decide) (by decide)))

/-- The characterisation, stated about the regenerated source text: for every record body below
    2^16 bytes, `ct_check_cbc_mac_and_pad` as it stands in the tree under check returns (no
    exception) exactly the plain specification. -/
theorem gen_cbcCheck_eq_wellFormed (m : MacAlg) (data seq : Bytes) (ct : UInt8) (vmaj vmin bs : Nat)
    (hd : ∀ x, (m.digest x).length = m.dlen) (hb : 0 < m.blockSize)
    (hv : (vmaj, vmin) ∈ [(3, 0), (3, 1), (3, 2), (3, 3)])
    (hL : data.length < 2^16) (hdl : m.dlen < 2^31) (hbs : bs < 2^32) :
    Gen.ct_check_cbc_mac_and_pad data ⟨m, []⟩ seq (ct.toNat : Int) ((vmaj : Int), (vmin : Int)) (bs : Int)
      = some (wellFormed m data seq ct vmaj vmin bs) := by
  rw [gen_ct_check_cbc_mac_and_pad_eq m data seq ct vmaj vmin bs hd hb hv hL,
    cbcCheck_eq_wellFormed m data seq ct vmaj vmin bs hd hb (by omega) hdl hbs]

/-- … and so the regenerated source accepts everything a conforming sender produces. -/
theorem gen_accepts_macThenPad (m : MacAlg) (frag seq : Bytes) (ct : UInt8) (vmaj vmin bs : Nat)
    (hd : ∀ x, (m.digest x).length = m.dlen) (hb : 0 < m.blockSize)
    (hv : (vmaj, vmin) ∈ [(3, 0), (3, 1), (3, 2), (3, 3)])
    (hbs : 0 < bs) (hbs2 : bs ≤ 256) (hdl : m.dlen < 2^14) (hfl : frag.length < 2^15) :
    Gen.ct_check_cbc_mac_and_pad (macThenPad m frag seq ct vmaj vmin bs) ⟨m, []⟩ seq (ct.toNat : Int)
      ((vmaj : Int), (vmin : Int)) (bs : Int) = some true := by
  rw [gen_ct_check_cbc_mac_and_pad_eq m _ seq ct vmaj vmin bs hd hb hv ?_,
    cbcCheck_macThenPad m frag seq ct vmaj vmin bs hd hb hbs hbs2 (by omega) (by omega)]
  have := length_macThenPad_le m frag seq ct vmaj vmin bs hd hbs
  omega

/-- the translator understood every statement of the nine functions (no poison was emitted) -/
theorem gen_translation_complete :
    Gen.translatorProblems = [] ∧ Gen.translated.all (fun x => x.2) = true ∧ Gen.translated.length = 9 := by
  decide

end Tls.CT
