import TlsProofs.Codec
import TlsProofs.CodecLoop
import TlsProofs.Ssl2
import TlsProofs.GenCodec
import TlsProofs.FmtFit
import TlsModel.Msgs
/-
  C15 — every message and extension codec round-trips and enforces its framing exactly.

  `Fmt` (TlsModel/Fmt.lean) describes a wire format; `encode`/`decode` are the generic
  serialiser / parser.  The theorems below are proved once, by induction on the
  description, for every format satisfying the decidable well-formedness predicate
  `wf` (`wf false f`: self-delimiting, `wf true f`: may end its enclosing region); every
  concrete tlslite format of TlsModel/Msgs.lean is an instance (`msgs_*_wf`, by evaluation,
  re-checked against the regenerated extension dispatch tables on every run).
  `Tls.Codec` models `Writer`/`Parser` of tlslite/utils/codec.py method by method.
-/
namespace Tls.C15
open Tls Tls.Fmt Tls.Codec

/-- Self-delimiting formats (all handshake messages, record header, whole extensions):
    whatever follows the encoding, parsing returns the value and exactly what followed. -/
theorem decode_encode (f : Fmt) (hf : wf false f = true) (t : Nat) (v : Val) (b r : Bytes)
    (h : encode f t v = some b) : decode f t (b ++ r) = .ok (v, r) :=
  decode_of_encode f false t v b r hf h (by simp)

example : decode Msgs.keyShareEntry 0 ([0, 29, 0, 2, 7, 8] ++ [9, 9]) =
    .ok (.pair (.nat 29) (.bytes [7, 8]), [9, 9]) := by decide +kernel

/-- Tail formats (extension_data, heartbeat, …: the parser is handed exactly the structure):
    parsing the encoding returns the value and consumes everything. -/
theorem decode_encode_tail (f : Fmt) (hf : wf true f = true) (t : Nat) (v : Val) (b : Bytes)
    (h : encode f t v = some b) : decode f t b = .ok (v, []) := by
  have := decode_of_encode f true t v b [] hf h (fun _ => rfl)
  simpa using this

example : decode (Msgs.extBody .supportedGroups) 0 [0, 4, 0, 29, 0, 23] =
    .ok (.some (.cons (.nat 29) (.cons (.nat 23) .nil)), []) := by decide +kernel

/-- Whatever `decode` accepts re-serialises to exactly the bytes it consumed; the rest it
    returns is the untouched remainder (for every format, well-formed or not). -/
theorem encode_decode (f : Fmt) (t : Nat) (b : Bytes) (v : Val) (r : Bytes)
    (h : decode f t b = .ok (v, r)) : ∃ e, encode f t v = some e ∧ e ++ r = b :=
  encode_of_decode f t b v r h

example : encode Msgs.keyShareEntry 0 (.pair (.nat 29) (.bytes [7, 8])) = some [0, 29, 0, 2, 7, 8] := by
  decide +kernel

/-- A self-delimiting format has one encoding per value and one value per encoding: the two
    round trips make `encode`/`decode` mutually inverse bijections between fitting values and
    accepted byte strings. -/
theorem decode_unique (f : Fmt) (t : Nat) (b b' : Bytes) (v : Val) (r : Bytes)
    (h : decode f t b = .ok (v, r)) (h' : decode f t b' = .ok (v, r)) : b = b' := by
  obtain ⟨e, he, rfl⟩ := encode_decode f t b v r h
  obtain ⟨e', he', rfl⟩ := encode_decode f t b' v r h'
  rw [he] at he'; cases he'; rfl

/-- For a value of the right shape, serialisation fails exactly when some integer does not
    fit its field or some length-prefixed body is too long for its length field (`fits`,
    defined from the sizes `encLen`, not from `encode`). -/
theorem encode_none_iff_overflow (f : Fmt) (t : Nat) (v : Val) (hs : shape f t v = true) :
    encode f t v = none ↔ fits f t v = false := by
  rw [← Option.not_isSome_iff_eq_none, encode_isSome, hs, Bool.true_and, Bool.not_eq_true]

set_option maxRecDepth 8000 in
example : encode (varBytes 1) 0 (.bytes (List.replicate 256 0)) = none := by
  rw [encode_lenPref_eq, encode, Option.bind_some, List.length_replicate]; rfl
set_option maxRecDepth 8000 in
example : encode (varBytes 1) 0 (.bytes (List.replicate 255 0)) ≠ none := by
  rw [encode_lenPref_eq, encode, Option.bind_some, List.length_replicate]; exact nofun
set_option maxRecDepth 8000 in
example : fits (varBytes 1) 0 (.bytes (List.replicate 256 0)) = false := by
  rw [fits, encLen, List.length_replicate]; rfl

/-- When it succeeds, the encoding has exactly the computed length, every field fits, and
    (by `decode_encode`) reading it back yields the original value: nothing was masked. -/
theorem encode_some_fits (f : Fmt) (t : Nat) (v : Val) (b : Bytes) (h : encode f t v = some b) :
    b.length = encLen f t v ∧ shape f t v = true ∧ fits f t v = true := by
  refine ⟨encode_length f t v b h, ?_⟩
  rw [← Bool.and_eq_true, ← encode_isSome, h]
  rfl

example : (encode Msgs.keyUpdate 0 (.nat 1)).map List.length = some 4 := by decide +kernel

/-- Accepting a length-delimited structure means: the input is the length field, a body of
    exactly that length which the inner format consumes completely, and the rest. -/
theorem decode_exact (ll : Nat) (f : Fmt) (t : Nat) (bs : Bytes) (v : Val) (r : Bytes)
    (h : decode (.lenPref ll f) t bs = .ok (v, r)) :
    ∃ body, bs = beEncode ll body.length ++ body ++ r ∧ body.length < 256 ^ ll ∧
      decode f t body = .ok (v, []) :=
  decode_lenPref_exact h

example : decode (.lenPref 1 (.uint 2)) 0 [2, 1, 0, 9] = .ok (.nat 256, [9]) := by decide +kernel

/-- Complete behaviour of a length-delimited structure on `length ‖ body ‖ rest`: the inner
    parser sees the body and nothing else; it must accept it and leave nothing. -/
theorem decode_lenPref_char (ll : Nat) (f : Fmt) (t : Nat) (body r : Bytes)
    (hl : body.length < 256 ^ ll) :
    decode (.lenPref ll f) t (beEncode ll body.length ++ body ++ r) =
      match decode f t body with
      | .ok (v, []) => .ok (v, r)
      | .ok (_, _ :: _) => .error .trailing
      | .error e => .error e :=
  decode_lenPref_append ll f t body r hl

/-- Truncated input: every strict prefix of a valid encoding of a self-delimiting format is
    a decode error (in particular every truncation of a handshake message). -/
theorem decode_truncated (f : Fmt) (hf : wf false f = true) (t : Nat) (v : Val) (b : Bytes)
    (he : encode f t v = some b) (k : Nat) (hk : k < b.length) :
    ∃ e, decode f t (b.take k) = .error e := by
  cases hd : decode f t (b.take k) with
  | error e => exact ⟨e, rfl⟩
  | ok p =>
    exfalso
    obtain ⟨v', r'⟩ := p
    have h1 := decode_extend f hf t (b.take k) (b.drop k) v' r' hd
    rw [List.take_append_drop] at h1
    have h2 := decode_encode f hf t v b [] he
    rw [List.append_nil, h1] at h2
    simp only [Except.ok.injEq, Prod.mk.injEq, List.append_eq_nil_iff] at h2
    have : (b.drop k).length = 0 := by rw [h2.2.2]; rfl
    simp at this; omega

example : ∃ e, decode Msgs.keyShareEntry 0 [0, 29, 0, 2, 7] = .error e := ⟨.truncated, by decide +kernel⟩

/-- A declared length that runs past the end of the input is a decode error. -/
theorem decode_declared_past_end (ll : Nat) (f : Fmt) (t : Nat) (bs : Bytes)
    (h : bs.length < ll ∨ (bs.drop ll).length < beDecode (bs.take ll)) :
    decode (.lenPref ll f) t bs = .error .truncated := by
  rw [decode_lenPref_eq]
  by_cases h1 : bs.length < ll
  · exact if_pos h1
  · rw [if_neg h1, if_pos (h.resolve_left h1)]

example : decode (varBytes 2) 0 [0, 5, 1, 2] = .error .truncated := by decide +kernel

/-- Trailing bytes inside a length-delimited structure: if the declared length covers a
    complete inner structure plus anything more, the structure is rejected. -/
theorem decode_trailing_rejected (ll : Nat) (f : Fmt) (hf : wf false f = true) (t : Nat) (v : Val)
    (body junk r : Bytes) (he : encode f t v = some body) (hj : junk ≠ [])
    (hl : (body ++ junk).length < 256 ^ ll) :
    decode (.lenPref ll f) t (beEncode ll (body ++ junk).length ++ (body ++ junk) ++ r) =
      .error .trailing := by
  rw [decode_lenPref_char ll f t (body ++ junk) r hl,
    decode_encode f hf t v body junk he]
  cases junk with
  | nil => exact absurd rfl hj
  | cons x xs => rfl

example : decode (.lenPref 1 (.uint 2)) 0 [3, 1, 0, 7, 9] = .error .trailing := by decide +kernel

/-- Inner length disagreeing with the outer one: if the outer length field declares fewer
    bytes than the inner structure needs, the structure is rejected — the inner parser is
    never allowed to read past the outer boundary, whatever follows it. -/
theorem decode_inner_exceeds_outer (ll : Nat) (f : Fmt) (hf : wf false f = true) (t : Nat) (v : Val)
    (body r : Bytes) (he : encode f t v = some body) (k : Nat) (hk : k < body.length)
    (hl : k < 256 ^ ll) :
    ∃ e, decode (.lenPref ll f) t (beEncode ll k ++ body.take k ++ r) = .error e := by
  have hlen : (body.take k).length = k := by rw [List.length_take]; omega
  have := decode_lenPref_char ll f t (body.take k) r (by rw [hlen]; exact hl)
  rw [hlen] at this
  rw [this]
  obtain ⟨e, he'⟩ := decode_truncated f hf t v body he k hk
  exact ⟨e, by rw [he']⟩

example : ∃ e, decode (.lenPref 1 (varBytes 1)) 0 [2, 5, 1, 2, 3, 4, 5] = .error e :=
  ⟨.truncated, by decide +kernel⟩

/-- `decode` never reads past its input and never invents bytes: the rest it returns is a
    suffix of the input and the consumed prefix is the encoding of the value. -/
theorem decode_consumes_prefix (f : Fmt) (t : Nat) (b : Bytes) (v : Val) (r : Bytes)
    (h : decode f t b = .ok (v, r)) : ∃ c, b = c ++ r ∧ encode f t v = some c := by
  obtain ⟨e, he, heb⟩ := encode_decode f t b v r h
  exact ⟨e, heb.symm, he⟩

/-- `Writer.add(x, n)` raises exactly when `x` needs more than `n` bytes … -/
theorem writer_add_overflow (w : Writer) (x n : Nat) :
    (Writer.add w x n = .error .overflow ↔ 256 ^ n ≤ x) ∧
    (∀ w', Writer.add w x n = .ok w' ↔ x < 256 ^ n ∧ w' = w ++ beEncode n x) := by
  refine ⟨?_, fun w' => Writer.add_ok_iff w x n w'⟩
  rw [Writer.add_error_iff]; simp

example : Writer.add [] 65536 2 = .error .overflow := by decide +kernel
example : Writer.add [] 65535 2 = .ok [255, 255] := by decide +kernel

/-- … and otherwise appends `n` bytes that read back as `x` (no masking). -/
theorem writer_add_no_wrap (w : Writer) (x n : Nat) (w' : Writer) (h : Writer.add w x n = .ok w') :
    w'.length = w.length + n ∧ w'.take w.length = w ∧ beDecode (w'.drop w.length) = x := by
  obtain ⟨hx, rfl⟩ := (Writer.add_ok_iff _ _ _ _).mp h
  simp [length_beEncode, beDecode_beEncode_of_lt n x hx]

/-- the fixed-width helpers are `add` with widths 1..4 (same overflow behaviour) -/
theorem writer_fixed_width (w : Writer) (x : Nat) :
    Writer.addOne w x = Writer.add w x 1 ∧ Writer.addTwo w x = Writer.add w x 2 ∧
    Writer.addThree w x = Writer.add w x 3 ∧ Writer.addFour w x = Writer.add w x 4 :=
  ⟨Writer.addOne_eq_add w x, Writer.addTwo_eq_add w x, Writer.addThree_eq_add w x,
   Writer.addFour_eq_add w x⟩

example : Writer.addThree [] 16777216 = .error .overflow := by decide +kernel

/-- `addFixSeq` (and so `addVarSeq`'s items) raises exactly when some element does not fit -/
theorem writer_addFixSeq_overflow (w : Writer) (seq : List Nat) (n : Nat) :
    (∃ e, Writer.addFixSeq w seq n = .error e) ↔ ∃ x ∈ seq, 256 ^ n ≤ x := by
  induction seq generalizing w with
  | nil => simp [Writer.addFixSeq_nil]
  | cons x xs ih =>
    rw [Writer.addFixSeq_cons]
    simp only [List.mem_cons, exists_eq_or_imp]
    split
    · rw [ih]; exact ⟨Or.inr, fun h => h.resolve_left (by omega)⟩
    · exact ⟨fun _ => Or.inl (by omega), fun _ => ⟨_, rfl⟩⟩

/-- `add_var_bytes` is the generic serialiser of `varBytes ll` -/
theorem writer_addVarBytes_is_encode (w : Writer) (data : Bytes) (ll : Nat) :
    Writer.addVarBytes w data ll =
      match encode (varBytes ll) 0 (.bytes data) with
      | some b => .ok (w ++ b)
      | none => .error .overflow := by
  rw [Writer.addVarBytes_eq]
  by_cases h : data.length < 256 ^ ll <;> simp [h, encode]

/-- `Parser.get` never reads past the buffer: it succeeds iff the `n` bytes exist, returns
    their value (`< 256^n`), advances by exactly `n` and stays inside the buffer; otherwise it
    is `DecodeError("Read past end of buffer")`. -/
theorem parser_get_bounds (p : Parser) (n : Nat) :
    (∀ x p', Parser.get p n = .ok (x, p') →
      p'.index = p.index + n ∧ p'.index ≤ p.bytes.length ∧ p'.bytes = p.bytes ∧ x < 256 ^ n ∧
      x = beDecode ((p.bytes.drop p.index).take n)) ∧
    (∀ e, Parser.get p n = .error e ↔ p.bytes.length < p.index + n ∧ e = .readPast) := by
  refine ⟨fun x p' h => ?_, fun e => Parser.get_error_iff p n e⟩
  obtain ⟨a1, a2, a3, _, _, a6, _⟩ := Parser.get_bounds p n x p' h
  obtain ⟨_, hx, _⟩ := (Parser.get_ok_iff _ _ _ _).mp h
  exact ⟨a1, a2, a3, a6, hx⟩

example : Parser.get (Parser.new [1, 2]) 3 = .error .readPast := by decide +kernel
example : (Parser.get (Parser.new [1, 2, 3]) 2).map (·.1) = .ok 258 := by decide +kernel

/-- `getFixList` reads exactly `k·n` bytes, stays inside the buffer, or fails -/
theorem parser_getFixList_bounds (p : Parser) (n k : Nat) (l : List Nat) (p' : Parser)
    (hinv : p.inv) (h : Parser.getFixList p n k = .ok (l, p')) :
    p'.index = p.index + k * n ∧ p'.index ≤ p.bytes.length ∧ l.length = k := by
  obtain ⟨rfl, a2, a6, _⟩ := Parser.getFixList_bounds n k p l p' hinv h
  exact ⟨rfl, a2, a6⟩

/-- `get` / `getVarBytes` on the unread part of the buffer are the generic decoders of
    `uint n` / `varBytes ll`: same acceptance, value and rest -/
theorem parser_get_is_decode (p : Parser) (n : Nat) (hinv : p.inv) :
    (Parser.get p n).toOption.map (fun (x, p') => (Val.nat x, p'.remaining)) =
      (decode (.uint n) 0 p.remaining).toOption := by
  have hinv : p.index ≤ p.bytes.length := hinv
  simp only [Parser.get_eq, decode_uint_eq, Parser.remaining, List.length_drop]
  split
  · rw [if_pos (by omega)]; rfl
  · rw [if_neg (by omega)]; simp [Except.toOption, Nat.add_comm]

theorem parser_getVarBytes_is_decode (p : Parser) (ll : Nat) (hinv : p.inv) :
    (Parser.getVarBytes p ll).toOption.map (fun (b, p') => (Val.bytes b, p'.remaining)) =
      (decode (varBytes ll) 0 p.remaining).toOption := by
  have hinv : p.index ≤ p.bytes.length := hinv
  simp only [Parser.getVarBytes_eq, decode_lenPref_eq, Parser.remaining, List.length_drop, List.drop_drop]
  by_cases h1 : p.bytes.length < p.index + ll
  · rw [if_pos h1, if_pos (show p.bytes.length - p.index < ll by omega)]; rfl
  · rw [if_neg h1, if_neg (show ¬ p.bytes.length - p.index < ll by omega)]
    generalize beDecode ((p.bytes.drop p.index).take ll) = L
    by_cases h2 : p.bytes.length < p.index + ll + L
    · rw [if_pos h2, if_pos (show p.bytes.length - (p.index + ll) < L by omega)]; rfl
    · rw [if_neg h2, if_neg (show ¬ p.bytes.length - (p.index + ll) < L by omega)]
      simp [decode, Except.toOption, Nat.add_assoc]

/-- `stopLengthCheck` passes iff exactly the declared number of bytes was read since the
    check was started -/
theorem parser_stopLengthCheck (p : Parser) :
    Parser.stopLengthCheck p = .ok () ↔ (p.index : Int) - p.indexCheck = p.lengthCheck :=
  Parser.stopLengthCheck_ok_iff p

example : Parser.stopLengthCheck { bytes := [1, 2, 3], index := 3, indexCheck := 1, lengthCheck := 1 } =
    .error .underOver := by decide +kernel

/-- The idiom `startLengthCheck(ll); while not atLengthCheck(): item(p); stopLengthCheck()`, whose
    item parser reads from the shared buffer (so may look beyond the declared region), accepts
    exactly what the generic `list ll f` (a sub-parser confined to the region) accepts on the
    unread bytes, with the same items and the same rest: reading past the region can never
    make a list accepted. -/
theorem parser_lengthCheck_loop_is_list (f : Fmt) (hw : wf false f = true) (hm : 0 < minLen f)
    (t ll : Nat) (p : Parser) (hinv : p.inv) :
    (Parser.lcList (Parser.liftDecode (decode f t)) ll p).toOption.map (fun (v, p') => (v, p'.remaining)) =
      (decode (list ll f) t p.remaining).toOption :=
  Parser.lcList_eq_decode f hw hm t ll p hinv

example : (Parser.lcList (Parser.liftDecode (decode (varBytes 1) 0)) 1 (Parser.new [4, 1, 7, 1, 8, 9])).map
    (fun (v, p') => (v, p'.index)) = .ok (.cons (.bytes [7]) (.cons (.bytes [8]) .nil), 5) := by decide +kernel
example : ∃ e, Parser.lcList (Parser.liftDecode (decode (varBytes 1) 0)) 1 (Parser.new [3, 1, 7, 1, 8, 9]) =
    .error e := ⟨.readPast, by decide +kernel⟩

/-! ## the regenerated source: tlslite/utils/codec.py as it is now computes the hand model

  `Tls.Codec.Gen.*` (TlsModel/Gen/Codec.lean) is re-translated statement by statement from
  codec.py and messages.py on every run (translate/gen_codec.py) into the Python-runtime model
  TlsModel/PyInt.lean + PyObj.lean.  Each `gen_*_eq` says the regenerated method equals the hand
  model's primitive on every state and all natural-number arguments (negative ints are outside the
  model), so the theorems above are theorems about the current source text; an edit of the method
  changes the generated module and breaks its obligation, an unknown construct becomes poison
  (`Exc.other`) which no right-hand side produces. -/

theorem gen_Writer_add_eq (w : Writer) (x n : Nat) :
    Gen.Writer_add ⟨w⟩ x n = liftW (Writer.add w x n) := Codec.gen_Writer_add_eq w x n
theorem gen_Writer_addOne_eq (w : Writer) (x : Nat) :
    Gen.Writer_addOne ⟨w⟩ x = liftW (Writer.addOne w x) := Codec.gen_Writer_addOne_eq w x
theorem gen_Writer_addTwo_eq (w : Writer) (x : Nat) :
    Gen.Writer_addTwo ⟨w⟩ x = liftW (Writer.addTwo w x) := Codec.gen_Writer_addTwo_eq w x
theorem gen_Writer_addThree_eq (w : Writer) (x : Nat) :
    Gen.Writer_addThree ⟨w⟩ x = liftW (Writer.addThree w x) := Codec.gen_Writer_addThree_eq w x
theorem gen_Writer_addFour_eq (w : Writer) (x : Nat) :
    Gen.Writer_addFour ⟨w⟩ x = liftW (Writer.addFour w x) := Codec.gen_Writer_addFour_eq w x
theorem gen_Writer_addFixSeq_eq (w : Writer) (seq : List Nat) (n : Nat) :
    Gen.Writer_addFixSeq ⟨w⟩ (seq.map fun (k : Nat) => (k : Int)) n = liftW (Writer.addFixSeq w seq n) :=
  Codec.gen_Writer_addFixSeq_eq w seq n
theorem gen_Writer_addVarSeq_eq (w : Writer) (seq : List Nat) (n ll : Nat) :
    Gen.Writer_addVarSeq ⟨w⟩ (seq.map fun (k : Nat) => (k : Int)) n ll = liftW (Writer.addVarSeq w seq n ll) :=
  Codec.gen_Writer_addVarSeq_eq w seq n ll
theorem gen_Writer_add_var_bytes_eq (w : Writer) (d : Bytes) (ll : Nat) :
    Gen.Writer_add_var_bytes ⟨w⟩ d ll = liftW (Writer.addVarBytes w d ll) := Codec.gen_Writer_add_var_bytes_eq w d ll
theorem gen_Parser_getFixBytes_eq (p : Parser) (n : Nat) :
    Gen.Parser_getFixBytes (toGen p) n = liftP id (Parser.getFixBytes p n) := Codec.gen_Parser_getFixBytes_eq p n
theorem gen_Parser_get_eq (p : Parser) (n : Nat) :
    Gen.Parser_get (toGen p) n = liftP (fun (x : Nat) => (x : Int)) (Parser.get p n) := Codec.gen_Parser_get_eq p n
theorem gen_Parser_skip_bytes_eq (p : Parser) (n : Nat) :
    Gen.Parser_skip_bytes (toGen p) n =
      (match Parser.skipBytes p n with | .ok p' => .ok (toGen p') | .error e => .error (excOfP e)) :=
  Codec.gen_Parser_skip_bytes_eq p n
theorem gen_Parser_getVarBytes_eq (p : Parser) (ll : Nat) :
    Gen.Parser_getVarBytes (toGen p) ll = liftP id (Parser.getVarBytes p ll) := Codec.gen_Parser_getVarBytes_eq p ll
theorem gen_Parser_getFixList_eq (p : Parser) (n k : Nat) :
    Gen.Parser_getFixList (toGen p) n k =
      liftP (fun (xs : List Nat) => xs.map fun (x : Nat) => (x : Int)) (Parser.getFixList p n k) :=
  Codec.gen_Parser_getFixList_eq p n k
theorem gen_Parser_getVarList_eq (p : Parser) (n ll : Nat) :
    Gen.Parser_getVarList (toGen p) n ll =
      liftP (fun (xs : List Nat) => xs.map fun (x : Nat) => (x : Int)) (Parser.getVarList p n ll) :=
  Codec.gen_Parser_getVarList_eq p n ll
theorem gen_Parser_startLengthCheck_eq (p : Parser) (ll : Nat) :
    Gen.Parser_startLengthCheck (toGen p) ll =
      (match Parser.startLengthCheck p ll with | .ok p' => .ok (toGen p') | .error e => .error (excOfP e)) :=
  Codec.gen_Parser_startLengthCheck_eq p ll
theorem gen_Parser_setLengthCheck_eq (p : Parser) (n : Nat) :
    Gen.Parser_setLengthCheck (toGen p) n = .ok (toGen (Parser.setLengthCheck p n)) :=
  Codec.gen_Parser_setLengthCheck_eq p n
theorem gen_Parser_stopLengthCheck_eq (p : Parser) :
    Gen.Parser_stopLengthCheck (toGen p) =
      (match Parser.stopLengthCheck p with | .ok () => .ok (toGen p) | .error e => .error (excOfP e)) :=
  Codec.gen_Parser_stopLengthCheck_eq p
theorem gen_Parser_atLengthCheck_eq (p : Parser) :
    Gen.Parser_atLengthCheck (toGen p) =
      (match Parser.atLengthCheck p with | .ok b => .ok (b, toGen p) | .error e => .error (excOfP e)) :=
  Codec.gen_Parser_atLengthCheck_eq p
theorem gen_Parser_getRemainingLength_eq (p : Parser) (hinv : p.inv) :
    Gen.Parser_getRemainingLength (toGen p) = .ok ((Parser.getRemainingLength p : Int), toGen p) :=
  Codec.gen_Parser_getRemainingLength_eq p hinv

/-- `HandshakeMsg.postWrite` as the source has it: type byte, 24-bit length, body — or ValueError;
    the length never spills into the type byte -/
theorem gen_postWrite_eq (t : Nat) (body : Bytes) :
    Gen.HandshakeMsg_postWrite t ⟨body⟩ =
      if t < 256 then
        (match encode (.lenPref 3 .rest) 0 (.bytes body) with
         | some b => .ok (beEncode 1 t ++ b)
         | none => .error .valueError)
      else .error .valueError := Codec.gen_postWrite_eq t body

/-- the translator understood every statement of the methods it translates -/
theorem gen_no_poison : Gen.poisonNotes = [] := by decide +kernel

-- the two methods tied by evaluation and correspondence only: no `gen_*_eq` is proved of them
example : Gen.Writer_addVarTupleSeq ⟨[]⟩ [[1, 2], [3, 4]] 1 1 = .ok ⟨[4, 1, 2, 3, 4]⟩ := by decide +kernel
example : Gen.Writer_addVarTupleSeq ⟨[]⟩ [[1, 2], [3]] 1 1 = .error .valueError := by decide +kernel
example : Gen.Writer_addVarTupleSeq ⟨[]⟩ [[1, 256]] 1 1 = .error .valueError := by decide +kernel
example : (Gen.Parser_getVarTupleList ⟨[4, 1, 2, 3, 4, 9], 0, 0, 0⟩ 1 2 1).map (fun r => (r.1, r.2.index)) =
    .ok ([[1, 2], [3, 4]], 5) := by decide +kernel
example : Gen.Parser_getVarTupleList ⟨[3, 1, 2, 3], 0, 0, 0⟩ 1 2 1 = .error .decodeError := by decide +kernel
-- two methods that have their `gen_*_eq`, evaluated once each
example : Gen.Parser_getVarList ⟨[3, 1, 2, 3], 0, 0, 0⟩ 2 1 = .error .decodeError := by decide +kernel
example : Gen.HandshakeMsg_postWrite 20 ⟨[1, 2]⟩ = .ok [20, 0, 0, 2, 1, 2] := by decide +kernel

/-- `Writer.add` of the current source raises ValueError exactly when the value needs more than `n`
    bytes, and otherwise appends `n` bytes (never a masked value) -/
theorem gen_writer_add_overflow (w : Writer) (x n : Nat) :
    (Gen.Writer_add ⟨w⟩ x n = .error .valueError ↔ 256 ^ n ≤ x) ∧
    (∀ w', Gen.Writer_add ⟨w⟩ x n = .ok w' ↔ x < 256 ^ n ∧ w' = ⟨w ++ beEncode n x⟩) := by
  rw [gen_Writer_add_eq]
  refine ⟨?_, fun ⟨b⟩ => by rw [liftW_eq_ok, Writer.add_ok_iff, PyO.Writer.mk.injEq]⟩
  simp only [liftW_eq_error, Writer.add_error_iff, exists_eq_right]

/-- `Parser.get` of the current source never reads past the buffer -/
theorem gen_parser_get_bounds (p : Parser) (n : Nat) :
    (∀ x p', Gen.Parser_get (toGen p) n = .ok (x, p') →
      p'.index = p.index + n ∧ p'.index ≤ p.bytes.length ∧ p'.bytes = p.bytes ∧ 0 ≤ x ∧ x.toNat < 256 ^ n) ∧
    (Gen.Parser_get (toGen p) n = .error .decodeError ↔ p.bytes.length < p.index + n) := by
  rw [gen_Parser_get_eq]
  cases hg : Parser.get p n with
  | error e =>
    obtain ⟨hlt, rfl⟩ := (Parser.get_error_iff _ _ _).mp hg
    exact ⟨nofun, fun _ => hlt, fun _ => rfl⟩
  | ok q =>
    obtain ⟨y, q'⟩ := q
    obtain ⟨a1, a2, a3, _, _, a6, _⟩ := Parser.get_bounds p n y q' hg
    refine ⟨?_, nofun, fun hlt => absurd hlt (Nat.not_lt.mpr (a1 ▸ a2))⟩
    intro x p' h
    cases h
    have e1 : ((q'.index : Nat) : Int) = (p.index : Int) + (n : Int) := by
      rw [a1, Int.natCast_add]
    exact ⟨e1, Int.ofNat_le.mpr a2, a3, Int.natCast_nonneg y, a6⟩

/-- parse (serialise x) = x for the integer field as the source writes and reads it -/
theorem gen_decode_encode_uint (x n : Nat) (r : Bytes) (b : Bytes)
    (h : Gen.Writer_add ⟨[]⟩ x n = .ok ⟨b⟩) :
    Gen.Parser_get ⟨b ++ r, 0, 0, 0⟩ n = .ok ((x : Int), ⟨b ++ r, n, 0, 0⟩) := by
  obtain ⟨hx, rfl⟩ := (Writer.add_ok_iff _ _ _ _).mp (liftW_eq_ok.mp (gen_Writer_add_eq [] x n ▸ h))
  rw [List.nil_append]
  exact (gen_Parser_get_eq (Parser.new _) n).trans (congrArg (liftP _) (Parser.get_append x r n hx))

/-- `add_var_bytes` of the current source fails exactly when the data is too long for its length
    field (never truncates) … -/
theorem gen_encode_none_iff_overflow_varBytes (w : Writer) (d : Bytes) (ll : Nat) :
    Gen.Writer_add_var_bytes ⟨w⟩ d ll = .error .valueError ↔ 256 ^ ll ≤ d.length := by
  simp only [gen_Writer_add_var_bytes_eq, liftW_eq_error, Writer.addVarBytes_eq, ok_or_throw_eq_error, exists_and_left,
    exists_eq, and_true, Nat.not_lt]

/-- … and `getVarBytes` of the current source reads back exactly what `add_var_bytes` wrote,
    leaving the read position right behind it … -/
theorem gen_decode_encode_varBytes (d r : Bytes) (ll : Nat) (b : Bytes)
    (h : Gen.Writer_add_var_bytes ⟨[]⟩ d ll = .ok ⟨b⟩) :
    Gen.Parser_getVarBytes ⟨b ++ r, 0, 0, 0⟩ ll = .ok (d, ⟨b ++ r, b.length, 0, 0⟩) := by
  obtain ⟨hlt, rfl⟩ :=
    (Writer.addVarBytes_ok_iff _ _ _ _).mp (liftW_eq_ok.mp (gen_Writer_add_var_bytes_eq [] d ll ▸ h))
  rw [List.nil_append]
  exact (gen_Parser_getVarBytes_eq (Parser.new _) ll).trans
    (congrArg (liftP id) (Parser.getVarBytes_append d r ll hlt))

/-- … while every truncation of what `add_var_bytes` wrote makes `getVarBytes` raise DecodeError -/
theorem gen_decode_truncated_varBytes (d : Bytes) (ll : Nat) (b : Bytes) (k : Nat)
    (h : Gen.Writer_add_var_bytes ⟨[]⟩ d ll = .ok ⟨b⟩) (hk : k < b.length) :
    Gen.Parser_getVarBytes ⟨b.take k, 0, 0, 0⟩ ll = .error .decodeError := by
  rw [gen_Writer_add_var_bytes_eq, writer_addVarBytes_is_encode] at h
  cases he : encode (varBytes ll) 0 (.bytes d) with
  | none => rw [he] at h; cases h
  | some e =>
    rw [he] at h
    cases h
    rw [List.nil_append] at hk ⊢
    -- the generic decoder rejects the truncation, so does `getVarBytes`, and it only ever raises
    -- "read past end"
    obtain ⟨er, hdec⟩ := decode_truncated (varBytes ll) rfl 0 (.bytes d) e he k hk
    have hp := parser_getVarBytes_is_decode (Parser.new (e.take k)) ll (Nat.zero_le _)
    rw [show (Parser.new (e.take k)).remaining = e.take k from rfl, hdec] at hp
    have hg := gen_Parser_getVarBytes_eq (Parser.new (e.take k)) ll
    cases hv : Parser.getVarBytes (Parser.new (e.take k)) ll with
    | ok q => rw [hv] at hp; cases hp
    | error er2 =>
      rw [hv, Parser.getVarBytes_error _ _ _ hv] at hg
      exact hg

/-- The three methods of the list idiom `startLengthCheck(ll); while not atLengthCheck(): item; stopLengthCheck()`
    as regenerated are those of the hand model, and the idiom over the hand model (`lcList`) accepts what the
    generic `list ll f` accepts -/
theorem gen_lengthCheck_loop_is_list (f : Fmt) (hw : wf false f = true) (hm : 0 < minLen f)
    (t ll : Nat) (p : Parser) (hinv : p.inv) :
    (∀ q (n : Nat), Gen.Parser_startLengthCheck (toGen q) n =
      (match Parser.startLengthCheck q n with | .ok p' => .ok (toGen p') | .error e => .error (excOfP e))) ∧
    (∀ q, Gen.Parser_atLengthCheck (toGen q) =
      (match Parser.atLengthCheck q with | .ok b => .ok (b, toGen q) | .error e => .error (excOfP e))) ∧
    (∀ q, Gen.Parser_stopLengthCheck (toGen q) =
      (match Parser.stopLengthCheck q with | .ok () => .ok (toGen q) | .error e => .error (excOfP e))) ∧
    (Parser.lcList (Parser.liftDecode (decode f t)) ll p).toOption.map (fun (v, p') => (v, p'.remaining)) =
      (decode (list ll f) t p.remaining).toOption :=
  ⟨fun q n => gen_Parser_startLengthCheck_eq q n, fun q => gen_Parser_atLengthCheck_eq q,
   fun q => gen_Parser_stopLengthCheck_eq q, parser_lengthCheck_loop_is_list f hw hm t ll p hinv⟩

/-! ## SSLv2-framed structures (lengths grouped in front of the data; outside the `Fmt` language) -/

/-- RecordHeader2: `parse(write(h)) = h`, whatever follows the header -/
theorem ssl2_recordHeader_roundtrip (l p : Nat) (e : Bool) (b r : Bytes)
    (h : Ssl2.rh2Encode l p e = some b) : Ssl2.rh2Decode (b ++ r) = .ok ((l, p, e), r) :=
  Ssl2.rh2_decode_encode l p e b r h

/-- RecordHeader2.write refuses exactly the lengths beyond 15 bits (2-byte header) / 14 bits
    (3-byte header) and paddings beyond a byte; it never masks them -/
theorem ssl2_recordHeader_overflow (l p : Nat) (e : Bool) :
    Ssl2.rh2Encode l p e = none ↔
      ((p = 0 ∧ e = false) ∧ 0x8000 ≤ l) ∨ (¬ (p = 0 ∧ e = false) ∧ (0x4000 ≤ l ∨ 256 ≤ p)) := by
  by_cases hs : p = 0 ∧ e = false
  · obtain ⟨rfl, rfl⟩ := hs
    rw [Ssl2.rh2Encode_short]
    by_cases hl : l < 0x8000 <;> simp [hl] <;> omega
  · rw [Ssl2.rh2Encode_long l p e hs]
    by_cases hl : l < 0x4000 ∧ p < 256 <;> simp [hl, hs] <;> omega

example : Ssl2.rh2Encode 0x7fff 0 false = some [0xff, 0xff] := by decide +kernel
example : Ssl2.rh2Encode 0x8000 0 false = none := by decide +kernel
example : Ssl2.rh2Decode [0x40, 0x05, 0x07, 9] = .ok ((5, 7, true), [9]) := by decide +kernel

/-- the `len1 len2 len3 data1 data2 data3` block of SSLv2 hellos round-trips … -/
theorem ssl2_lengths_roundtrip (d1 d2 d3 b r : Bytes) (h : Ssl2.enc3 d1 d2 d3 = some b) :
    Ssl2.dec3 (b ++ r) = .ok ((d1, d2, d3), r) :=
  Ssl2.dec3_enc3 d1 d2 d3 b r h

/-- … consumes exactly the three declared lengths … -/
theorem ssl2_lengths_exact (b d1 d2 d3 r : Bytes) (h : Ssl2.dec3 b = .ok ((d1, d2, d3), r)) :
    ∃ e, Ssl2.enc3 d1 d2 d3 = some e ∧ e ++ r = b := by
  rcases b with _ | ⟨x1, _ | ⟨y1, _ | ⟨x2, _ | ⟨y2, _ | ⟨x3, _ | ⟨y3, body⟩⟩⟩⟩⟩⟩
  iterate 6 exact nomatch h
  rw [Ssl2.dec3_cons] at h
  have b1 : beDecode [x1, y1] < 256 ^ 2 := beDecode_lt [x1, y1]
  have b2 : beDecode [x2, y2] < 256 ^ 2 := beDecode_lt [x2, y2]
  have b3 : beDecode [x3, y3] < 256 ^ 2 := beDecode_lt [x3, y3]
  have r1 : beEncode 2 (beDecode [x1, y1]) = [x1, y1] := beEncode_beDecode [x1, y1]
  have r2 : beEncode 2 (beDecode [x2, y2]) = [x2, y2] := beEncode_beDecode [x2, y2]
  have r3 : beEncode 2 (beDecode [x3, y3]) = [x3, y3] := beEncode_beDecode [x3, y3]
  generalize beDecode [x1, y1] = l1 at *
  generalize beDecode [x2, y2] = l2 at *
  generalize beDecode [x3, y3] = l3 at *
  split at h
  · cases h
  · cases h
    have q1 : (body.take l1).length = l1 := List.length_take_of_le (by omega)
    have q2 : ((body.drop l1).take l2).length = l2 :=
      List.length_take_of_le (by rw [List.length_drop]; omega)
    have q3 : ((body.drop (l1 + l2)).take l3).length = l3 :=
      List.length_take_of_le (by rw [List.length_drop]; omega)
    refine ⟨_, if_pos ⟨by omega, by omega, by omega⟩, ?_⟩
    rw [q1, q2, q3, r1, r2, r3]
    simp only [List.append_assoc, List.cons_append, List.nil_append, ← List.drop_drop, List.take_append_drop]

/-- … and is refused when the declared total runs past the input -/
theorem ssl2_lengths_truncated (b : Bytes) (h : b.length < 6 ∨
    (b.drop 6).length < beDecode (b.take 2) + beDecode ((b.drop 2).take 2) + beDecode ((b.drop 4).take 2)) :
    Ssl2.dec3 b = .error .truncated := by
  simp only [Ssl2.dec3, shorter_eq, decide_eq_true_eq]
  by_cases h6 : b.length < 6
  · simp [h6]
  · rcases h with h | h
    · exact absurd h h6
    · rw [List.length_drop] at h; simp [h6, h]

example : Ssl2.dec3 [0, 1, 0, 0, 0, 2, 7, 8, 9, 5] = .ok (([7], [], [8, 9]), [5]) := by decide +kernel
example : Ssl2.dec3 [0, 1, 0, 0, 0, 3, 7, 8, 9] = .error .truncated := by decide +kernel

/-- SSLv2 ClientHello / ServerHello / ClientMasterKey: parsing what `write()` produced returns the
    value (the ClientHello challenge left-padded to 32 bytes, as the parser stores it) and
    exactly the bytes that followed -/
theorem ssl2_clientHello_roundtrip (a m : Nat) (cs : Val) (sid ch b r : Bytes)
    (h : Ssl2.chEncode (.pair (.nat a) (.pair (.nat m) (.pair cs (.pair (.bytes sid) (.bytes ch))))) = some b) :
    Ssl2.chDecode (b ++ r) =
      .ok (.pair (.nat a) (.pair (.nat m) (.pair cs (.pair (.bytes sid) (.bytes (Ssl2.pad32 ch))))), r) := by
  simp only [Ssl2.chEncode, bind, Option.bind_eq_some_iff, pure, Option.some.injEq] at h
  obtain ⟨ba, ha, bm, hm, c, hc, r3, hr3, rfl⟩ := h
  obtain ⟨ha1, rfl⟩ := Ssl2.u8_some ha
  obtain ⟨hm1, rfl⟩ := Ssl2.u8_some hm
  simp only [List.cons_append, List.nil_append, Ssl2.chDecode]
  rw [Ssl2.dec3_enc3 c sid ch r3 r hr3]
  simp only [Ssl2.decCiphers_encCiphers cs c c.length hc (Nat.le_refl _), UInt8.toNat_ofNat_of_lt' ha1,
    UInt8.toNat_ofNat_of_lt' hm1]

theorem ssl2_serverHello_roundtrip (hit ct a m : Nat) (cert : Bytes) (cs : Val) (sid b r : Bytes)
    (h : Ssl2.shEncode (.pair (.nat hit) (.pair (.nat ct) (.pair (.nat a) (.pair (.nat m)
          (.pair (.bytes cert) (.pair cs (.bytes sid))))))) = some b) :
    Ssl2.shDecode (b ++ r) =
      .ok (.pair (.nat hit) (.pair (.nat ct) (.pair (.nat a) (.pair (.nat m)
          (.pair (.bytes cert) (.pair cs (.bytes sid)))))), r) := by
  simp only [Ssl2.shEncode, bind, Option.bind_eq_some_iff, pure, Option.some.injEq] at h
  obtain ⟨b1, h1, b2, h2, b3, h3, b4, h4, c, hc, r3, hr3, rfl⟩ := h
  obtain ⟨k1, rfl⟩ := Ssl2.u8_some h1
  obtain ⟨k2, rfl⟩ := Ssl2.u8_some h2
  obtain ⟨k3, rfl⟩ := Ssl2.u8_some h3
  obtain ⟨k4, rfl⟩ := Ssl2.u8_some h4
  simp only [List.cons_append, List.nil_append, Ssl2.shDecode]
  rw [Ssl2.dec3_enc3 cert c sid r3 r hr3]
  simp only [Ssl2.decCiphers_encCiphers cs c c.length hc (Nat.le_refl _), UInt8.toNat_ofNat_of_lt' k1,
    UInt8.toNat_ofNat_of_lt' k2, UInt8.toNat_ofNat_of_lt' k3, UInt8.toNat_ofNat_of_lt' k4]

theorem ssl2_clientMasterKey_roundtrip (cipher : Nat) (ck ek ka b r : Bytes)
    (h : Ssl2.cmkEncode (.pair (.nat cipher) (.pair (.bytes ck) (.pair (.bytes ek) (.bytes ka)))) = some b) :
    Ssl2.cmkDecode (b ++ r) = .ok (.pair (.nat cipher) (.pair (.bytes ck) (.pair (.bytes ek) (.bytes ka))), r) := by
  simp only [Ssl2.cmkEncode] at h
  by_cases hc : cipher < 256 ^ 3
  · simp only [hc, if_true, Option.map_eq_some_iff] at h
    obtain ⟨r3, hr3, rfl⟩ := h
    obtain ⟨n3, t3, d3⟩ := beField 3 cipher (r3 ++ r) hc
    simp only [Ssl2.cmkDecode, shorter_eq, decide_eq_true_eq, List.append_assoc, n3, if_false, t3, d3,
      Ssl2.dec3_enc3 ck ek ka r3 r hr3]
  · simp [hc] at h

example : Ssl2.chDecode [0, 2, 0, 3, 0, 0, 0, 1, 1, 2, 3, 9] =
    .ok (.pair (.nat 0) (.pair (.nat 2) (.pair (.cons (.nat 0x010203) .nil)
      (.pair (.bytes []) (.bytes (List.replicate 31 0 ++ [9]))))), []) := by decide +kernel
-- a cipher-spec length that is not a multiple of 3 is refused
example : ∃ e, Ssl2.chDecode [0, 2, 0, 4, 0, 0, 0, 0, 1, 2, 3, 9] = .error e := ⟨.trailing, by decide +kernel⟩

/-- the ticket-payload layout rule never picks a layout that cannot carry a field that is set:
    flags or a server name force version 2, a certificate chain at least version 1, and the
    smallest sufficient layout is chosen -/
theorem ticket_layout_carries_fields (hasChain etm ems hasName : Bool) :
    let v := Msgs.ticketVersion hasChain etm ems hasName
    ((etm || ems || hasName) = true → v = 2) ∧ (hasChain = true → 1 ≤ v) ∧
    ((etm || ems || hasName) = false → hasChain = false → v = 0) ∧ v ≤ 2 := by
  revert hasChain etm ems hasName
  decide +kernel

/-- the regenerated dispatch dictionaries of extensions.py name only classes the model has a
    format for -/
theorem extTables_known :
    (Gen.ExtTable.universal ++ Gen.ExtTable.server ++ Gen.ExtTable.certificate ++
      Gen.ExtTable.hrr).all (fun kc => kc.2 != .unknown) = true := by decide +kernel

/-- every class registered in the dispatch dictionaries of the current source (generated list) is
    in the model's table of extension classes and has a format of its own there -/
theorem ext_registered_classes_have_formats :
    Gen.ExtTable.registered.all (fun c =>
      c != .unknown && Msgs.allExtCls.contains c && !Msgs.isFail (Msgs.extBody c) &&
      wf true (Msgs.extBody c)) = true := by decide +kernel

/-- every extension_data format may end its region (is parsed from exactly its bytes) -/
theorem msgs_extBody_wf : Msgs.allExtCls.all (fun c => wf true (Msgs.extBody c)) = true := by decide +kernel

/-- a whole extension (type, length, data) is self-delimiting in every context, for the
    dispatch tables as they are in the source now -/
theorem msgs_ext_wf :
    [Msgs.ExtCtx.plain, .server, .hrr, .cert].all (fun c => wf false (Msgs.ext c)) = true := by decide +kernel

/-- every named message format is well-formed: self-delimiting unless its parser is handed
    exactly the structure (`exact`), in which case it may use the tail constructs -/
theorem msgs_table_wf :
    Msgs.table.all (fun nm => wf nm.2.exact nm.2.fmt) = true := by decide +kernel

/-- hence every message of the table round-trips through the model of its real parser
    (framing + the parser's own extra condition `post`) … -/
theorem msgs_decode_encode (name : String) (m : Msgs.Msg) (hm : (name, m) ∈ Msgs.table)
    (v : Val) (b r : Bytes) (he : m.encode v = some b) (hp : m.post v = true)
    (hd : Msgs.noDupTags m.fmt 0 v = true)
    (hr : m.exact = true → r = []) : m.decode (b ++ r) = .ok (v, r) :=
  Msgs.Msg.decode_encode m (by simpa using List.all_eq_true.mp msgs_table_wf (name, m) hm) v b r he hp hd hr

/-- … and whatever the model of a real parser accepts re-serialises to the bytes consumed -/
theorem msgs_encode_decode (m : Msgs.Msg) (b : Bytes) (v : Val) (r : Bytes)
    (h : m.decode b = .ok (v, r)) :
    ∃ e, m.encode v = some e ∧ e ++ r = b ∧ m.post v = true ∧ Msgs.noDupTags m.fmt 0 v = true ∧
      (m.exact = true → r = []) := by
  unfold Msgs.Msg.decode at h
  split at h
  · cases h
  next v' r' hd =>
    split at h
    · cases h
    next hx =>
      split at h
      next hp =>
        cases h
        obtain ⟨e, he, heb⟩ := encode_decode m.fmt 0 b v r hd
        have hp := Bool.and_eq_true_iff.mp hp
        refine ⟨e, he, heb, hp.1, hp.2, fun hex => ?_⟩
        cases r with
        | nil => rfl
        | cons x xs => simp [hex] at hx
      · cases h

example : ({ fmt := Msgs.keyUpdate } : Msgs.Msg).decode [0, 0, 1, 1] = .ok (.nat 1, []) := by decide +kernel
example : ({ fmt := Msgs.changeCipherSpec, exact := true } : Msgs.Msg).decode [1, 1] =
    .error .trailing := by decide +kernel
-- EncryptedExtensions with the same (unknown) extension type twice is refused, once is fine
example : ({ fmt := Msgs.encryptedExtensions } : Msgs.Msg).decode
    [0, 0, 10, 0, 8, 0xfa, 0xfa, 0, 0, 0xfa, 0xfa, 0, 0] = .error .rejected := by decide +kernel
example : ({ fmt := Msgs.encryptedExtensions } : Msgs.Msg).decode
    [0, 0, 10, 0, 8, 0xfa, 0xfa, 0, 0, 0xfa, 0xfb, 0, 0] =
      .ok (.cons (.pair (.nat 0xfafa) (.bytes [])) (.cons (.pair (.nat 0xfafb) (.bytes [])) .nil), []) := by decide +kernel

end Tls.C15
