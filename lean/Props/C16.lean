import TlsProofs.ConnDecide
import TlsProofs.ConnFrag
import TlsModel.Gen.Conn
/-
  C16 — post-handshake control traffic never disturbs the data stream or key sync.

  Model: TlsModel/Conn.lean (statement-order mirror of tlsrecordlayer.py's data plane).  Traffic
  keys are generation numbers; a record is accepted only at the generation it was protected under.
  A history is any list of (endpoint, operation); `Op.Honest` admits write, read, key-update
  (requested or not), request-client-auth, heartbeat, close, makefile by either endpoint, and messages
  of a faulty peer that are neither application data nor a well-formed KeyUpdate.
-/
namespace Tls.Conn

/-- Keys stay in step over EVERY honest history from a fresh connection: for each direction whose
    reader is still open, every record in flight carries the generation the reader will hold on
    reaching it, and (writer open) the writer's current generation is the one the reader arrives at. -/
theorem keys_in_step (w0 : World) (h0 : Fresh w0) (ops : List (Side × Op))
    (hh : ∀ o ∈ ops, o.2.Honest) :
    let w := run w0 ops
    (w.s.closed = false → Flight w.s.readGen w.c2s.recs ∧
        (w.c.closed = false → finalGen w.s.readGen w.c2s.recs = w.c.writeGen)) ∧
    (w.c.closed = false → Flight w.c.readGen w.s2c.recs ∧
        (w.s.closed = false → finalGen w.c.readGen w.s2c.recs = w.s.writeGen)) := by
  have h := run_inv w0 ops hh (fresh_inv h0)
  exact ⟨h.c2sKeys.of_open, h.s2cKeys.of_open⟩

/-- Hence no bad_record_mac arises from honest traffic: whenever an open endpoint takes the next
    record off its channel after any honest history, the record-layer check passes. -/
theorem no_bad_record_mac (w0 : World) (h0 : Fresh w0) (ops : List (Side × Op))
    (hh : ∀ o ∈ ops, o.2.Honest) (who : Side)
    (ho : ((run w0 ops).endOf who).closed = false) :
    (nextRecord ((run w0 ops).view who)).1 ≠ .err (.localAlert 20) := by
  have h := keys_in_step w0 h0 ops hh
  cases who with
  | client => exact nextRecord_no_bad_mac (h.2 ho).1
  | server => exact nextRecord_no_bad_mac (h.1 ho).1

/-- Application data is delivered exactly and in order with control traffic interleaved: for an
    open reader (not in the middle of `close`), returned ++ buffered ++ in flight = written. -/
theorem stream_fifo_control (w0 : World) (h0 : Fresh w0) (ops : List (Side × Op))
    (hh : ∀ o ∈ ops, o.2.Honest) :
    let w := run w0 ops
    (w.s.closed = false → w.s.closing = false →
        w.s.got ++ w.s.readBuf ++ appBytes w.c2s.recs = w.c.wrote) ∧
    (w.c.closed = false → w.c.closing = false →
        w.c.got ++ w.c.readBuf ++ appBytes w.s2c.recs = w.s.wrote) := by
  have h := run_inv w0 ops hh (fresh_inv h0)
  refine ⟨fun hc hcl => ?_, fun hc hcl => ?_⟩
  · obtain ⟨rest, h1, h2⟩ := h.c2sFifo.of_not_closing hcl
    rw [← h2 hc]; exact h1
  · obtain ⟨rest, h1, h2⟩ := h.s2cFifo.of_not_closing hcl
    rw [← h2 hc]; exact h1

/-- ... and what a reader has been given is always a prefix of what the peer wrote, closed or not. -/
theorem delivered_is_prefix (w0 : World) (h0 : Fresh w0) (ops : List (Side × Op))
    (hh : ∀ o ∈ ops, o.2.Honest) :
    let w := run w0 ops
    (w.s.closing = false → ∃ rest, w.s.got ++ w.s.readBuf ++ rest = w.c.wrote) ∧
    (w.c.closing = false → ∃ rest, w.c.got ++ w.c.readBuf ++ rest = w.s.wrote) := by
  have h := run_inv w0 ops hh (fresh_inv h0)
  exact ⟨fun hcl => (h.c2sFifo.of_not_closing hcl).imp fun _ => And.left,
    fun hcl => (h.s2cFifo.of_not_closing hcl).imp fun _ => And.left⟩


/-! ### non-vacuity of the history theorems: a concrete TLS 1.3 world and history -/

def exWorld : World :=
  { c := { isClient := true, ver13 := true, hasKeypair := true, myChain := 1, hbSupported := true,
           hbCanSend := true, hbCanRecv := true, hbCallback := true },
    s := { isClient := false, ver13 := true, phaSupported := true, hbSupported := true,
           hbCanSend := true, hbCanRecv := true, hbCallback := true } }

def exHistory : List (Side × Op) :=
  [(.client, .keyUpdate true), (.server, .keyUpdate false), (.client, .write [1, 2, 3]),
   (.server, .read (some 2) 1), (.server, .requestClientAuth 0), (.client, .read none 0),
   (.server, .read none 0), (.server, .read none 0), (.client, .heartbeat [9, 9] 16),
   (.server, .read none 0), (.client, .read none 0), (.server, .inject (.hsOther 1))]

example : Fresh exWorld := by constructor <;> rfl
example : ∀ o ∈ exHistory, o.2.Honest := by
  intro o ho
  simp [exHistory] at ho
  rcases ho with rfl | rfl | rfl | rfl | rfl | rfl | rfl | rfl | rfl | rfl | rfl | rfl <;> simp [Op.Honest, bump, payload]
/-- simultaneous KeyUpdates, buffered data, PHA and a heartbeat: outputs and final generations -/
example : outs exWorld exHistory =
    [.done, .done, .done, .bytes [1, 2], .done, .bytes [], .bytes [3], .bytes [], .done, .stall, .stall,
     .done] := by
  decide +kernel
example : (run exWorld exHistory).s.readGen = 1 ∧ (run exWorld exHistory).s.writeGen = 2 ∧
    (run exWorld exHistory).c.readGen = 2 ∧ (run exWorld exHistory).c.writeGen = 1 ∧
    (run exWorld exHistory).s.chainSet = true ∧ (run exWorld exHistory).c.hbLog = [([9, 9], 16)] ∧
    (run exWorld exHistory).s.got = [1, 2, 3] := by decide +kernel
/-- the mutant "advance the write key BEFORE sending KeyUpdate" is excluded by `Flight`: a KeyUpdate
    record protected under the new generation is not in step -/
example : ¬ Flight 0 [⟨1, .keyUpdate 0⟩] := by simp [Flight]

/-- A heartbeat request is answered with exactly its payload (and 16 bytes of padding), under the
    current write generation; a request with less than 16 bytes of padding is dropped silently.  Holds
    in every receive context that does not itself expect heartbeat records (all of them). -/
theorem heartbeat_echo_exact (e s : List Nat) (l : Local) (p : Bytes) (n : Nat) (rest : List Rec)
    (hopen : l.me.closed = false) (htx : l.me.txDead = false)
    (hin : l.inc.recs = ⟨l.me.readGen, .heartbeat 1 p n⟩ :: rest)
    (he : e.contains 24 = false) (hs : l.me.hbSupported = true) (hr : l.me.hbCanRecv = true) :
    getMsgStep e s l = (.ok .again,
      if n < 16 then popped l rest
      else { popped l rest with
             out := { l.out with recs := l.out.recs ++ [⟨l.me.writeGen, .heartbeat 2 p 16⟩] } }) := by
  rw [getMsgStep_head hin]
  have he' : 24 ∉ e := by simpa using he
  have ha : act e s l.me (.heartbeat 1 p n) = if n < 16 then .drop none none else .drop (some p) none := by
    simp [act, Msg.ct, Msg.hsType, he', hs, hr]
  rw [ha]
  by_cases hn : n < 16
  · rw [if_pos hn, if_pos hn]; rfl
  · rw [if_neg hn, if_neg hn]
    simp [Act.run, tryReply, logHb, sendRaw, popped, hopen, htx]

/-- the response reaches the requester's callback unchanged -/
theorem heartbeat_response_to_callback (e s : List Nat) (l : Local) (p : Bytes) (n : Nat) (rest : List Rec)
    (hin : l.inc.recs = ⟨l.me.readGen, .heartbeat 2 p n⟩ :: rest)
    (he : e.contains 24 = false) (hs : l.me.hbSupported = true) (hc : l.me.hbCallback = true) :
    getMsgStep e s l = (.ok .again,
      { popped l rest with me := { l.me with hbLog := l.me.hbLog ++ [(p, n)] } }) := by
  rw [getMsgStep_head hin]
  have he' : 24 ∉ e := by simpa using he
  have ha : act e s l.me (.heartbeat 2 p n) = .drop none (some (p, n)) := by
    simp [act, Msg.ct, Msg.hsType, he', hs, hc]
  rw [ha]; rfl

example : (getMsgStep [23, 22] [4, 24] ⟨exWorld.s, ⟨[⟨0, .heartbeat 1 [7, 8, 9] 20⟩], false⟩, {}⟩).2.out.recs
    = [⟨0, .heartbeat 2 [7, 8, 9] 16⟩] := by decide +kernel

/-- Post-handshake authentication records the client's chain only after its signature and Finished
    verified: whenever `_handle_srv_pha` turns `session.clientCertChain` from unset to set, it
    returned normally, the chain is the one of the Certificate message, the context was a non-empty
    outstanding one, the next handshake message was a CertificateVerify passing all three checks
    (advertised algorithm, consistent with the key, signature valid) when a certificate was sent,
    and the one after it a Finished whose MAC verified. -/
theorem pha_chain_after_verify (ctx chain : Nat) (l l' : Local) (r : Res Unit)
    (h : handleSrvPha ctx chain l = (r, l')) (h0 : l.me.chainSet = false) (h1 : l'.me.chainSet = true) :
    let l1 : Local := { l with me := { l.me with certReqs := l.me.certReqs.erase ctx } }
    r = .ok () ∧ l'.me.clientChain = chain ∧ ctx ≠ 0 ∧ l.me.certReqs.contains ctx = true ∧
    (chain ≠ 0 → ∃ l2 l3, getMsg [22] [15] (fuelOf l1) l1 = (.ok (.certVerify true true true), l2) ∧
        getMsg [22] [20] (fuelOf l2) l2 = (.ok (.finished true), l3)) ∧
    (chain = 0 → l.me.certRequired = false ∧
        ∃ l3, getMsg [22] [20] (fuelOf l1) l1 = (.ok (.finished true), l3)) := by
  have hs := handleSrvPha_chainSet ctx chain l
  rw [h] at hs
  rcases hs with hk | ⟨hr, hcl, hS⟩
  · rw [h0, h1] at hk; cases hk
  · exact ⟨hr, hcl, hS⟩

/-- a server with outstanding request 1; its channel holds the client's CertificateVerify and Finished (the
    Certificate, already read, is the argument of `handleSrvPha`) -/
def exPha (sigOk finOk : Bool) : Local :=
  ⟨{ exWorld.s with certReqs := [1] },
   ⟨[⟨0, .certVerify true true sigOk⟩, ⟨0, .finished finOk⟩], false⟩, {}⟩

example : (handleSrvPha 1 1 (exPha true true)).2.me.chainSet = true := by decide +kernel
example : (handleSrvPha 1 1 (exPha false true)).2.me.chainSet = false ∧
    (handleSrvPha 1 1 (exPha false true)).2.me.closed = true := by decide +kernel
example : (handleSrvPha 1 1 (exPha true false)).2.me.chainSet = false ∧
    (handleSrvPha 1 1 (exPha true false)).2.me.closed = true := by decide +kernel

/-- Malformed, unsolicited or mode-forbidden control messages are answered with a fatal alert:
    for every message class `fatalDesc` names (KeyUpdate with an invalid request byte or outside
    TLS 1.3, unparsable KeyUpdate / NewSessionTicket, heartbeat when not negotiated or when the mode
    forbids it, CertificateRequest to a client without key pair, Certificate without / with empty /
    with unknown request context, stray CertificateVerify / Finished / ClientHello / HelloRequest,
    CCS, empty and unknown-type records), an open endpoint that reads it raises TLSLocalAlert with
    that description, has sent exactly that fatal alert, is closed, its session is not resumable,
    and nothing was delivered to the application. -/
theorem unsolicited_control_fatal (l : Local) (m : Msg) (rest : List Rec) (d : Nat)
    (mx : Option Nat) (mn : Nat)
    (hopen : l.me.closed = false) (htx : l.me.txDead = false) (hbuf : l.me.readBuf = [])
    (hin : l.inc.recs = ⟨l.me.readGen, m⟩ :: rest) (hd : fatalDesc l.me m = some d) :
    (read mx mn l).1 = .err (.localAlert d) ∧ (read mx mn l).2.me.closed = true ∧
    (read mx mn l).2.me.resumable = false ∧
    (read mx mn l).2.out.recs = l.out.recs ++ [⟨l.me.writeGen, .alert 2 d⟩] ∧
    (read mx mn l).2.me.got = l.me.got := by
  have hi := readIter_fatal l m rest d hopen htx hin hd
  rw [read_of_iter_err hopen (.inr hbuf) hi (by simp) (by simp)]
  refine ⟨rfl, ?_, ?_, ?_, ?_⟩
  · simp [shutdown_me]
  · simp [shutdown_me]
  · simp only [shutdown_out_recs, fatalOn]; rfl
  · simp [shutdown_me, fatalOn, popped]

example : fatalDesc exWorld.c (.keyUpdate 2) = some 47 ∧ fatalDesc exWorld.s (.certificate 0 1) = some 10 ∧
    fatalDesc { exWorld.c with hasKeypair := false } (.certRequest 5 0) = some 10 ∧
    fatalDesc { exWorld.c with hbSupported := false } (.heartbeat 1 [1] 16) = some 10 := by decide

/-- the hypotheses are satisfiable: a client whose next record is KeyUpdate with request byte 2 -/
example : (runLocal (.read none 0) ⟨exWorld.c, ⟨[⟨0, .keyUpdate 2⟩], false⟩, {}⟩).1 = .err (.localAlert 47) ∧
    (runLocal (.read none 0) ⟨exWorld.c, ⟨[⟨0, .keyUpdate 2⟩], false⟩, {}⟩).2.out.recs = [⟨0, .alert 2 47⟩] := by
  decide +kernel

/-- a NewSessionTicket sent by the CLIENT is fatal for a TLS 1.3 server, while a client stores it -/
example : fatalDesc exWorld.s .newSessionTicket = some 10 ∧ fatalDesc exWorld.c .newSessionTicket = none := by decide
example : (read none 0 ⟨exWorld.c, ⟨[⟨0, .newSessionTicket⟩], false⟩, {}⟩).2.me.tickets = 1 := by decide +kernel


/-! ### fragment level: messages cut into several records (recordSize, record_size_limit) -/

/-- Reassembly inverts fragmentation: whatever number of pieces `_sendMsg` cuts each handshake
    message into (KeyUpdate over two records, a Certificate over many, ...), the defragmenter hands
    the read loop exactly the messages that were sent, in order, and ends empty. -/
theorem reassembly_inverts_fragmentation (ver13 : Bool) (nf : Msg → Nat) (recs : List Rec) :
    reasm ver13 none (recs.flatMap (fragRec nf)) = .ok (recs, none) := by
  induction recs with
  | nil => rfl
  | cons r rest ih =>
    simp only [List.flatMap_cons]
    by_cases hc : r.msg.ct = 22 ∧ 2 ≤ nf r.msg
    · obtain ⟨hct, hn⟩ := hc
      rw [fragRec_parts nf r hct hn]
      have h2 : nf r.msg = (nf r.msg - 1) + 1 := by omega
      rw [h2, partsFrom]
      simp only [List.cons_append, reasm, feed, hct]
      have hn' : 2 ≤ nf r.msg - 1 + 1 := by omega
      simp [hn']
      rw [reasm_partsFrom ver13 r.gen r.msg (nf r.msg - 1 + 1) hct _ (nf r.msg - 1) 1 (by omega) (by omega)]
      rw [ih]
    · rw [fragRec_whole nf r hc]
      simp [reasm, feed, ih]

/-- `keys_in_step` over fragment sequences: after every honest history and for EVERY fragmentation
    of what is in flight, each record (fragment or whole message) carries the generation the reader
    holds on reaching it; the reader's generation moves only when a KeyUpdate is complete. -/
theorem keys_in_step_fragments (w0 : World) (h0 : Fresh w0) (ops : List (Side × Op))
    (hh : ∀ o ∈ ops, o.2.Honest) (nf : Msg → Nat) :
    let w := run w0 ops
    (w.s.closed = false → FlightF w.s.readGen (w.c2s.recs.flatMap (fragRec nf))) ∧
    (w.c.closed = false → FlightF w.c.readGen (w.s2c.recs.flatMap (fragRec nf))) := by
  have h := keys_in_step w0 h0 ops hh
  exact ⟨fun hc => flight_fragments nf _ _ (h.1 hc).1, fun hc => flight_fragments nf _ _ (h.2 hc).1⟩

/-- `stream_fifo_control` over fragment sequences -/
theorem stream_fifo_fragments (w0 : World) (h0 : Fresh w0) (ops : List (Side × Op))
    (hh : ∀ o ∈ ops, o.2.Honest) (nf : Msg → Nat) :
    let w := run w0 ops
    (w.s.closed = false → w.s.closing = false →
        w.s.got ++ w.s.readBuf ++ appBytesF (w.c2s.recs.flatMap (fragRec nf)) = w.c.wrote) ∧
    (w.c.closed = false → w.c.closing = false →
        w.c.got ++ w.c.readBuf ++ appBytesF (w.s2c.recs.flatMap (fragRec nf)) = w.s.wrote) := by
  have h := stream_fifo_control w0 h0 ops hh
  simp only [appBytes_fragments]
  exact h

/-- A record of another type in the middle of a fragmented handshake message is fatal in TLS 1.3
    (unexpected_message), e.g. application data between the two halves of a NewSessionTicket. -/
theorem interleaved_fragment_fatal (m x : Msg) (k g : Nat) (hx : x.ct ≠ 22) :
    feed true (some (m, k)) ⟨g, .whole x⟩ = .error 10 := by
  simp [feed, hx]

/-- KeyUpdate split over two records, then data under the NEXT generation: in step; the same data
    under the old generation is not -/
example : FlightF 0 (([⟨0, .keyUpdate 0⟩, ⟨1, .appData [1]⟩] : List Rec).flatMap (fragRec fun _ => 2)) ∧
    ¬ FlightF 0 (([⟨0, .keyUpdate 0⟩, ⟨0, .appData [1]⟩] : List Rec).flatMap (fragRec fun _ => 2)) := by
  simp [fragRec, partsFrom, FlightF, bump, Msg.ct]
example : reasm true none [⟨0, .part .newSessionTicket 0 2⟩, ⟨0, .whole (.appData [1])⟩, ⟨0, .part .newSessionTicket 1 2⟩]
    = .error 10 := by rfl
/-- a KeyUpdate that does not end its record (another handshake message follows in it) is fatal -/
example : fatalDesc exWorld.c (.kuCoalesced 0) = some 10 := by decide

/-! ### tie to the source: tables regenerated from tlslite/tlsrecordlayer.py on every run -/

/-- role of an endpoint as `readAsync` distinguishes it, with the key of the generated branch -/
def roleEnd (keypair reqs client : Bool) : End :=
  { isClient := client, ver13 := true, hasKeypair := keypair, certReqs := if reqs then [1] else [] }

def roleKey (keypair reqs client : Bool) : String :=
  if keypair then "keypair" else if reqs then "certreq_comp" else if client then "client" else "server"

/-- The handshake types the model's read loop lets through are, for every role, the tuple the source
    assigns to `allowedHsTypes` in that branch (with certificate requests outstanding: in the branch
    with the compressed-certificate extension); the content types are `allowedTypes`. -/
theorem gen_read_allowed_matches_model :
    (∀ k r c : Bool, some (allowedHs (roleEnd k r c)) = Gen.Conn.readAllowed.lookup (roleKey k r c)) ∧
    Gen.Conn.readTypes13 = [23, 22] ∧ Gen.Conn.readTypesOld = [23] := by decide

/-- the filter as the model applies it: for every role and every handshake type byte below 32, an
    unparsable message of that type is answered with the generated alert of SyntaxError when the type
    is in the generated tuple, and with unexpected_message otherwise -/
theorem gen_read_filter_probe :
    ∀ k r c : Bool, ∀ t ∈ List.range 32,
      (runLocal (.read none 0) ⟨roleEnd k r c, ⟨[⟨0, .hsMalformed t⟩], false⟩, {}⟩).1 =
        .err (.localAlert (if ((Gen.Conn.readAllowed.lookup (roleKey k r c)).getD []).contains t
                           then (Gen.Conn.excAlert.lookup "_getMsg:SyntaxError").getD 0 else 10)) := by
  intro k r c t _
  have h50 : (Gen.Conn.excAlert.lookup "_getMsg:SyntaxError").getD 0 = 50 := by decide
  rw [← gen_read_allowed_matches_model.1 k r c, h50, Option.getD_some, runLocal_read]
  have h := fun d hd => (unsolicited_control_fatal ⟨roleEnd k r c, ⟨[⟨0, .hsMalformed t⟩], false⟩, {}⟩
    (.hsMalformed t) [] d none 0 rfl rfl rfl rfl hd).1
  have hv : (roleEnd k r c).ver13 = true := rfl
  by_cases ht : (allowedHs (roleEnd k r c)).contains t = true
  · rw [h 50 (by simpa [fatalDesc, hv] using ht), if_pos ht]
  · rw [h 10 (by simpa [fatalDesc, hv] using ht), if_neg ht]

/-- dispatch chain of the read loop as generated, and its behavioural meaning in the model: only a
    KeyUpdate re-arms `try_once` (the same read goes on to the next message), a ticket does not -/
theorem gen_read_dispatch_matches_model :
    Gen.Conn.readDispatch = [("NewSessionTicket", "store"), ("KeyUpdate", "_handle_keyupdate_request"),
      ("CompressedCertificate", "_handle_srv_pha"), ("Certificate", "_handle_srv_pha"),
      ("CertificateRequest", "_handle_pha"), ("else", "readBuffer")] ∧
    Gen.Conn.readRearm = ["KeyUpdate"] ∧
    (runLocal (.read none 0) ⟨exWorld.c, ⟨[⟨0, .keyUpdate 0⟩, ⟨1, .appData [7]⟩], false⟩, {}⟩).1 = .bytes [7] ∧
    (runLocal (.read none 0) ⟨exWorld.c, ⟨[⟨0, .newSessionTicket⟩, ⟨0, .appData [7]⟩], false⟩, {}⟩).1 = .bytes [] := by
  refine ⟨rfl, rfl, ?_⟩
  decide +kernel

/-- KeyUpdate: the source sends first and advances the write keys afterwards, advances the read keys
    and answers a request with update_not_requested, accepts exactly the generated request bytes -/
theorem gen_keyupdate_order_matches_model :
    Gen.Conn.keyUpdateSend = "send_then_advance_write" ∧
    Gen.Conn.keyUpdateHandle = "advance_read_then_if_1_reply_0_else_alert_47" ∧
    (runLocal (.keyUpdate true) ⟨exWorld.c, {}, {}⟩).2.out.recs = [⟨0, .keyUpdate 1⟩] ∧
    (runLocal (.keyUpdate true) ⟨exWorld.c, {}, {}⟩).2.me.writeGen = 1 ∧
    (∀ v ∈ List.range 6,
      ((runLocal (.read none 0) ⟨exWorld.c, ⟨[⟨0, .keyUpdate v⟩], false⟩, {}⟩).1 = .err (.localAlert 47))
        = !(Gen.Conn.keyUpdateValidValues.contains v)) ∧
    (runLocal (.read none 0) ⟨exWorld.c, ⟨[⟨0, .keyUpdate 1⟩], false⟩, {}⟩).2.out.recs = [⟨0, .keyUpdate 0⟩] := by
  refine ⟨rfl, rfl, ?_⟩
  decide +kernel

/-- the alerts the handlers of the model raise are, in order, the `_sendError` call sites of the source -/
theorem gen_send_error_sites_match_model :
    Gen.Conn.sendErrorSites.lookup "_handle_keyupdate_request" = some [47] ∧
    Gen.Conn.sendErrorSites.lookup "_handle_srv_pha" = some [47, 47, 47, 47, 51, 116, 51] ∧
    Gen.Conn.sendErrorSites.lookup "_handle_pha" = some [50, 109, 40, 80] ∧
    Gen.Conn.sendErrorSites.lookup "readAsync" = some [50] ∧
    -- the client's answers to a CertificateRequest whose signature_algorithms are usable / empty / unusable
    (runLocal (.read none 0) ⟨exWorld.c, ⟨[⟨0, .certRequest 7 1⟩], false⟩, {}⟩).1 = .err (.localAlert 109) ∧
    (runLocal (.read none 0) ⟨exWorld.c, ⟨[⟨0, .certRequest 7 2⟩], false⟩, {}⟩).1 = .err (.localAlert 40) ∧
    (runLocal (.read none 0) ⟨exWorld.c, ⟨[⟨0, .certRequest 7 0⟩], false⟩, {}⟩).1 = .bytes [] := by decide +kernel

end Tls.Conn
