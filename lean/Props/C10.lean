import TlsProofs.RsaPkcs1
import TlsProofs.Dh
import TlsModel.Dsa
import TlsProofs.Der
import TlsModel.SignGuard
import TlsModel.Gen.SignSites
import TlsProofs.X25519
import TlsProofs.RsaPadGen
import TlsProofs.RsaPadEq
import TlsProofs.CryptomathEq
import TlsModel.Gen.RsaPad
import Mathlib.Tactic.NormNum.Prime
/-
  C10 — signatures and key agreement are sound, strict and never emitted when faulty.

  §1–3 RSA (CRT with blinding, PKCS#1 v1.5, PSS), §4 FFDH and the ECDH glue, §5 the sign-then-verify
  guards, §6 DSA with its DER, §7 the X25519 / X448 ladder, §8 the regenerated structure of the
  signing sites; the last section proves the regenerated rsakey.py / cryptomath.py equal to the model.

  RSA part.  Model: `TlsModel/Rsa.lean` mirrors tlslite/utils/rsakey.py and python_rsakey.py
  statement by statement (tied to the code by the correspondence run of harness/props/c10.py).
  The hash is an arbitrary function with a fixed non-zero output length (`HashOk`); the random
  salt and the random first unblinder are arguments.
-/
namespace Tls.Rsa
open Nat

/-! ## 1. CRT private operation with blinding -/

/-- a small concrete key (p = 104729, q = 1299709, e = 65537; 37-bit modulus) used for the
    non-vacuity examples -/
def exKey : PrivKey :=
  { pub := { n := 136117223861, e := 65537 }, d := 6617621033, p := 104729, q := 1299709,
    dP := 68169, dQ := 807605, qInv := 23210 }

theorem exKey_valid : ValidKey exKey :=
  ValidKey.of_lcm exKey (by norm_num [exKey]) (by norm_num [exKey]) (by decide) (by decide) (by decide)
    (by decide) (by decide) (by decide) (by decide) (by decide)

/-- **rsa_crt_blinded_correct.**  For primes `p ≠ q`, `n = p·q`, `e·d ≡ 1` and `e·dP ≡ 1 (mod p-1)`,
    `e·dQ ≡ 1 (mod q-1)`, `qInv·q ≡ 1 (mod p)` (`ValidKey`), a blinding state that is fresh or
    consistent, an invertible first unblinder and any `m`: `_rawPrivateKeyOp` returns `m^d mod n`,
    the public operation maps it back to `m` (for `m < n`), and the advanced state is consistent. -/
theorem rsa_crt_blinded_correct {k : PrivKey} (vk : ValidKey k) {st : Blind} {rnd : ℕ}
    (hst : BlindOk k st) (hrnd : st.blinder = 0 → invMod rnd k.pub.n * rnd % k.pub.n = 1) (m : ℕ) :
    (rawPrivateKeyOp k st rnd m).1 = m ^ k.d % k.pub.n ∧
    (m < k.pub.n → rawPublicKeyOp k.pub (rawPrivateKeyOp k st rnd m).1 = m) ∧
    BlindOk k (rawPrivateKeyOp k st rnd m).2 := by
  obtain ⟨h1, h2⟩ := rawPrivateKeyOp_root vk hst hrnd m
  refine ⟨vk.root_unique h1 h2, fun hm => ?_, rawPrivateKeyOp_blindOk vk hst hrnd m⟩
  unfold rawPublicKeyOp
  rw [powMod_eq, Nat.mod_eq_of_modEq h2 hm]

example : (rawPrivateKeyOp exKey ⟨0, 0⟩ 7 65).1 = 65 ^ exKey.d % exKey.pub.n :=
  (rsa_crt_blinded_correct exKey_valid (Or.inl rfl) (fun _ => by decide) 65).1

/-- private ∘ public is the identity on `[0, n)` too (a valid signature is the only pre-image) -/
theorem rsa_private_after_public {k : PrivKey} (vk : ValidKey k) {st : Blind} {rnd : ℕ}
    (hst : BlindOk k st) (hrnd : st.blinder = 0 → invMod rnd k.pub.n * rnd % k.pub.n = 1)
    (s : ℕ) (hs : s < k.pub.n) :
    (rawPrivateKeyOp k st rnd (rawPublicKeyOp k.pub s)).1 = s := by
  obtain ⟨h1, h2⟩ := rawPrivateKeyOp_root vk hst hrnd (rawPublicKeyOp k.pub s)
  apply vk.pow_e_inj h1 hs
  refine h2.trans ?_
  unfold rawPublicKeyOp
  rw [powMod_eq]
  exact Nat.mod_modEq _ _

def runOps (k : PrivKey) : Blind → List (ℕ × ℕ) → List ℕ
  | _, [] => []
  | st, (rnd, m) :: rest =>
    (rawPrivateKeyOp k st rnd m).1 :: runOps k (rawPrivateKeyOp k st rnd m).2 rest

/-- the result is `m^d mod n` at every step of every history (the state stays consistent) -/
theorem rsa_crt_blinded_correct_history {k : PrivKey} (vk : ValidKey k) (ops : List (ℕ × ℕ))
    (st : Blind) (hst : BlindOk k st)
    (hops : ∀ o ∈ ops, invMod o.1 k.pub.n * o.1 % k.pub.n = 1) :
    runOps k st ops = ops.map (fun o => o.2 ^ k.d % k.pub.n) := by
  induction ops generalizing st with
  | nil => rfl
  | cons o rest ih =>
    obtain ⟨rnd, m⟩ := o
    have hr := hops (rnd, m) (List.mem_cons_self ..)
    obtain ⟨h1, _, h3⟩ := rsa_crt_blinded_correct vk hst (fun _ => hr) m
    simp only [runOps, List.map_cons]
    rw [h1, ih _ h3 (fun o ho => hops o (List.mem_cons_of_mem _ ho))]

example : runOps exKey ⟨0, 0⟩ [(7, 65), (9, 66), (11, 3000)]
    = [(7, 65), (9, 66), (11, 3000)].map (fun o => o.2 ^ exKey.d % exKey.pub.n) :=
  rsa_crt_blinded_correct_history exKey_valid [(7, 65), (9, 66), (11, 3000)] ⟨0, 0⟩ (Or.inl rfl)
    (by decide +kernel)

/-- **blinding_invariant.**  `blinder · unblinder^e ≡ 1 (mod n)` holds for the pair created from an
    invertible random number, for the pair handed to the operation, and is preserved by the
    update `blinder ← blinder², unblinder ← unblinder²`. -/
theorem blinding_invariant {k : PrivKey} (hn : 1 < k.pub.n) {st : Blind} {rnd : ℕ}
    (hst : BlindOk k st) (hrnd : st.blinder = 0 → invMod rnd k.pub.n * rnd % k.pub.n = 1) :
    PairOk k (blindStep k st rnd).1.1 (blindStep k st rnd).1.2 ∧
    PairOk k (blindStep k st rnd).2.blinder (blindStep k st rnd).2.unblinder :=
  blindStep_spec hn hst hrnd

theorem blinding_invariant_square {k : PrivKey} {b u : ℕ} (h : PairOk k b u) :
    PairOk k (b * b % k.pub.n) (u * u % k.pub.n) := h.square

example : PairOk exKey (blindStep exKey ⟨0, 0⟩ 7).2.blinder (blindStep exKey ⟨0, 0⟩ 7).2.unblinder :=
  (blinding_invariant (by decide) (Or.inl rfl) (fun _ => by decide)).2

/-! ## 2. PKCS#1 v1.5: verification accepts exactly the canonical encoding -/

/-- DigestInfo headers of RFC 8017 §9.2 note 1 (typed in from the RFC, not from the code) -/
def rfc8017DigestInfo : List (String × Bytes) := [
  ("md5",    [0x30, 0x20, 0x30, 0x0c, 0x06, 0x08, 0x2a, 0x86, 0x48, 0x86, 0xf7, 0x0d, 0x02, 0x05, 0x05, 0x00, 0x04, 0x10]),
  ("sha1",   [0x30, 0x21, 0x30, 0x09, 0x06, 0x05, 0x2b, 0x0e, 0x03, 0x02, 0x1a, 0x05, 0x00, 0x04, 0x14]),
  ("sha224", [0x30, 0x2d, 0x30, 0x0d, 0x06, 0x09, 0x60, 0x86, 0x48, 0x01, 0x65, 0x03, 0x04, 0x02, 0x04, 0x05, 0x00, 0x04, 0x1c]),
  ("sha256", [0x30, 0x31, 0x30, 0x0d, 0x06, 0x09, 0x60, 0x86, 0x48, 0x01, 0x65, 0x03, 0x04, 0x02, 0x01, 0x05, 0x00, 0x04, 0x20]),
  ("sha384", [0x30, 0x41, 0x30, 0x0d, 0x06, 0x09, 0x60, 0x86, 0x48, 0x01, 0x65, 0x03, 0x04, 0x02, 0x02, 0x05, 0x00, 0x04, 0x30]),
  ("sha512", [0x30, 0x51, 0x30, 0x0d, 0x06, 0x09, 0x60, 0x86, 0x48, 0x01, 0x65, 0x03, 0x04, 0x02, 0x03, 0x05, 0x00, 0x04, 0x40])]

/-- the documented second SHA-1 form: AlgorithmIdentifier with the NULL parameter omitted -/
def sha1DigestInfoNoNull : Bytes :=
  [0x30, 0x1f, 0x30, 0x07, 0x06, 0x05, 0x2b, 0x0e, 0x03, 0x02, 0x1a, 0x04, 0x14]

/-- the prefix tables of the tree under check (regenerated on every run) are the RFC's -/
theorem pkcs1_prefixes_are_rfc8017 :
    Gen.Pkcs1.translatorProblems = [] ∧
    Gen.Pkcs1.pkcs1Prefixes = rfc8017DigestInfo ∧
    Gen.Pkcs1.sha1PrefixWithNull = [0x30, 0x21, 0x30, 0x09, 0x06, 0x05, 0x2b, 0x0e, 0x03, 0x02, 0x1a, 0x05, 0x00, 0x04, 0x14] ∧
    Gen.Pkcs1.sha1PrefixNoNull = sha1DigestInfoNoNull :=
  ⟨rfl, rfl, rfl, rfl⟩

def acceptedDigestInfos (alg : String) (h : Bytes) : List Bytes :=
  if alg = "sha1" then [sha1DigestInfoNoNull ++ h, (rfc8017DigestInfo.lookup "sha1").getD [] ++ h]
  else match rfc8017DigestInfo.lookup alg with
    | some pre => [pre ++ h]
    | none => []

/-- `_raw_pkcs1_verify`, the check every PKCS#1 v1.5 verification ends in (and the whole of it when no
    DigestInfo is added: TLS ≤ 1.1 `MD5‖SHA1` signatures, `hashAlg=None`) -/
theorem pkcs1_raw_verify_iff_canonical (k : PubKey) (sig bytes : Bytes) :
    rawPkcs1Verify k sig bytes = true ↔
      sig.length = numBytes k.n ∧ beDecode sig < k.n ∧
      beEncode (numBytes k.n) ((beDecode sig) ^ k.e % k.n) = canonicalEM (numBytes k.n) bytes := by
  unfold rawPkcs1Verify
  rw [addPKCS1Padding_eq, rawPublicKeyOpBytes_eq]
  by_cases h : sig.length = numBytes k.n ∧ beDecode sig < k.n
  · rw [if_pos h]
    exact beq_iff_eq.trans ⟨fun e => ⟨h.1, h.2, e⟩, fun e => e.2.2⟩
  · rw [if_neg h]
    exact iff_of_false nofun fun e => h ⟨e.1, e.2.1⟩

/-- **pkcs1_verify_iff_canonical.**  For every public key, signature string, digest and hash name:
    `verify(sig, h, "pkcs1", alg)` returns True iff the key is not PSS-only, `sig` has the length of
    the modulus, is below the modulus, and `sig^e mod n` — written on exactly `k` bytes — equals THE
    encoding `00 01 FF…FF 00 DigestInfo(alg) h` whose padding fills the block (no short padding, no
    trailing bytes, no alternative DigestInfo except the documented SHA-1 pair). -/
theorem pkcs1_verify_iff_canonical (k : PubKey) (sig h : Bytes) (alg : String) (H : HashAlg) (sLen : ℕ) :
    verify k sig h .pkcs1 (some alg) H sLen = .ok true ↔
      k.pssOnly = false ∧ sig.length = numBytes k.n ∧ beDecode sig < k.n ∧
      ∃ t ∈ acceptedDigestInfos alg h,
        beEncode (numBytes k.n) ((beDecode sig) ^ k.e % k.n) = canonicalEM (numBytes k.n) t := by
  obtain ⟨_, hpre, hnull, hnonull⟩ := pkcs1_prefixes_are_rfc8017
  unfold verify
  by_cases hp : k.pssOnly = true
  · simp [hp]
  · have hp' : k.pssOnly = false := by simpa using hp
    simp only [hp', Bool.false_eq_true, and_false, if_false, true_and]
    by_cases hs : alg = "sha1"
    · subst hs
      simp only [if_true, Except.ok.injEq, Bool.or_eq_true, pkcs1_raw_verify_iff_canonical,
        addPKCS1SHA1Prefix, hnull, hnonull, acceptedDigestInfos]
      simp only [Bool.false_eq_true, if_false, List.mem_cons, List.not_mem_nil, or_false, exists_eq_or_imp,
        exists_eq_left, and_or_left]
      exact Iff.rfl
    · have hs' : ¬ (some alg = some "sha1") := by simpa using hs
      simp only [hs', if_false, if_true, addPKCS1Prefix, hpre, acceptedDigestInfos, hs]
      cases hl : rfc8017DigestInfo.lookup alg with
      | none => simp
      | some pre =>
        simp only [Except.ok.injEq, pkcs1_raw_verify_iff_canonical, List.mem_cons, List.not_mem_nil, or_false, exists_eq_left]

/-- what `sign` produces is accepted (whenever the DigestInfo fits the modulus) -/
theorem pkcs1_sign_verify {k : PrivKey} (vk : ValidKey k) {st : Blind} {rnd : ℕ}
    (hst : BlindOk k st) (hrnd : st.blinder = 0 → invMod rnd k.pub.n * rnd % k.pub.n = 1)
    (hd : k.d ≠ 0) (bytes : Bytes) (hfit : bytes.length + 3 ≤ numBytes k.pub.n) :
    ∃ sig st', rawPkcs1Sign k st rnd bytes = .ok (sig, st') ∧ BlindOk k st' ∧
      rawPkcs1Verify k.pub sig bytes = true := by
  have hn0 := Nat.ne_zero_of_lt vk.n_gt_one
  have hl : (addPKCS1Padding k.pub.n bytes).length = numBytes k.pub.n := by
    rw [addPKCS1Padding_eq]; exact canonicalEM_length _ _ hfit
  have hv : beDecode (addPKCS1Padding k.pub.n bytes) < k.pub.n := by
    rw [addPKCS1Padding_eq]; exact canonicalEM_lt _ hn0 _ hfit
  obtain ⟨sig, st', hok, hst', _, hpub⟩ := rawPrivateKeyOpBytes_of_valid vk hst hrnd _ hl hv
  refine ⟨sig, st', ?_, hst', ?_⟩
  · unfold rawPkcs1Sign; rw [if_neg hd]; exact hok
  · unfold rawPkcs1Verify; rw [hpub]; simp

example : ∃ sig st', rawPkcs1Sign exKey ⟨0, 0⟩ 7 [] = .ok (sig, st') ∧ BlindOk exKey st' ∧
    rawPkcs1Verify exKey.pub sig [] = true :=
  pkcs1_sign_verify exKey_valid (Or.inl rfl) (fun _ => by decide) (by decide) [] (by decide)

/-- under a well-formed key at most one signature string is accepted for a given encoded
    message: every other string — any bit flip, a stripped or added leading zero, … — is rejected -/
theorem pkcs1_signature_unique {k : PrivKey} (vk : ValidKey k) (s1 s2 bytes : Bytes)
    (h1 : rawPkcs1Verify k.pub s1 bytes = true) (h2 : rawPkcs1Verify k.pub s2 bytes = true) :
    s1 = s2 := by
  obtain ⟨l1, v1, e1⟩ := (pkcs1_raw_verify_iff_canonical _ _ _).mp h1
  obtain ⟨l2, v2, e2⟩ := (pkcs1_raw_verify_iff_canonical _ _ _).mp h2
  have hn0 := Nat.zero_lt_of_lt vk.n_gt_one
  have hb := lt_pow_numBytes k.pub.n
  have := congrArg beDecode (e1.trans e2.symm)
  rw [beDecode_beEncode_of_lt _ _ (Nat.lt_trans (Nat.mod_lt _ hn0) hb),
    beDecode_beEncode_of_lt _ _ (Nat.lt_trans (Nat.mod_lt _ hn0) hb)] at this
  exact beDecode_inj _ _ (l1.trans l2.symm) (vk.pow_e_inj v1 v2 this)

/-- a signature string is accepted for at most one encoded DigestInfo: changing the digest (or
    the hash algorithm) of an accepted signature makes verification fail -/
theorem pkcs1_verify_binds_digest (k : PubKey) (sig b1 b2 : Bytes)
    (h1 : rawPkcs1Verify k sig b1 = true) (h2 : rawPkcs1Verify k sig b2 = true) : b1 = b2 := by
  obtain ⟨_, _, e1⟩ := (pkcs1_raw_verify_iff_canonical _ _ _).mp h1
  obtain ⟨_, _, e2⟩ := (pkcs1_raw_verify_iff_canonical _ _ _).mp h2
  exact canonicalEM_inj _ _ _ (e1.symm.trans e2)

/-! ## 3. RSASSA-PSS -/

/-- **pss_verify_accept_iff.**  `EMSA_PSS_verify` returns True exactly when all checks of
    RFC 8017 §9.1.2 pass: emLen ≥ hLen+sLen+2, trailer 0xbc, leftmost `8·emLen−emBits` bits zero,
    PS all zero, separator 0x01, and `H = Hash(00×8 ‖ mHash ‖ salt)`. -/
theorem pss_verify_accept_iff (H : HashAlg) (mHash em : Bytes) (emBits sLen : ℕ) :
    emsaPssVerify H mHash em emBits sLen = .ok () ↔
      let emLen := divceil emBits 8
      let maskedDB := em.take (emLen - H.hLen - 1)
      let h := (em.drop (emLen - H.hLen - 1)).take H.hLen
      H.hLen + sLen + 2 ≤ emLen ∧
      em.getLast? = some 0xbc ∧
      (∃ b0, maskedDB.head? = some b0 ∧ b0.toNat &&& pssTopMask emLen emBits = 0) ∧
      ∃ db, pssRecoverDB H maskedDB h emLen emBits = .ok db ∧
        (∀ x ∈ db.take (emLen - H.hLen - sLen - 2), x = 0) ∧
        db[emLen - H.hLen - sLen - 2]? = some 1 ∧
        h = H.hash (List.replicate 8 (0 : UInt8) ++ mHash ++
              (if sLen ≠ 0 then db.drop (db.length - sLen) else [])) := by
  rw [emsaPssVerify_eq]
  simp only [ite_error_eq_ok, elim_error_eq_ok, bind_eq_ok_iff, ok_or_throw_eq_ok, and_true, Nat.not_lt, ne_eq, Decidable.not_not,
    List.any_eq_true, decide_eq_true_eq, not_exists, not_and]
  constructor
  · rintro ⟨h1, _, hl, rfl, b0, hb, ht, db, hdb, hz, _, hs, rfl, hh⟩
    exact ⟨h1, hl, ⟨b0, hb, ht⟩, db, hdb, hz, hs, hh⟩
  · rintro ⟨h1, hl, ⟨b0, hb, ht⟩, db, hdb, hz, hs, hh⟩
    exact ⟨h1, _, hl, rfl, b0, hb, ht, db, hdb, hz, _, hs, rfl, hh⟩

/-- encoding level: `EMSA_PSS_verify ∘ EMSA_PSS_encode` accepts, for every `emBits` -/
theorem pss_verify_encode {H : HashAlg} (hH : HashOk H) (mHash salt : Bytes) (emBits : ℕ) (em : Bytes)
    (h : emsaPssEncode H mHash emBits salt = .ok em) :
    emsaPssVerify H mHash em emBits salt.length = .ok () := by
  obtain ⟨hlen, dbMask, x, xs, hm, hx, rfl⟩ := emsaPssEncode_ok mHash salt emBits em h
  obtain ⟨hb1, hb2⟩ := divceil8_bounds emBits
  obtain ⟨d, t, hdb, hd⟩ := pssDBOf_head (divceil emBits 8) H.hLen salt
  have hdbl := pssDBOf_length (divceil emBits 8) H.hLen salt hlen
  have hml := mgf1_length hH _ _ _ hm
  generalize hhdef : H.hash (List.replicate 8 0 ++ mHash ++ salt) = hh at hm ⊢
  have hhl : hh.length = H.hLen := hhdef ▸ hH.len _
  -- `k` bits of the first byte are kept, `1 ≤ k ≤ 8`
  have hk' : 8 - (8 * divceil emBits 8 - emBits) = 8 - (divceil emBits 8 * 8 - emBits) := by omega
  generalize hk : 8 - (divceil emBits 8 * 8 - emBits) = k at hk' ⊢
  have hyl : (UInt8.ofNat (x.toNat &&& ((1 <<< k) - 1)) :: xs).length = divceil emBits 8 - H.hLen - 1 := by
    have := congrArg List.length hx
    rw [xorBytes_length, hdbl, hml, Nat.min_self] at this
    exact this.symm
  rw [pss_verify_accept_iff]
  refine ⟨hlen, List.getLast?_concat, ?_⟩
  rw [List.append_assoc, List.take_left' hyl, List.drop_left' hyl, List.take_left' hhl]
  refine ⟨⟨_, rfl, ?_⟩, pssDBOf (divceil emBits 8) H.hLen salt, ?_, ?_, pssDBOf_sep .., ?_⟩
  · unfold pssTopMask
    rw [hk', toNat_ofNat_and, and_mask]
    exact and_topMask_eq_zero k _ (by omega) (Nat.mod_lt _ (Nat.two_pow_pos _))
  · unfold pssRecoverDB
    rw [hm]
    simp only [hk]
    rw [hdb] at hx hdbl ⊢
    exact maskHead_xor_cancel k d t dbMask xs x
      (Nat.lt_of_lt_of_le hd (Nat.pow_le_pow_right (n := 2) (by decide) (by omega : 1 ≤ k)))
      (by rw [hml, ← hdbl]; exact Nat.lt_succ_self _) hx
  · rw [pssDBOf_take]
    exact fun _ => List.eq_of_mem_replicate
  · rw [pssDBOf_salt, hhdef]

/-- **pss_verify_sign.**  Whatever `RSASSA_PSS_sign` returns (any hash with fixed output length,
    any salt, any modulus length — also bit lengths ≡ 1 mod 8) is accepted by `RSASSA_PSS_verify`
    with `sLen = len(salt)`, and the blinding state stays consistent. -/
theorem pss_verify_sign {H : HashAlg} (hH : HashOk H) {k : PrivKey} (vk : ValidKey k)
    {st : Blind} {rnd : ℕ} (hst : BlindOk k st)
    (hrnd : st.blinder = 0 → invMod rnd k.pub.n * rnd % k.pub.n = 1)
    (mHash salt sig : Bytes) (st' : Blind)
    (h : rsassaPssSign H k st rnd mHash salt = .ok (sig, st')) :
    rsassaPssVerify H k.pub mHash sig salt.length = .ok () ∧ BlindOk k st' := by
  unfold rsassaPssSign at h
  cases henc : emsaPssEncode H mHash (numBits k.pub.n - 1) salt with
  | error e => rw [henc] at h; cases h
  | ok em =>
    rw [henc] at h
    simp only [bind, Except.bind] at h
    have hn0 := Nat.ne_zero_of_lt vk.n_gt_one
    have hemlen := emsaPssEncode_length hH mHash salt _ em henc
    have hemlt := emsaPssEncode_lt hH mHash salt _ em henc
    have hle := emLen_le_numBytes k.pub.n
    have hl : (List.replicate (numBytes k.pub.n - em.length) (0 : UInt8) ++ em).length
        = numBytes k.pub.n := by simp; omega
    have hval : beDecode (List.replicate (numBytes k.pub.n - em.length) (0 : UInt8) ++ em) < k.pub.n := by
      rw [beDecode_replicate_zero]
      exact Nat.lt_of_lt_of_le hemlt (two_pow_numBits_le _ hn0)
    obtain ⟨sig0, st0, hok, hst0, _, hpub⟩ := rawPrivateKeyOpBytes_of_valid vk hst hrnd _ hl hval
    rw [hok] at h
    simp only at h
    cases h
    exact ⟨rsassaPssVerify_of_em H k.pub mHash sig em salt.length hpub hemlen
      (pss_verify_encode hH mHash salt _ em henc), hst0⟩

/-- a toy "hash" (2 bytes: xor and length) for non-vacuity: the theorems hold for any function -/
def toyHash : HashAlg :=
  { name := "toy", hLen := 2,
    hash := fun x => [x.foldl (· ^^^ ·) 0x5a, UInt8.ofNat x.length] }

theorem toyHash_ok : HashOk toyHash := ⟨by decide, fun _ => rfl⟩

example : emsaPssEncode toyHash [1, 2] 47 [9] =
    .ok ((emsaPssEncode toyHash [1, 2] 47 [9]).toOption.getD []) ∧
    emsaPssVerify toyHash [1, 2] ((emsaPssEncode toyHash [1, 2] 47 [9]).toOption.getD []) 47 1 = .ok () := by
  decide

/-- one rejection lemma per structural check -/
theorem pss_rejects_short_emLen (H : HashAlg) (mHash em : Bytes) (emBits sLen : ℕ)
    (h : divceil emBits 8 < H.hLen + sLen + 2) : emsaPssVerify H mHash em emBits sLen ≠ .ok () :=
  fun hv => Nat.not_le.mpr h ((pss_verify_accept_iff ..).mp hv).1

theorem pss_rejects_bad_trailer (H : HashAlg) (mHash em : Bytes) (emBits sLen : ℕ)
    (h : em.getLast? ≠ some 0xbc) : emsaPssVerify H mHash em emBits sLen ≠ .ok () :=
  fun hv => h ((pss_verify_accept_iff ..).mp hv).2.1

theorem pss_rejects_leftmost_bits (H : HashAlg) (mHash em : Bytes) (emBits sLen : ℕ) (b0 : UInt8)
    (hb : (em.take (divceil emBits 8 - H.hLen - 1)).head? = some b0)
    (h : b0.toNat &&& pssTopMask (divceil emBits 8) emBits ≠ 0) :
    emsaPssVerify H mHash em emBits sLen ≠ .ok () :=
  fun hv => let ⟨_, hb', hz⟩ := ((pss_verify_accept_iff ..).mp hv).2.2.1
    h (Option.some.inj (hb.symm.trans hb') ▸ hz)

theorem pss_rejects_nonzero_PS (H : HashAlg) (mHash em : Bytes) (emBits sLen : ℕ) (db : Bytes)
    (hdb : pssRecoverDB H (em.take (divceil emBits 8 - H.hLen - 1))
      ((em.drop (divceil emBits 8 - H.hLen - 1)).take H.hLen) (divceil emBits 8) emBits = .ok db)
    (x : UInt8) (hx : x ∈ db.take (divceil emBits 8 - H.hLen - sLen - 2)) (hx0 : x ≠ 0) :
    emsaPssVerify H mHash em emBits sLen ≠ .ok () :=
  fun hv => let ⟨_, hdb', hps, _⟩ := ((pss_verify_accept_iff ..).mp hv).2.2.2
    hx0 (hps x (Except.ok.inj (hdb.symm.trans hdb') ▸ hx))

theorem pss_rejects_bad_separator (H : HashAlg) (mHash em : Bytes) (emBits sLen : ℕ) (db : Bytes)
    (hdb : pssRecoverDB H (em.take (divceil emBits 8 - H.hLen - 1))
      ((em.drop (divceil emBits 8 - H.hLen - 1)).take H.hLen) (divceil emBits 8) emBits = .ok db)
    (h : db[divceil emBits 8 - H.hLen - sLen - 2]? ≠ some 1) :
    emsaPssVerify H mHash em emBits sLen ≠ .ok () :=
  fun hv => let ⟨_, hdb', _, hsep, _⟩ := ((pss_verify_accept_iff ..).mp hv).2.2.2
    h (Except.ok.inj (hdb.symm.trans hdb') ▸ hsep)

theorem pss_rejects_hash_mismatch (H : HashAlg) (mHash em : Bytes) (emBits sLen : ℕ) (db : Bytes)
    (hdb : pssRecoverDB H (em.take (divceil emBits 8 - H.hLen - 1))
      ((em.drop (divceil emBits 8 - H.hLen - 1)).take H.hLen) (divceil emBits 8) emBits = .ok db)
    (h : (em.drop (divceil emBits 8 - H.hLen - 1)).take H.hLen ≠
      H.hash (List.replicate 8 (0 : UInt8) ++ mHash ++ (if sLen ≠ 0 then db.drop (db.length - sLen) else []))) :
    emsaPssVerify H mHash em emBits sLen ≠ .ok () :=
  fun hv => let ⟨_, hdb', _, _, hh⟩ := ((pss_verify_accept_iff ..).mp hv).2.2.2
    h (Except.ok.inj (hdb.symm.trans hdb') ▸ hh)

/-- `RSASSA_PSS_verify` rejects strings of the wrong length or not below the modulus -/
theorem pss_rejects_out_of_range (H : HashAlg) (k : PubKey) (mHash sig : Bytes) (sLen : ℕ)
    (h : sig.length ≠ numBytes k.n ∨ k.n ≤ beDecode sig) :
    rsassaPssVerify H k mHash sig sLen = .error .invalidSignature := by
  unfold rsassaPssVerify
  rw [rawPublicKeyOpBytes_eq, if_neg (by omega)]

end Tls.Rsa

/-! ## 4. Finite-field Diffie–Hellman (`FFDHKeyExchange`) and the ECDH glue -/
namespace Tls.Dh
open Tls Tls.Rsa

/-- `__init__` refuses a generator outside `(1, p)`; what it returns is `Valid` -/
theorem ffdh_new_checks_generator (group : ℕ) (t : Bool) (g p : ℕ) :
    (∀ k, FFDH.new group t g p = .ok k → 1 < k.generator ∧ k.generator < k.prime) ∧
    (group = 0 → (g ≤ 1 ∨ p ≤ g) → FFDH.new group t g p = .error .illegalParameter) := by
  refine ⟨fun k h => ?_, fun hg hbad => ?_⟩
  · unfold FFDH.new at h
    by_cases h0 : p ≠ 0 ∧ group ≠ 0
    · rw [if_pos h0] at h; cases h
    · rw [if_neg h0] at h
      -- wherever the pair came from (table or arguments), it passed the last test
      generalize (if group ≠ 0 then _ else _ : Except Err (ℕ × ℕ)) = gp at h
      obtain _ | ⟨g', p'⟩ := gp
      · cases h
      · simp only at h
        by_cases hv : 1 < g' ∧ g' < p'
        · rw [if_neg (not_not_intro hv)] at h
          cases h; exact hv
        · rw [if_pos hv] at h; cases h
  · unfold FFDH.new
    have : ¬ (1 < g ∧ g < p) := by omega
    simp [hg, this]

/-- the named groups of the tree under check (regenerated on every run): ids 256…260, generator 2,
    odd modulus of the advertised size whose top and bottom 64 bits are all ones (RFC 7919 form) -/
theorem ffdhe_groups_wellformed :
    Gen.Pkcs1.ffdheGroups.map (·.1) = [256, 257, 258, 259, 260] ∧
    Gen.Pkcs1.ffdheGroups.map (fun x => numBits x.2.2) = [2048, 3072, 4096, 6144, 8192] ∧
    ∀ x ∈ Gen.Pkcs1.ffdheGroups, x.2.1 = 2 ∧ x.2.2 % 2 ^ 64 = 2 ^ 64 - 1 ∧
      x.2.2 >>> (numBits x.2.2 - 64) = 2 ^ 64 - 1 ∧ x.2.2 % 8 = 7 := by
  decide +kernel

/-- our own public value is never 1 or p−1 -/
theorem ffdh_public_nondegenerate (k : FFDH) (hv : k.Valid) (a : ℕ) (Y : Share)
    (h : k.calcPublic a = .ok Y) :
    k.generator ^ a % k.prime ≠ 1 ∧ k.generator ^ a % k.prime ≠ k.prime - 1 ∧
    k.normalise Y = .ok (k.generator ^ a % k.prime) := by
  have hp := Nat.zero_lt_of_lt hv.2
  unfold FFDH.calcPublic at h
  simp only [powMod_eq] at h
  by_cases hd : k.generator ^ a % k.prime = 1 ∨ k.generator ^ a % k.prime = k.prime - 1
  · rw [if_pos hd] at h; cases h
  · rw [if_neg hd] at h
    refine ⟨(not_or.mp hd).1, (not_or.mp hd).2, ?_⟩
    by_cases ht : k.tls13 = true
    · rw [if_neg (not_not_intro ht)] at h
      cases h
      -- the TLS 1.3 share has the length of the prime and decodes to the value
      show (if numBytes k.prime ≠ (beEncode (numBytes k.prime) _).length then _ else _) = _
      rw [if_neg (not_not_intro (length_beEncode _ _).symm),
        beDecode_beEncode_of_lt _ _ (Nat.lt_trans (Nat.mod_lt _ hp) (lt_pow_numBytes _))]
    · rw [if_pos ht] at h
      cases h; rfl

/-- **ffdh_agree.**  If both parties' `calc_public_value` and `calc_shared_key` succeed on each
    other's shares, they return the same bytes, the encoding of `g^(a·b) mod p`
    (`(g^a)^b = (g^b)^a`).  Holds for TLS ≤ 1.2 integers and TLS 1.3 fixed-length strings. -/
theorem ffdh_agree (k : FFDH) (hv : k.Valid) (a b : ℕ) (Ya Yb : Share) (Sa Sb : Bytes)
    (h1 : k.calcPublic a = .ok Ya) (h2 : k.calcPublic b = .ok Yb)
    (h3 : k.calcShared a Yb = .ok Sa) (h4 : k.calcShared b Ya = .ok Sb) :
    Sa = Sb ∧ beDecode Sa = k.generator ^ (a * b) % k.prime := by
  have hp := Nat.zero_lt_of_lt hv.2
  obtain ⟨ya, hna, _, _, _, _, hSb⟩ := calcShared_ok k b Ya Sb h4
  obtain ⟨yb, hnb, _, _, _, _, hSa⟩ := calcShared_ok k a Yb Sa h3
  rw [(ffdh_public_nondegenerate k hv a Ya h1).2.2] at hna
  rw [(ffdh_public_nondegenerate k hv b Yb h2).2.2] at hnb
  cases hna; cases hnb
  have e1 : (k.generator ^ b % k.prime) ^ a % k.prime = k.generator ^ (a * b) % k.prime := by
    rw [← Nat.pow_mod, ← Nat.pow_mul, Nat.mul_comm]
  have e2 : (k.generator ^ a % k.prime) ^ b % k.prime = k.generator ^ (a * b) % k.prime := by
    rw [← Nat.pow_mod, ← Nat.pow_mul]
  rw [e1] at hSa
  rw [e2] at hSb
  refine ⟨hSa.trans hSb.symm, ?_⟩
  rw [hSa]
  exact decode_shared k _ (Nat.mod_lt _ hp)

/-- non-vacuity: p = 23, g = 5, a = 6, b = 15 (both flavours) -/
example : (FFDH.calcShared ⟨5, 23, false⟩ 6 (.int 19) = .ok [2]) ∧
    (FFDH.calcShared ⟨5, 23, false⟩ 15 (.int 8) = .ok [2]) ∧
    (FFDH.calcPublic ⟨5, 23, false⟩ 6 = .ok (.int 8)) ∧
    (FFDH.calcPublic ⟨5, 23, true⟩ 15 = .ok (.bytes [19])) := by decide

/-- **ffdh_rejects_small.**  Shares 0, 1, p−1, p and everything ≥ p are refused … -/
theorem ffdh_rejects_small (k : FFDH) (priv y : ℕ) (h : y = 0 ∨ y = 1 ∨ k.prime - 1 ≤ y) :
    k.calcShared priv (.int y) = .error .illegalParameter := by
  unfold FFDH.calcShared FFDH.normalise
  have : ¬ (2 ≤ y ∧ y < k.prime - 1) := by omega
  simp [this]

/-- … also as TLS 1.3 byte strings, where a wrong length is refused as well -/
theorem ffdh_rejects_small_bytes (k : FFDH) (priv : ℕ) (b : Bytes)
    (h : b.length ≠ numBytes k.prime ∨ beDecode b = 0 ∨ beDecode b = 1 ∨ k.prime - 1 ≤ beDecode b) :
    k.calcShared priv (.bytes b) = .error .illegalParameter := by
  unfold FFDH.calcShared FFDH.normalise
  by_cases hl : numBytes k.prime ≠ b.length
  · simp [hl]
  · have hl' : b.length = numBytes k.prime := by
      by_contra hc; exact hl (fun h => hc h.symm)
    have : ¬ (2 ≤ beDecode b ∧ beDecode b < k.prime - 1) := by omega
    simp [hl, this]

/-- … and a degenerate result is never returned: for a prime modulus every returned secret is
    the encoding of a value in `[2, p−2]` (not 0, not 1, not p−1) -/
theorem ffdh_result_nondegenerate (k : FFDH) (hp : k.prime.Prime) (priv : ℕ) (peer : Share) (S : Bytes)
    (h : k.calcShared priv peer = .ok S) : 2 ≤ beDecode S ∧ beDecode S ≤ k.prime - 2 := by
  obtain ⟨y, _, hy2, hyp, hs1, hsp, hS⟩ := calcShared_ok k priv peer S h
  have hp0 : 0 < k.prime := hp.pos
  have hlt : y ^ priv % k.prime < k.prime := Nat.mod_lt _ hp0
  rw [hS, decode_shared k _ hlt]
  have hne0 : y ^ priv % k.prime ≠ 0 := by
    intro h0
    have hd : k.prime ∣ y ^ priv := Nat.dvd_of_mod_eq_zero h0
    have := Nat.le_of_dvd (by omega) (hp.dvd_of_dvd_pow hd)
    omega
  omega

/-- the two guards overlap on the shares 1 and p−1: `(p−1)^a mod p` is always 1 or p−1 (and `1^a = 1`),
    so such a share would be refused by the result check alone.  (Consequence for self-testing:
    weakening only the range check at 1 or p−1 does not change `calc_shared_key`'s behaviour.) -/
theorem ffdh_order_two_share_degenerate (p a : ℕ) (hp : 2 < p) :
    (p - 1) ^ a % p = 1 ∨ (p - 1) ^ a % p = p - 1 := by
  -- `p − 1` is `−1` in `ZMod p`, and a power of `−1` is `1` or `−1`
  have hm : ((p - 1 : ℕ) : ZMod p) = -1 := by
    rw [Nat.cast_sub (by omega), ZMod.natCast_self, zero_sub, Nat.cast_one]
  have h := neg_one_pow_eq_or (ZMod p) a
  rw [← hm, ← Nat.cast_pow, ← Nat.cast_one (R := ZMod p), ZMod.natCast_eq_natCast_iff', ZMod.natCast_eq_natCast_iff',
    Nat.mod_eq_of_lt (by omega : 1 < p), Nat.mod_eq_of_lt (by omega : p - 1 < p)] at h
  exact h

example : FFDH.calcShared ⟨5, 23, false⟩ 6 (.int 22) = .error .illegalParameter ∧
    FFDH.calcShared ⟨5, 23, true⟩ 6 (.bytes [0, 5]) = .error .illegalParameter ∧
    FFDH.calcShared ⟨5, 23, false⟩ 11 (.int 2) = .error .illegalParameter := by decide

/-- **ECDH glue (X25519 / X448).**  `calc_shared_key` returns a value only for a share of exactly
    the group's length, and only if the function's result is not all-zero. -/
theorem ecdh_x_accepts_iff (size : ℕ) (fn : Bytes → Bytes → Bytes) (priv peer s : Bytes) :
    xShared size fn priv peer = .ok s ↔
      peer.length = size ∧ s = fn priv peer ∧ ∃ i ∈ s, i ≠ 0 := by
  unfold xShared
  rw [ite_error_eq_ok, ne_eq, Decidable.not_not]
  refine and_congr_right fun _ => ?_
  simp only
  cases hz : nonZeroCheck (fn priv peer) with
  | error e =>
    exact iff_of_false nofun fun h => nomatch hz.symm.trans ((nonZeroCheck_ok_iff _).mpr (h.1 ▸ h.2))
  | ok u =>
    rw [Except.ok.injEq, eq_comm]
    exact (and_iff_left_of_imp fun h => h ▸ (nonZeroCheck_ok_iff _).mp hz).symm

theorem ecdh_x_rejects_wrong_length (size : ℕ) (fn : Bytes → Bytes → Bytes) (priv peer : Bytes)
    (h : peer.length ≠ size) : xShared size fn priv peer = .error .illegalParameter := by
  unfold xShared; simp [h]

theorem ecdh_x_rejects_all_zero (size : ℕ) (fn : Bytes → Bytes → Bytes) (priv peer : Bytes)
    (h : ∀ i ∈ fn priv peer, i = 0) (hl : peer.length = size) :
    xShared size fn priv peer = .error .illegalParameter := by
  unfold xShared
  simp only [nonZeroCheck_eq, if_pos h, hl, ne_eq, not_true_eq_false, if_false]

/-- **ECDH glue (NIST / brainpool).**  A share python-ecdsa cannot decode to a point on the curve
    (`MalformedPointError`) is refused with illegal_parameter, an empty format list with
    decode_error; otherwise the x coordinate of the product is returned on the curve's size. -/
theorem ecdh_nist_decision (decode : Bytes → PointDecode) (mulX : ℕ → ℕ → ℕ → ℕ) (sz priv : ℕ) (peer : Bytes) :
    (decode peer = .malformed → nistShared decode mulX sz priv peer = .error .illegalParameter) ∧
    (decode peer = .noFormats → nistShared decode mulX sz priv peer = .error .decodeError) ∧
    (∀ x y, decode peer = .point x y →
      nistShared decode mulX sz priv peer = .ok (beEncode sz (mulX x y priv))) := by
  unfold nistShared
  refine ⟨fun h => by rw [h], fun h => by rw [h], fun x y h => by rw [h]⟩

end Tls.Dh

/-! ## 5. Sign-then-verify guards on the send paths -/
namespace Tls.SignGuard
open Tls Tls.Rsa

/-- **emitted_signature_verifies.**  On every guarded send path — whatever the private operation
    returned (`s.sign` is arbitrary: it may be the result of a computation fault) — a signature is
    handed to the record layer only if it verifies under the signer's own verification function on
    the very bytes that were signed; otherwise the path aborts and nothing is sent. -/
theorem emitted_signature_verifies (checkEmpty : Bool) (s : Signer) (bytes sig : Bytes)
    (h : emit checkEmpty s bytes = .send sig) : sig = s.sign bytes ∧ s.verify sig bytes = true := by
  unfold emit at h
  simp only at h
  split at h
  · cases h
  · split at h
    · cases h
    · rename_i hv
      cases h
      exact ⟨rfl, by simpa using hv⟩

/-- the five concrete sites are instances of the guard -/
theorem emitted_signature_verifies_sites (s : Signer) (bytes sig : Bytes) (baselen : ℕ) :
    (signServerKeyExchange s bytes = .send sig → s.verify sig bytes = true) ∧
    (signServerKeyExchangeEcdsa s bytes baselen = .send sig → s.verify sig (bytes.take baselen) = true) ∧
    (signServerKeyExchangeEddsa s bytes = .send sig → s.verify sig bytes = true) ∧
    (makeCertificateVerify s bytes = .send sig → s.verify sig bytes = true) ∧
    (tls13CertificateVerify s bytes = .send sig → s.verify sig bytes = true) :=
  ⟨fun h => (emitted_signature_verifies _ _ _ _ h).2, fun h => (emitted_signature_verifies _ _ _ _ h).2,
   fun h => (emitted_signature_verifies _ _ _ _ h).2, fun h => (emitted_signature_verifies _ _ _ _ h).2,
   fun h => (emitted_signature_verifies _ _ _ _ h).2⟩

/-- a failing verification or (ServerKeyExchange) an empty signature aborts -/
theorem faulty_signature_aborts (checkEmpty : Bool) (s : Signer) (bytes : Bytes)
    (h : s.verify (s.sign bytes) bytes = false) : emit checkEmpty s bytes = .abort := by
  unfold emit; simp [h]

/-- a correct signer is not hindered by the guard -/
theorem correct_signature_sent (s : Signer) (bytes : Bytes) (h : s.verify (s.sign bytes) bytes = true)
    (hne : (s.sign bytes).isEmpty = false) (checkEmpty : Bool) :
    emit checkEmpty s bytes = .send (s.sign bytes) := by
  unfold emit; simp [h, hne]

/-- combined with the RSA results: with a well-formed RSA key and PKCS#1 v1.5 verification as the
    guard, whatever a (faulty) private operation returns, the only string that can be emitted for
    an encoded message is the correct signature `EM^d mod n` -/
theorem emitted_rsa_signature_is_correct {k : PrivKey} (vk : ValidKey k) (hd : k.d ≠ 0)
    (faultySign : Bytes → Bytes) (bytes sig : Bytes) (hfit : bytes.length + 3 ≤ numBytes k.pub.n)
    (h : emit false { sign := faultySign, verify := fun s b => rawPkcs1Verify k.pub s b } bytes = .send sig) :
    ∃ st', rawPkcs1Sign k ⟨0, 0⟩ 1 bytes = .ok (sig, st') := by
  obtain ⟨_, hv⟩ := emitted_signature_verifies _ _ _ _ h
  have hn := vk.n_gt_one
  have h1 : invMod 1 k.pub.n * 1 % k.pub.n = 1 := invMod_mul_self 1 k.pub.n hn (Nat.coprime_one_left _)
  obtain ⟨sig0, st', hok, _, hv0⟩ := pkcs1_sign_verify vk (st := ⟨0, 0⟩) (rnd := 1) (Or.inl rfl) (fun _ => h1) hd bytes hfit
  have : sig = sig0 := pkcs1_signature_unique vk sig sig0 bytes hv hv0
  exact ⟨st', by rw [this]; exact hok⟩

example : emit true { sign := fun _ => [1, 2], verify := fun _ _ => false } [7] = .abort := by decide
example : emit true { sign := fun _ => [1, 2], verify := fun s _ => s == [1, 2] } [7] = .send [1, 2] := by decide

end Tls.SignGuard

/-! ## 6. DSA (`python_dsakey.py`) -/
namespace Tls.Dsa
open Tls Tls.Rsa

open Nat in
structure ValidKey (key : Key) : Prop where
  hq : key.q.Prime
  hp : 1 < key.p
  hg : key.g ^ key.q ≡ 1 [MOD key.p]
  hy : key.y = key.g ^ key.x % key.p

/-- **dsa_verify_accept_iff.**  For well-formed parameters `verify` accepts `(r, s)` exactly when
    both lie in `(0, q)` and `r = (g^k mod p) mod q` for the nonce `k = s⁻¹·(z + x·r) mod q` that the
    signing equation determines (`z` = truncated digest, `x` = private key): it accepts the signatures
    of this key on this digest and nothing else. -/
theorem dsa_verify_accept_iff {key : Key} (vk : ValidKey key) (r s : ℕ) (data : Bytes) :
    verifyRS key r s data = true ↔
      0 < r ∧ r < key.q ∧ 0 < s ∧ s < key.q ∧
      r = key.g ^ (invMod s key.q * (digestOf key.q data + key.x * r) % key.q) % key.p % key.q := by
  unfold verifyRS
  simp only
  generalize digestOf key.q data = z
  by_cases hc : 0 < r ∧ r < key.q ∧ 0 < s ∧ s < key.q
  · rw [if_pos hc]
    simp only [beq_iff_eq, powMod_eq, vk.hy]
    -- `g^u1 · y^u2 = g^(u1 + x·u2)` modulo `p`, and the exponent only matters modulo `q`
    have hexp : Nat.ModEq key.q (z * invMod s key.q % key.q + key.x * (r * invMod s key.q % key.q))
        (invMod s key.q * (z + key.x * r) % key.q) := by
      refine ((Nat.mod_modEq _ _).add ((Nat.mod_modEq _ _).mul_left _)).trans ?_
      rw [show z * invMod s key.q + key.x * (r * invMod s key.q) = invMod s key.q * (z + key.x * r) by ring]
      exact (Nat.mod_modEq _ _).symm
    rw [← Nat.pow_mod, ← Nat.mul_mod, ← pow_mul, ← pow_add,
      (pow_modEq_of_exp_modEq vk.hg hexp : _ % _ = _ % _)]
    exact ⟨fun h => ⟨hc.1, hc.2.1, hc.2.2.1, hc.2.2.2, h⟩, fun h => h.2.2.2.2⟩
  · rw [if_neg hc]
    simp only [Bool.false_eq_true, false_iff]
    intro h; exact hc ⟨h.1, h.2.1, h.2.2.1, h.2.2.2.1⟩

/-- **dsa_verify_sign.**  For well-formed domain parameters (`q` prime, `g^q ≡ 1 mod p`,
    `y = g^x mod p`) and any nonce `0 < k < q`, the pair `(r, s)` that `sign` encodes is accepted by
    `verify` for the same data — provided `r ≠ 0` and `s ≠ 0` (the code does not retry on a zero
    `r` or `s`; `verify` would then refuse its own signature). The digest is truncated to the bit
    length of `q` exactly as the code does, identically on both sides. -/
theorem dsa_verify_sign {key : Key} (vk : ValidKey key) (k : ℕ) (hk0 : 0 < k) (hkq : k < key.q)
    (data : Bytes) (hr : (signRS key k data).1 ≠ 0) (hs : (signRS key k data).2 ≠ 0) :
    verifyRS key (signRS key k data).1 (signRS key k data).2 data = true := by
  have hq1 : 1 < key.q := vk.hq.one_lt
  rw [dsa_verify_accept_iff vk]
  unfold signRS at hr hs ⊢
  simp only [powMod_eq] at hr hs ⊢
  generalize digestOf key.q data = z at hr hs ⊢
  generalize hrdef : key.g ^ k % key.p % key.q = r at hr hs ⊢
  generalize hsdef : invMod k key.q * (z + key.x * r) % key.q = s at hs ⊢
  have hrq : r < key.q := hrdef ▸ Nat.mod_lt _ (by omega)
  have hsq : s < key.q := hsdef ▸ Nat.mod_lt _ (by omega)
  refine ⟨by omega, hrq, by omega, hsq, ?_⟩
  have inv_modEq : ∀ a, 0 < a → a < key.q → Nat.ModEq key.q (invMod a key.q * a) 1 := fun a h0 hlt => by
    have hc : Nat.Coprime a key.q :=
      ((Nat.Prime.coprime_iff_not_dvd vk.hq).mpr (Nat.not_dvd_of_pos_of_lt h0 hlt)).symm
    show _ % _ = 1 % key.q
    rw [invMod_mul_self a key.q hq1 hc, Nat.mod_eq_of_lt hq1]
  -- `s ≡ k⁻¹ (z + x r)`, hence `k s ≡ z + x r` and `s⁻¹ (z + x r) ≡ k (mod q)`
  have hks : Nat.ModEq key.q (k * s) (z + key.x * r) := by
    have h1 : Nat.ModEq key.q (k * s) (k * (invMod k key.q * (z + key.x * r))) :=
      (hsdef ▸ Nat.mod_modEq _ _ : Nat.ModEq key.q s _).mul_left k
    rw [← mul_assoc, mul_comm k (invMod k key.q)] at h1
    simpa using h1.trans ((inv_modEq k hk0 hkq).mul_right _)
  have hexp : Nat.ModEq key.q (invMod s key.q * (z + key.x * r) % key.q) k := by
    refine (Nat.mod_modEq _ _).trans ((hks.symm.mul_left _).trans ?_)
    rw [mul_comm k s, ← mul_assoc]
    simpa using (inv_modEq s (by omega) hsq).mul_right k
  rw [show key.g ^ (invMod s key.q * (z + key.x * r) % key.q) % key.p = key.g ^ k % key.p from
    pow_modEq_of_exp_modEq vk.hg hexp]
  exact hrdef.symm

/-- byte level (python_dsakey.verify with the python-ecdsa DER parser transliterated in
    TlsModel/Der.lean): acceptance implies a DER pair whose integers pass the check above; the
    empty string and anything `remove_sequence` / `remove_integer` refuse are invalid signatures -/
theorem dsa_verify_bytes_accept (key : Key) (sig data : Bytes) (h : verify key sig data = true) :
    ∃ body r rest1 s, Der.removeSequence sig = .ok (body, []) ∧ Der.removeInteger body = .ok (r, rest1) ∧
      Der.removeInteger rest1 = .ok (s, []) ∧ verifyRS key r s data = true := by
  unfold verify at h
  split at h
  · cases h
  · split at h
    · cases h
    · rename_i body rest hseq
      split at h
      · cases h
      · rename_i hrest
        split at h
        · cases h
        · rename_i r rest1 hr
          split at h
          · cases h
          · rename_i s rest2 hs
            split at h
            · cases h
            · rename_i hrest2
              have e1 : rest = [] := by simpa using hrest
              have e2 : rest2 = [] := by simpa using hrest2
              subst e1; subst e2
              exact ⟨body, r, rest1, s, hseq, hr, hs, h⟩

/-- DER round trip of the two helpers `sign` / `verify` rely on (short-form lengths) -/
theorem der_integer_roundtrip (r : ℕ) (tail : Bytes) (h : numBytes r + 2 < 0x80) :
    Der.removeInteger (Der.encodeInteger r ++ tail) = .ok (r, tail) := by
  obtain ⟨msb, more, he, hl, hd, h1, h2⟩ := Der.encodeInteger_shape r h
  rw [he, ← hd]
  exact Der.removeInteger_tlv msb more tail (by omega) h1 h2

def exDsaPre : Key := { p := 23, q := 11, g := 4, x := 7, y := 8 }

/-- **dsa_sign_verify_bytes.**  Byte level, DER included: what `sign` returns (the DER
    `SEQUENCE { INTEGER r, INTEGER s }` of python-ecdsa, transliterated) is parsed back to the same pair
    and accepted by `verify` — for well-formed parameters with q of at most 480 bits, a nonce in
    (0, q) and r, s ≠ 0. -/
theorem dsa_sign_verify_bytes {key : Key} (vk : ValidKey key) (hq : numBytes key.q ≤ 60)
    (k : ℕ) (hk0 : 0 < k) (hkq : k < key.q) (data : Bytes)
    (hr : (signRS key k data).1 ≠ 0) (hs : (signRS key k data).2 ≠ 0) :
    verify key (sign key k data) data = true := by
  have hq0 : 0 < key.q := vk.hq.pos
  have hqb := lt_pow_numBytes key.q
  have br : numBytes (signRS key k data).1 ≤ 60 :=
    Nat.le_trans (numBytes_le_of_lt_pow _ _ (Nat.lt_trans (Nat.mod_lt _ hq0) hqb)) hq
  have bs : numBytes (signRS key k data).2 ≤ 60 :=
    Nat.le_trans (numBytes_le_of_lt_pow _ _ (Nat.lt_trans (Nat.mod_lt _ hq0) hqb)) hq
  have lr := Der.encodeInteger_length_le (signRS key k data).1 (by omega)
  have ls := Der.encodeInteger_length_le (signRS key k data).2 (by omega)
  have hs' := der_integer_roundtrip (signRS key k data).2 [] (by omega)
  rw [List.append_nil] at hs'
  exact verify_of_der _ _ _ _ _ _ _ (Der.removeSequence_encodeSequence _ _ (by omega))
    (der_integer_roundtrip _ _ (by omega)) hs' (dsa_verify_sign vk k hk0 hkq data hr hs)

example : verify exDsaPre (sign exDsaPre 3 [0x55]) [0x55] = true := by decide

/-- `verify` refuses `r` or `s` outside `(0, q)` -/
theorem dsa_rejects_out_of_range (key : Key) (r s : ℕ) (data : Bytes)
    (h : r = 0 ∨ key.q ≤ r ∨ s = 0 ∨ key.q ≤ s) : verifyRS key r s data = false := by
  unfold verifyRS
  have : ¬ (0 < r ∧ r < key.q ∧ 0 < s ∧ s < key.q) := by omega
  simp [this]

/-- `invMod` (extended Euclid of cryptomath.py) returns the inverse whenever one exists -/
theorem invMod_inverse (a b : ℕ) (hb : 1 < b) (hc : Nat.Coprime a b) : invMod a b * a % b = 1 :=
  invMod_mul_self a b hb hc

def exDsa : Key := { p := 23, q := 11, g := 4, x := 7, y := 8 }

theorem exDsa_valid : ValidKey exDsa := ⟨by norm_num [exDsa], by decide, by decide, by decide⟩

example : signRS exDsa 3 [0x55] = (7, 7) ∧ verifyRS exDsa 7 7 [0x55] = true ∧ verifyRS exDsa 7 3 [0x55] = false := by
  decide

end Tls.Dsa

/-! ## 7. X25519 / X448 (tlslite/utils/x25519.py): the Montgomery ladder

  What is proved: the ladder as written (cswap with deferred swap flag, the a24 constants, clamping,
  masking, the final inversion) equals the textbook Montgomery ladder whose step is exactly
  Montgomery's x-only doubling / differential addition for  y² = x³ + (4·a24+2)·x² + x ; the result
  does not depend on the representative of u; the neutral element comes out as the all-zero string
  and is refused by `calc_shared_key`.
  What is NOT proved is stated at `x25519_scalar_mult_partial`. -/
namespace Tls.X25519
open Tls Tls.Rsa

/-- **cswap correctness**: exchanges its arguments iff the flag is non-zero; applying it twice with
    the same flag is the identity -/
theorem cswap_correct (sw : ℕ) (a b : ℤ) :
    cswap sw a b = (if sw ≠ 0 then (b, a) else (a, b)) ∧
    cswap sw (cswap sw a b).1 (cswap sw a b).2 = (a, b) :=
  ⟨rfl, by unfold cswap; split <;> simp_all⟩

/-- **swap bookkeeping**: with a 0/1 flag, one loop iteration of the code (`swap ^= k_t`, two
    cswaps, arithmetic, `swap = k_t`) acts on the logical pair (registers after the pending swap)
    exactly as the textbook ladder step for bit `k_t`, and leaves a 0/1 flag -/
theorem ladder_swap_bookkeeping (k : ℕ) (x1 a24 p : ℤ) (s : Ladder) (t : ℕ) (hs : s.swap ≤ 1) :
    (ladderStep k x1 a24 p s t).logical = pureStep x1 a24 p ((k >>> t) &&& 1) s.logical ∧
    (ladderStep k x1 a24 p s t).swap ≤ 1 :=
  ladderStep_logical k x1 a24 p s t hs

/-- **ladder = textbook ladder** for every scalar, u, bit count, a24 and modulus: the output of
    `_x25519_generic` is `X·Z^(p−2) mod p` of the first point of the swap-free ladder started at
    ((1 : 0), (u : 1)) -/
theorem x25519_ladder_eq_textbook (k u bits a24 p : ℕ) :
    x25519Generic k u bits a24 p =
      leEncode (divceil bits 8)
        (((pureLadder k u bits a24 p).x2.toNat * powMod (pureLadder k u bits a24 p).z2.toNat (p - 2) p) % p) :=
  x25519Generic_eq_pureLadder k u bits a24 p

example : pureLadder 5 9 3 121665 (2 ^ 255 - 19) =
    ((List.range 3).reverse).foldl
      (fun P t => pureStep 9 121665 ((2 ^ 255 - 19 : ℕ) : ℤ) ((5 >>> t) &&& 1) P) ⟨1, 0, 9, 1⟩ := rfl

/-- **the step is Montgomery's XZ arithmetic** (in `ZMod p`, A = 4·a24 + 2), and the constants of
    RFC 7748 are the curves' (A − 2)/4 -/
theorem x25519_step_is_montgomery_xz (p : ℕ) (x1 a24 x2 z2 x3 z3 : ℤ) :
    let r := core x1 a24 p x2 z2 x3 z3
    let X2 : ZMod p := x2; let Z2 : ZMod p := z2; let X3 : ZMod p := x3; let Z3 : ZMod p := z3
    let A : ZMod p := 4 * (a24 : ZMod p) + 2
    (r.x2 : ZMod p) = (X2 ^ 2 - Z2 ^ 2) ^ 2 ∧
    (r.z2 : ZMod p) = 4 * X2 * Z2 * (X2 ^ 2 + A * X2 * Z2 + Z2 ^ 2) ∧
    (r.x3 : ZMod p) = 4 * (X2 * X3 - Z2 * Z3) ^ 2 ∧
    (r.z3 : ZMod p) = 4 * (x1 : ZMod p) * (X2 * Z3 - Z2 * X3) ^ 2 := by
  simp only [core]
  refine ⟨?_, ?_, ?_, ?_⟩ <;>
  · simp only [ZMod.intCast_mod, Int.cast_mul, Int.cast_add, Int.cast_sub]
    ring

theorem x25519_a24_constants : 4 * 121665 + 2 = 486662 ∧ 4 * 39081 + 2 = 156326 := by decide

/-- **result independent of the representative of u modulo p** (a non-canonical u ≥ p behaves as
    its reduction) -/
theorem x25519_result_independent_of_representative (k u u' bits a24 p : ℕ)
    (h : (u : ℤ) ≡ (u' : ℤ) [ZMOD (p : ℤ)]) :
    x25519Generic k u bits a24 p = x25519Generic k u' bits a24 p := by
  unfold x25519Generic
  -- the initial state holds `u` itself (`x3`), so the first step joins two different states (`ladderStep_congr`);
  -- from the second step on the states are equal, which is what `ladder_fold_congr` asks for
  cases bits with
  | zero => simp [cswap]
  | succ n =>
    have e : (List.range (n + 1)).reverse = n :: (List.range n).reverse := by
      rw [List.range_succ, List.reverse_append]; rfl
    simp only [e, List.foldl_cons]
    have hstep : ladderStep k (u : ℤ) (a24 : ℤ) (p : ℤ) { x2 := 1, z2 := 0, x3 := u, z3 := 1, swap := 0 } n =
        ladderStep k (u' : ℤ) (a24 : ℤ) (p : ℤ) { x2 := 1, z2 := 0, x3 := u', z3 := 1, swap := 0 } n :=
      ladderStep_congr k p u u' a24 _ _ n h rfl (Int.ModEq.refl _) (Int.ModEq.refl _) h (Int.ModEq.refl _)
    rw [hstep, ladder_fold_congr k p u u' a24 h]

example : x25519Generic 8 (2 ^ 255 - 19 + 9) 255 121665 (2 ^ 255 - 19) = x25519Generic 8 9 255 121665 (2 ^ 255 - 19) :=
  x25519_result_independent_of_representative _ _ _ _ _ _ (by
    show ((2 ^ 255 - 19 + 9 : ℕ) : ℤ) % _ = ((9 : ℕ) : ℤ) % _
    norm_num)

/-- **clamping** (`decodeScalar22519` on 32 bytes): a multiple of the cofactor 8 in [2^254, 2^255) -/
theorem x25519_clamping (k : Bytes) (h : k.length = 32) :
    ∃ n, decodeScalar25519 k = .ok n ∧ n % 8 = 0 ∧ 2 ^ 254 ≤ n ∧ n < 2 ^ 255 := by
  obtain ⟨b0, mid, b31, rfl, hm⟩ := bytes32_cons_concat k h
  have e2 : ∀ (x y : UInt8) (f : UInt8 → UInt8),
      modifyAt (x :: (mid ++ [y])) 31 f = .ok (x :: (mid ++ [f y])) := fun x y f => by
    have := modifyAt_last (x :: mid) y f
    rwa [List.length_cons, hm] at this
  refine ⟨leDecode ((b0 &&& 248) :: (mid ++ [(b31 &&& 127) ||| 64])), ?_, ?_, ?_⟩
  · unfold decodeScalar25519
    rw [modifyAt_zero]; simp only
    rw [e2]; simp only
    rw [e2]
  · -- 8 divides the low byte and 256
    rw [leDecode_cons]
    exact Nat.mod_eq_zero_of_dvd
      (Nat.dvd_add (Nat.dvd_of_mod_eq_zero (and_248 b0)) (Dvd.dvd.mul_right (by decide) _))
  · -- the top byte, in [64, 128), decides the range
    obtain ⟨h64, h127⟩ := clamp_top b31
    obtain ⟨lo, hi⟩ := leDecode_concat_bounds ((b0 &&& 248) :: mid) ((b31 &&& 127) ||| 64)
    rw [List.length_cons, hm] at lo hi
    rw [show (2 : ℕ) ^ 254 = 256 ^ 31 * 64 from rfl, show (2 : ℕ) ^ 255 = 256 ^ 31 * 128 from rfl]
    exact ⟨Nat.le_trans (Nat.mul_le_mul_left _ h64) lo, Nat.lt_of_lt_of_le hi (Nat.mul_le_mul_left _ h127)⟩

/-- **masking** (`decodeUCoordinate` on 32 bytes): bit 255 of u is ignored -/
theorem x25519_masks_top_bit (u : Bytes) (h : u.length = 32) :
    decodeUCoordinate u 255 = .ok (leDecode u % 2 ^ 255) := by
  have hne : u ≠ [] := by intro hc; rw [hc] at h; cases h
  obtain ⟨m, b, rfl⟩ : ∃ m b, u = m ++ [b] := ⟨u.dropLast, u.getLast hne, (List.dropLast_append_getLast hne).symm⟩
  have hm : m.length = 31 := by simpa using h
  unfold decodeUCoordinate
  rw [if_neg (by decide), if_pos (by decide), if_neg (by simp), List.length_append, List.length_singleton,
    Nat.add_sub_cancel, modifyAt_last]
  simp only
  congr 1
  rw [show (2 : ℕ) ^ 255 = 256 ^ 31 * 2 ^ 7 from rfl, ← hm]
  exact leDecode_concat_mod m b _ 7 (and_mask7 b)

/-- **final inversion**: for a prime modulus and Z ≢ 0 the returned value is the affine x = X/Z -/
theorem x25519_final_inversion {p : ℕ} (hp : p.Prime) (x z : ℕ) (hz : ¬ p ∣ z) :
    ((x * powMod z (p - 2) p) % p) * z ≡ x [MOD p] := by
  -- Fermat: z^(p-2) · z = z^φ(p) ≡ 1
  have h1 : z ^ (p - 2) * z ≡ 1 [MOD p] := by
    rw [← pow_succ, show p - 2 + 1 = p - 1 by have := hp.two_le; omega, ← Nat.totient_prime hp]
    exact Nat.ModEq.pow_totient ((Nat.Prime.coprime_iff_not_dvd hp).mpr hz).symm
  rw [powMod_eq]
  calc x * (z ^ (p - 2) % p) % p * z ≡ x * z ^ (p - 2) * z [MOD p] :=
        ((Nat.mod_modEq _ _).trans ((Nat.mod_modEq _ _).mul_left x)).mul_right z
    _ = x * (z ^ (p - 2) * z) := Nat.mul_assoc ..
    _ ≡ x * 1 [MOD p] := h1.mul_left x
    _ = x := Nat.mul_one x

/-- **the neutral element is refused**: if the ladder ends with Z = 0 (what every small-order input
    gives with a clamped scalar) the output is all-zero and `calc_shared_key` raises
    TLSIllegalParameterException instead of returning it -/
theorem x25519_infinity_is_all_zero_and_refused (k u bits a24 p : ℕ) (hp : 2 < p)
    (hz : (pureLadder k u bits a24 p).z2 = 0) (size : ℕ) (priv peer : Bytes)
    (fn : Bytes → Bytes → Bytes) (hfn : fn priv peer = x25519Generic k u bits a24 p) :
    (∀ i ∈ x25519Generic k u bits a24 p, i = 0) ∧
    Tls.Dh.xShared size fn priv peer = .error .illegalParameter := by
  have hz0 := x25519Generic_zero_of_z_zero k u bits a24 p hp hz
  refine ⟨hz0, ?_⟩
  by_cases hl : peer.length = size
  · exact Tls.Dh.ecdh_x_rejects_all_zero size fn priv peer (by rw [hfn]; exact hz0) hl
  · exact Tls.Dh.ecdh_x_rejects_wrong_length size fn priv peer hl

/-- u = 0 (the point of order 2, the all-zero share) ends with Z = 0: kernel-checked instance of the
    hypothesis above for the clamped scalar 2^254 -/
example : (pureLadder (2 ^ 254) 0 255 121665 (2 ^ 255 - 19)).z2 = 0 := by decide +kernel

/-- **x25519_scalar_mult_partial.**
    FULL STATEMENT (not closed): for the Montgomery curve E_A : y² = x³ + A x² + x over F_p
    (A = 486662, p = 2^255 − 19; resp. A = 156326, p = 2^448 − 2^224 − 1), every point P of E_A or its
    quadratic twist with x(P) = u mod p and every scalar k < 2^bits:
        x25519Generic k u bits a24 p = little-endian encoding of x([k]P)   (0 for the neutral element)
    and hence  x25519 a (x25519 b G) = x25519 b (x25519 a G).
    PROVED (this theorem): the output is X·Z^(p−2) of the first point of the swap-free ladder, and
    every ladder step applies `core` to ((X₂:Z₂),(X₃:Z₃)) in the order the key bit chooses; by
    `x25519_step_is_montgomery_xz`, `core` is (xDBL(X₂:Z₂), xADD((X₂:Z₂),(X₃:Z₃); x1)) given by
    Montgomery's formulas with A = 4·a24+2; together with `x25519_final_inversion` (X·Z^(p−2) = X/Z for
    prime p), `x25519_clamping`, `x25519_masks_top_bit`, `x25519_result_independent_of_representative`.
    MISSING: (1) the group law of Montgomery curves (not in Mathlib) and Montgomery's theorem that
    xDBL / xADD compute x(2P) and x(P+Q) from x(P), x(Q), x(P−Q); (2) from it, the ladder invariant
    (R1 − R0 = P, R0 = [k >> t]P); (3) primality of 2^255 − 19 and 2^448 − 2^224 − 1 inside Lean.
    The gap is covered only by correspondence with the real functions, RFC 7748 vectors (1 and
    1000 iterations) and `openssl pkeyutl -derive`. -/
theorem x25519_scalar_mult_partial (k u bits a24 p : ℕ) :
    x25519Generic k u bits a24 p =
      leEncode (divceil bits 8)
        (((pureLadder k u bits a24 p).x2.toNat * powMod (pureLadder k u bits a24 p).z2.toNat (p - 2) p) % p) ∧
    ∀ (bit : ℕ) (P : Pair), bit ≤ 1 →
      pureStep (u : ℤ) (a24 : ℤ) (p : ℤ) bit P =
        if bit = 0 then core (u : ℤ) (a24 : ℤ) (p : ℤ) P.x2 P.z2 P.x3 P.z3
        else (let r := core (u : ℤ) (a24 : ℤ) (p : ℤ) P.x3 P.z3 P.x2 P.z2
              { x2 := r.x3, z2 := r.z3, x3 := r.x2, z3 := r.z2 }) := by
  refine ⟨x25519Generic_eq_pureLadder k u bits a24 p, ?_⟩
  intro bit P hb
  unfold pureStep
  rcases Nat.le_one_iff_eq_zero_or_eq_one.mp hb with rfl | rfl <;> simp

/-- PARTIAL (what is proved about the ladder): the output has the fixed length of the group.
    NOT proved: that `x25519Generic` computes scalar multiplication on the Montgomery curve, hence
    that `x25519 a (x25519 b 9) = x25519 b (x25519 a 9)`; this is tied only by correspondence with
    tlslite/utils/x25519.py, RFC 7748 vectors and the openssl cross-check in the harness. -/
theorem x25519_output_length_partial (k u out : Bytes) :
    (x25519 k u = .ok out → out.length = 32) ∧ (x448 k u = .ok out → out.length = 56) := by
  refine ⟨fun h => ?_, fun h => ?_⟩
  · unfold x25519 at h
    split at h
    · cases h
    · split at h
      · cases h
      · rw [← Except.ok.inj h, x25519Generic_length]
        rfl
  · unfold x448 at h
    split at h
    · cases h
    · split at h
      · cases h
      · rw [← Except.ok.inj h, x25519Generic_length]
        rfl

/-- PARTIAL: the model reproduces the first test vector of RFC 7748 §5.2 (by kernel evaluation) -/
theorem x25519_rfc7748_vector_partial :
    (x25519
      [0xa5, 0x46, 0xe3, 0x6b, 0xf0, 0x52, 0x7c, 0x9d, 0x3b, 0x16, 0x15, 0x4b, 0x82, 0x46, 0x5e, 0xdd,
       0x62, 0x14, 0x4c, 0x0a, 0xc1, 0xfc, 0x5a, 0x18, 0x50, 0x6a, 0x22, 0x44, 0xba, 0x44, 0x9a, 0xc4]
      [0xe6, 0xdb, 0x68, 0x67, 0x58, 0x30, 0x30, 0xdb, 0x35, 0x94, 0xc1, 0xa4, 0x24, 0xb1, 0x5f, 0x7c,
       0x72, 0x66, 0x24, 0xec, 0x26, 0xb3, 0x35, 0x3b, 0x10, 0xa9, 0x03, 0xa6, 0xd0, 0xab, 0x1c, 0x4c]).toOption
    = some
      [0xc3, 0xda, 0x55, 0x37, 0x9d, 0xe9, 0xc6, 0x90, 0x8e, 0x94, 0xea, 0x4d, 0xf2, 0x8d, 0x08, 0x4f,
       0x32, 0xec, 0xcf, 0x03, 0x49, 0x1c, 0x71, 0xf7, 0x54, 0xb4, 0x07, 0x55, 0x77, 0xa2, 0x85, 0x52] := by
  decide +kernel

end Tls.X25519

/-! ## 8. Regenerated structure of the signing code (translate/gen_signsites.py, every run)

  The tables below are read from the AST of the tree under check; the theorems are decided by the
  kernel over them.  An unknown shape poisons the table (shape ≠ "sign-then-verify", abort = unknown,
  salt = "other"), which makes the obligations false. -/
namespace Tls.Gen.SignSites

/-- the send paths named by the property (anchors) -/
def anchoredSites : List (String × String) := [
  ("tlslite/keyexchange.py", "signServerKeyExchange"), ("tlslite/keyexchange.py", "_tls12_signSKE"),
  ("tlslite/keyexchange.py", "_tls12_sign_ecdsa_SKE"), ("tlslite/keyexchange.py", "_tls12_sign_dsa_SKE"),
  ("tlslite/keyexchange.py", "_tls12_sign_eddsa_ske"), ("tlslite/keyexchange.py", "makeCertificateVerify"),
  ("tlslite/tlsconnection.py", "_clientTLS13Handshake"), ("tlslite/tlsconnection.py", "_serverTLS13Handshake"),
  ("tlslite/tlsrecordlayer.py", "_handle_pha")]

def Site.guarded (s : Site) : Bool :=
  s.shape == "sign-then-verify" && s.sameObject && s.sigArg == s.target && s.abort != .unknown

/-- **every_private_op_guarded.**  Every statement outside tlslite/utils that calls `sign`,
    `hashAndSign` or `sig_func` binds the result and is followed — with at most the emptiness test in
    between — by `if not <same key>.verify/hashAndVerify/ver_func(<that result>, …)` whose body raises
    TLSInternalError or sends internal_error; and every path the property names is among them. -/
theorem every_private_op_guarded :
    translatorProblems = [] ∧ signSites.all Site.guarded = true ∧
    anchoredSites.all (fun a => signSites.any (fun s => s.file == a.1 && s.func == a.2)) = true := by
  decide +kernel

/-- **sign_and_verify_use_same_params.**  At every site the guard verifies the very bytes that were
    signed, with the same padding / hash / salt-length arguments wherever both calls pass them; and
    wherever `sig_func` is bound, `ver_func` is bound to the matching method of the same object. -/
theorem sign_and_verify_use_same_params :
    signSites.all (fun s => s.dataSign == s.dataVerify && s.dataSign != "" &&
        s.common.all (fun c => c.2.1 == c.2.2)) = true ∧
    funcPairs.all (fun r =>
        let (_, _, so, sm, vo, vm) := r
        (so == "<missing>" && sm == "<missing>" && (vm == "verify" || vm == "hashAndVerify")) ||
        (so == vo && ((sm == "sign" && vm == "verify") || (sm == "hashAndSign" && vm == "hashAndVerify")))) = true := by
  decide +kernel

/-- the emptiness test is present exactly on the ServerKeyExchange paths: the `checkEmpty` flag of
    the guard model (`Tls.SignGuard.emit`) is the code's -/
theorem sign_sites_match_guard_model :
    signSites.all (fun s => s.emptyCheck == (s.file == "tlslite/keyexchange.py" && s.func != "makeCertificateVerify")) = true := by
  decide +kernel

/-- **pss_params_per_scheme.**  Wherever a salt length is chosen (signing and verifying code alike):
    padding taken from `SignatureScheme.getPadding(x)` comes with hash `SignatureScheme.getHash(x)` of
    the same `x` and salt length = digest size of that hash (RFC 8446 §4.2.3); a literal padding is
    'pkcs1' with salt 0; no padding comes with no salt; nothing else occurs. -/
theorem pss_params_per_scheme :
    paramChoices.all (fun c =>
      c.salt != "other" &&
      (c.padKind != "scheme" || (c.salt == "hashLength" && c.hashKind == "scheme" && c.hashArg == c.padArg)) &&
      (c.salt != "hashLength" || c.hashKind == "scheme") &&
      (c.padKind != "literal" || (c.padArg == "pkcs1" && c.salt == "zero")) &&
      (c.padKind != "none" || c.salt == "none") &&
      c.padKind != "other") = true := by
  decide +kernel

/-- the MGF1 hash and the hash of M' are the message hash `hAlg` in encode and in verify -/
theorem pss_mgf_hash_is_message_hash :
    pssHashUses.all (fun u => u.2.2.1 == "hAlg" && u.2.2.2) = true ∧
    pssHashUses.any (fun u => u.1 == "EMSA_PSS_encode" && u.2.1 == "MGF1") = true ∧
    pssHashUses.any (fun u => u.1 == "EMSA_PSS_verify" && u.2.1 == "MGF1") = true := by
  decide +kernel

/-- (key type, padding, hash) per scheme id, typed from RFC 5246 §7.4.1.4.1 / RFC 8446 §4.2.3 /
    RFC 8422 / RFC 8734; `getPadding` is only defined for RSA schemes (`!AssertionError` otherwise) -/
def rfcScheme (a b : ℕ) : Option (String × String × String) :=
  let h : ℕ → Option String := fun
    | 2 => some "sha1" | 3 => some "sha224" | 4 => some "sha256" | 5 => some "sha384" | 6 => some "sha512" | _ => none
  if a = 8 then
    match b with
    | 4 => some ("rsa", "pss", "sha256") | 5 => some ("rsa", "pss", "sha384") | 6 => some ("rsa", "pss", "sha512")
    | 9 => some ("rsa", "pss", "sha256") | 10 => some ("rsa", "pss", "sha384") | 11 => some ("rsa", "pss", "sha512")
    | 7 => some ("eddsa", "!AssertionError", "intrinsic") | 8 => some ("eddsa", "!AssertionError", "intrinsic")
    | 26 => some ("ecdsa", "!AssertionError", "sha256") | 27 => some ("ecdsa", "!AssertionError", "sha384")
    | 28 => some ("ecdsa", "!AssertionError", "sha512")
    | _ => none
  else
    match h a, b with
    | some hn, 1 => some ("rsa", "pkcs1", hn)
    | some hn, 2 => some ("dsa", "!AssertionError", hn)
    | some hn, 3 => some ("ecdsa", "!AssertionError", hn)
    | _, _ => none

/-- **scheme_table_matches_rfc.**  `SignatureScheme.getKeyType / getPadding / getHash` answer, for
    every scheme of the tree under check (ML-DSA aside), what the RFCs assign to its code point -/
theorem scheme_table_matches_rfc :
    schemeTable.all (fun r =>
      let (_, a, b, kt, pad, hsh) := r
      kt == "mldsa" || rfcScheme a b == some (kt, pad, hsh)) = true ∧
    18 ≤ schemeTable.length := by
  decide +kernel

end Tls.Gen.SignSites


/-! ## The regenerated RSA padding / signature code (Tls.RsaPad.Gen) computes the hand-written model

  `Tls.RsaPad.Gen.*` (TlsModel/Gen/RsaPad.lean) is re-translated on every run from the Python AST of
  tlslite/utils/rsakey.py by translate/gen_rsapad.py (16 functions, statement by statement, over the
  Python-runtime model TlsModel/PyInt.lean + PyExc.lean), `Tls.Cryptomath.Gen.*` from cryptomath.py /
  compat.py by translate/gen_cryptomath.py.  `padSelf k H f hasPriv salt` is the RSAKey object the hand
  model's key, hash and randomness describe (`_rawPublicKeyOp` = pow(c, e, n), `_rawPrivateKeyOp` = `f`,
  `secureHash(·, H.name)` = `H.hash`, `getRandomBytes` = `salt`).

  Proved for all inputs (`gen_*_eq`: the regenerated function equals `liftP` of the hand-model function):
  the cryptomath helpers, `_raw_public_key_op_bytes`, `_raw_private_key_op_bytes` (with the hand model's
  blinded CRT operation as `_rawPrivateKeyOp`), `_addPKCS1Padding` block type 1, the DigestInfo table,
  `addPKCS1Prefix` / `addPKCS1SHA1Prefix`, `_raw_pkcs1_verify`, `_raw_pkcs1_sign`, `MGF1`, `EMSA_PSS_encode`,
  `EMSA_PSS_verify`, `RSASSA_PSS_sign`, `RSASSA_PSS_verify`, `sign` and `verify` for "pkcs1" and "pss" (and
  UnknownRSAType otherwise), `hashAndSign`, `hashAndVerify`.  Hypotheses, stated in each theorem: hash output
  length > 0 (`HashOk.pos`), lower-case hash names (`.lower()` is applied by the source), `p, q ≠ 0` and
  `n > 0` on the signing side.  So `pkcs1_verify_iff_canonical` and `pss_verify_accept_iff` hold of the
  source text: `gen_pkcs1_verify_iff_canonical`, `gen_pss_verify_accept_iff`.
  Block type 2 of `_addPKCS1Padding` (random padding; `getRandomBytes` is a function of the requested length
  in the runtime model): `gen_addPKCS1Padding2_shape` (whatever it returns is `00 02 PS 00 bytes`, PS without
  zero byte and of the exact length, for every loop bound and every random source) and
  `gen_addPKCS1Padding2_returns_iff` (exactly when it returns); both read off `RsaPad.Gen._addPKCS1Padding2_eq`
  (TlsProofs/RsaPadEq.lean), the function in closed form.  The `…_vectors` theorems are the `gen_*_eq` at the toy hash `toyHash` and the key `exKey`, on
  concrete families of inputs (accepted and mutated encodings and signatures): there the hypotheses of the general
  theorems (`0 < hLen`, lower-case names, `p, q ≠ 0`, `n > 0`) are discharged, which is their non-vacuity. -/
namespace Tls.Cm
/-! cryptomath.py / compat.py of the tree under check (same theorems as in Props/C11.lean): the
    `PyE.numBits` / `numBytes` / `bytesToNumber` / `numberToByteArray` definitions used by the
    regenerated RSA code are what the regenerated cryptomath functions compute, for every argument. -/
open Tls Tls.RsaDec Tls.PyE Tls.Cryptomath

theorem gen_numBits_eq (x : Int) : Gen.numBits x = .ok (PyE.numBits x) :=
  Cryptomath.Gen.numBits_eq x

theorem gen_numBytes_eq (x : Int) : Gen.numBytes x = .ok (PyE.numBytes x) :=
  Cryptomath.Gen.numBytes_eq x

theorem gen_bytesToNumber_eq (b : Bytes) :
    Gen.bytesToNumber b "big" = .ok (PyE.bytesToNumber b) ∧
    Gen.bytesToNumber b "little" = .ok (PyE.bytesToNumber b.reverse) :=
  Cryptomath.Gen.bytesToNumber_eq b

theorem gen_int_to_bytes_eq (x k : Int) (order : String) :
    Gen.int_to_bytes x (some k) order = PyE.intToBytes x k order :=
  Cryptomath.Gen.int_to_bytes_eq x k order

theorem gen_int_to_bytes_none (x : Int) (order : String) :
    Gen.int_to_bytes x none order = PyE.intToBytes x (if x ≠ 0 then PyE.numBytes x else 1) order :=
  Cryptomath.Gen.int_to_bytes_none x order

theorem gen_numberToByteArray_eq (x k : Int) :
    Gen.numberToByteArray x (some k) "big" = PyE.numberToByteArray x k :=
  Cryptomath.Gen.numberToByteArray_eq x k

theorem gen_numberToByteArray_none (n : Nat) :
    Gen.numberToByteArray (n : Int) none "big" =
      .ok (beEncode (if n ≠ 0 then Tls.RsaDec.numBytes n else 1) n) :=
  Cryptomath.Gen.numberToByteArray_none n

theorem gen_divceil_eq (a b : Nat) (hb : 0 < b) :
    Gen.divceil (a : Int) (b : Int) = .ok ((a / b + (if a % b = 0 then 0 else 1) : Nat) : Int) :=
  Cryptomath.Gen.divceil_eq a b hb

end Tls.Cm

namespace Tls.Rsa
open Tls.Py Tls.RsaDec Tls.PyE Tls.RsaPad

/-- the translators understood every statement (no poison was emitted) -/
theorem gen_translation_complete :
    RsaPad.Gen.translatorProblems = [] ∧ RsaPad.Gen.translated.all (fun x => x.2) = true ∧
      RsaPad.Gen.translated.length = 16 ∧
    Cryptomath.Gen.translatorProblems = [] ∧ Cryptomath.Gen.translated.all (fun x => x.2) = true ∧
      Cryptomath.Gen.translated.length = 8 := by
  decide

theorem gen_raw_public_eq (k : PubKey) (H : HashAlg) (f : Nat → Nat) (hp : Bool) (s c : Bytes) :
    Gen._raw_public_key_op_bytes (padSelf k H f hp s) c = liftP (rawPublicKeyOpBytes k c) := by
  unfold Gen._raw_public_key_op_bytes rawPublicKeyOpBytes
  simp only [pyrt, Rsa.numBytes_eq, ne_eq]

theorem gen_addPKCS1Padding1_eq (k : PubKey) (H : HashAlg) (f : Nat → Nat) (hp : Bool) (s bytes : Bytes) (fuel : Nat) :
    Gen._addPKCS1Padding fuel (padSelf k H f hp s) bytes 1 = .ok (addPKCS1Padding k.n bytes) := by
  unfold Gen._addPKCS1Padding addPKCS1Padding
  simp only [bind, pure, padSelf_n, pyNumBytes, len_eq, pad1_bytes, lift_some', ok_bind']
  rfl

theorem gen_prefix_table_eq : Gen.pkcs1Prefixes = Tls.Gen.Pkcs1.pkcs1Prefixes := rfl

theorem gen_addPKCS1Prefix_eq (data : Bytes) (name : String) :
    Gen.addPKCS1Prefix () data name = liftP (addPKCS1Prefix data name.toLower) := by
  unfold Gen.addPKCS1Prefix addPKCS1Prefix PyE.dictHas PyE.dictGet PyE.lower
  rw [gen_prefix_table_eq]
  cases h : List.lookup name.toLower Tls.Gen.Pkcs1.pkcs1Prefixes <;>
    simp [bind, pure, h, PyE.raise, liftP, Err.toE, Except.bind, Except.pure]

theorem gen_addPKCS1SHA1Prefix_eq (hb : Bytes) (withNULL : Bool) :
    Gen.addPKCS1SHA1Prefix () hb withNULL = .ok (addPKCS1SHA1Prefix hb withNULL) := by
  cases withNULL <;> rfl

theorem gen_raw_pkcs1_verify_eq (k : PubKey) (H : HashAlg) (f : Nat → Nat) (hp : Bool) (s sig bytes : Bytes) (fuel : Nat) :
    Gen._raw_pkcs1_verify fuel (padSelf k H f hp s) sig bytes = .ok (rawPkcs1Verify k sig bytes) := by
  unfold Gen._raw_pkcs1_verify rawPkcs1Verify
  simp only [bind, pure, gen_raw_public_eq, gen_addPKCS1Padding1_eq, rawPublicKeyOpBytes_eq]
  by_cases hg : sig.length = numBytes k.n ∧ beDecode sig < k.n
  · simp only [hg, and_self, if_true, pyrt, Option.isNone_some, Bool.false_eq_true, if_false, beq_eq_decide]
  · simp only [hg, if_false, pyrt, if_true, Option.isNone_none]

theorem gen_verify_pkcs1_eq (k : PubKey) (H : HashAlg) (f : Nat → Nat) (hp : Bool) (s sig bytes : Bytes)
    (alg : Option String) (sl : Option Int) (sLen fuel : Nat)
    (hlow : ∀ a, alg = some a → a.toLower = a) :
    Gen.verify fuel (padSelf k H f hp s) sig bytes "pkcs1" alg sl =
      liftP (verify k sig bytes .pkcs1 alg H sLen) := by
  unfold Gen.verify verify
  simp only [bind, pure, padSelf_keyType, gen_addPKCS1SHA1Prefix_eq, gen_raw_pkcs1_verify_eq, gen_addPKCS1Prefix_eq,
    ok_bind']
  by_cases hpss : k.pssOnly = true
  · simp [hpss, liftP, Except.pure]
  · have hpss' : k.pssOnly = false := by simpa using hpss
    cases alg with
    | none => simp [hpss', liftP, Except.pure, Except.bind]
    | some a =>
      have ha := hlow a rfl
      by_cases hs : a = "sha1"
      · subst hs
        simp [hpss', liftP, Except.pure]
      · simp only [hpss']
        cases hpre : addPKCS1Prefix bytes a <;>
          simp [hs, liftP, Except.pure, Except.bind, PyE.optGet] <;>
          rw [ha, hpre]

theorem gen_MGF1_eq (k : PubKey) (H : HashAlg) (f : Nat → Nat) (hp : Bool) (s seed : Bytes) (maskLen : Nat)
    (hh : 0 < H.hLen) :
    Gen.MGF1 (padSelf k H f hp s) seed (maskLen : Int) H.name = liftP (mgf1 H seed maskLen) := by
  unfold Gen.MGF1 mgf1
  simp only [bind, pure, pyrt, hh, Nat.ne_of_gt hh, if_false, ← divceil_def, Nat.reducePow]

theorem gen_EMSA_PSS_verify_eq (k : PubKey) (H : HashAlg) (f : Nat → Nat) (hp : Bool) (s mHash em : Bytes)
    (emBits sLen : Nat) (hh : 0 < H.hLen) :
    Gen.EMSA_PSS_verify (padSelf k H f hp s) mHash em (emBits : Int) H.name (sLen : Int) =
      liftP ((emsaPssVerify H mHash em emBits sLen).map fun _ => true) := by
  unfold Gen.EMSA_PSS_verify
  rw [emsaPssVerify_eq]
  obtain ⟨hb1, hb2⟩ := divceil8_bounds emBits
  simp only [bind, pure, pyrt, ← divceil_def, Nat.zero_lt_succ]
  generalize divceil emBits 8 = emLen at hb1 hb2 ⊢
  by_cases h1 : emLen < H.hLen + sLen + 2
  · simp only [h1, if_true, pyrt]
  · simp only [h1, if_false, pss_length_casts _ _ _ _ (Nat.not_lt.mp h1) hb1 hb2, pyrt, gen_MGF1_eq _ _ _ _ _ _ _ hh,
      setItem_head_and, pssRecoverDB_eq, pssTopMask, toNat_ne_lit _ 188 (by decide), toNat_ne_lit _ 1 (by decide)]
    -- (188 is the trailer 0xbc as the generated code spells it.)
    -- Python's `DB[-sLen:]` is the whole of `DB` for `sLen = 0`: hence the special case in the source
    by_cases hs0 : sLen = 0
    · subst hs0; rfl
    · simp only [hs0, ne_eq, not_false_eq_true, if_true, slice_neg_from _ sLen (Nat.pos_of_ne_zero hs0)]
      rfl

theorem gen_EMSA_PSS_encode_eq (k : PubKey) (H : HashAlg) (f : Nat → Nat) (hp : Bool) (mHash salt : Bytes)
    (emBits : Nat) (hh : 0 < H.hLen) :
    Gen.EMSA_PSS_encode (padSelf k H f hp salt) mHash (emBits : Int) H.name (salt.length : Int) =
      liftP (emsaPssEncode H mHash emBits salt) := by
  unfold Gen.EMSA_PSS_encode
  rw [emsaPssEncode_eq]
  obtain ⟨hb1, hb2⟩ := divceil8_bounds emBits
  simp only [bind, pure, pyrt, ← divceil_def, Nat.zero_lt_succ]
  generalize divceil emBits 8 = emLen at hb1 hb2 ⊢
  by_cases h1 : emLen < H.hLen + salt.length + 2
  · simp only [h1, if_true]
  · simp only [h1, if_false, pss_length_casts _ _ _ _ (Nat.not_lt.mp h1) hb1 hb2, pyrt, gen_MGF1_eq _ _ _ _ _ _ _ hh,
      setItem_head_and]

theorem rawPublic_err (k : PubKey) (c : Bytes) (e : Err) (h : rawPublicKeyOpBytes k c = .error e) : e = .valueError :=
  rawPublicKeyOpBytes_err k c e h

theorem rawPublic_ok_pos (k : PubKey) (c em : Bytes) (h : rawPublicKeyOpBytes k c = .ok em) : 0 < k.n :=
  Nat.zero_lt_of_lt ((rawPublicKeyOpBytes_ok_iff k c em).mp h).2.1

theorem gen_RSASSA_PSS_verify_eq (k : PubKey) (H : HashAlg) (f : Nat → Nat) (hp : Bool) (s mHash sig : Bytes)
    (sLen : Nat) (hh : 0 < H.hLen) :
    Gen.RSASSA_PSS_verify (padSelf k H f hp s) mHash sig H.name (sLen : Int) =
      liftP ((rsassaPssVerify H k mHash sig sLen).map fun _ => true) := by
  unfold Gen.RSASSA_PSS_verify rsassaPssVerify
  simp only [bind, pure, gen_raw_public_eq, rawPublicKeyOpBytes_eq]
  by_cases hg : sig.length = numBytes k.n ∧ beDecode sig < k.n
  · have hnb : 1 ≤ numBits k.n := numBits_pos k.n (by omega)
    simp only [hg, and_self, if_true, pyrt, Option.isNone_some, Bool.false_eq_true, if_false, pyNumBits,
      ← Int.natCast_sub hnb, Nat.zero_lt_succ, ← divceil_def, gen_EMSA_PSS_verify_eq _ _ _ _ _ _ _ _ _ hh]
    generalize beEncode (numBytes k.n) (beDecode sig ^ k.e % k.n) = em
    generalize divceil (numBits k.n - 1) 8 = emLen
    by_cases hlen : emLen < em.length
    · simp only [hlen, if_true, ← Int.natCast_sub (Nat.le_of_lt hlen), pyrt]
    · simp only [hlen, if_false, pyrt]
  · simp only [hg, if_false, pyrt, if_true, Option.isNone_none]

/-- **Block type 2 padding has the PKCS#1 v1.5 shape, for every outcome.**  Whatever loop bound `fuel` and
    whatever `getRandomBytes` returns: IF `_addPKCS1Padding(bytes, 2)` as the source has it now returns, the
    result is `00 02 PS 00 bytes` with no zero byte in PS and `|PS| = max(0, k - len(bytes) - 3)`. -/
theorem gen_addPKCS1Padding2_shape (self : PyE.RsaSelf) (bytes out : Bytes) (fuel : Nat)
    (h : Gen._addPKCS1Padding fuel self bytes 2 = .ok out) :
    ∃ ps : Bytes, out = [0, 2] ++ ps ++ [0] ++ bytes ∧ (∀ b ∈ ps, b ≠ 0) ∧
      ps.length = (PyE.numBytes self.n - ((bytes.length : Int) + 3)).toNat := by
  rw [RsaPad.Gen._addPKCS1Padding2_eq self bytes fuel _ rfl] at h
  generalize PyE.numBytes self.n - ((bytes.length : Int) + 3) = padLength at h ⊢
  simp only at h
  split at h
  · cases h
    exact ⟨[], rfl, nofun, by simp; omega⟩
  · split at h
    · cases h
    · rename_i hp0 hdraw
      cases h
      refine ⟨_, rfl, ?_, ?_⟩
      · intro b hb
        rw [List.mem_map] at hb
        obtain ⟨v, hv, rfl⟩ := hb
        have := filterNonZero_range _ v (List.mem_of_mem_take hv)
        intro h0
        have h1 : (UInt8.ofNat v.toNat).toNat = 0 := by rw [h0]; rfl
        rw [UInt8.toNat_ofNat'] at h1
        omega
      · rw [List.length_map]
        have := List.length_take_le padLength.toNat (PyE.filterNonZero (self.random (padLength * 2)))
        omega

/-- **When it returns.**  With `getRandomBytes` modelled as a function of the requested length (the same draw
    in every iteration), `_addPKCS1Padding(bytes, 2)` returns iff no padding is needed or the loop bound
    admits one iteration and the draw of `2·padLength` bytes contains at least `padLength` non-zero ones;
    otherwise the `while` loop never ends (`Err.fuel` for every bound). -/
theorem gen_addPKCS1Padding2_returns_iff (self : PyE.RsaSelf) (bytes : Bytes) (fuel : Nat) (padLength : Int)
    (hpl : PyE.numBytes self.n - ((bytes.length : Int) + 3) = padLength) :
    (∃ out, Gen._addPKCS1Padding fuel self bytes 2 = .ok out) ↔
      (padLength ≤ 0 ∨ (1 ≤ fuel ∧ padLength ≤ ((PyE.filterNonZero (self.random (padLength * 2))).length : Int))) := by
  rw [RsaPad.Gen._addPKCS1Padding2_eq self bytes fuel _ hpl]
  simp only
  by_cases hp0 : padLength ≤ 0
  · rw [if_pos hp0]; exact iff_of_true ⟨_, rfl⟩ (Or.inl hp0)
  · rw [if_neg hp0, List.length_take]
    split
    · exact iff_of_false (fun ⟨_, h⟩ => nomatch h) (by omega)
    · exact iff_of_true ⟨_, rfl⟩ (Or.inr (by omega))

theorem gen_raw_private_eq (k : PrivKey) (H : HashAlg) (st : Blind) (rnd : Nat) (hp : Bool) (s msg : Bytes)
    (hpq : k.p ≠ 0 ∧ k.q ≠ 0) :
    Gen._raw_private_key_op_bytes (padSelf k.pub H (privOf k st rnd) hp s) msg =
      liftP ((rawPrivateKeyOpBytes k st rnd msg).map Prod.fst) := by
  unfold Gen._raw_private_key_op_bytes rawPrivateKeyOpBytes
  simp only [pyrt, Rsa.numBytes_eq, ne_eq, hpq.1, hpq.2, or_self, if_false]
  rfl

theorem gen_raw_pkcs1_sign_eq (k : PrivKey) (H : HashAlg) (st : Blind) (rnd : Nat) (s bytes : Bytes) (fuel : Nat)
    (hpq : k.p ≠ 0 ∧ k.q ≠ 0) :
    Gen._raw_pkcs1_sign fuel (padSelf k.pub H (privOf k st rnd) (decide (k.d ≠ 0)) s) bytes =
      liftP ((rawPkcs1Sign k st rnd bytes).map Prod.fst) := by
  unfold Gen._raw_pkcs1_sign rawPkcs1Sign
  simp only [bind, padSelf_hasPriv, gen_addPKCS1Padding1_eq, ok_bind', gen_raw_private_eq _ _ _ _ _ _ _ hpq]
  by_cases hd : k.d = 0
  · simp only [hd, ne_eq, not_true_eq_false, decide_false, Bool.not_false, if_true]; rfl
  · simp only [hd, ne_eq, not_false_eq_true, decide_true, Bool.not_true, Bool.false_eq_true, if_false]

theorem rawPrivate_err (k : PrivKey) (st : Blind) (rnd : Nat) (m : Bytes) (e : Err) (hpq : k.p ≠ 0 ∧ k.q ≠ 0)
    (h : rawPrivateKeyOpBytes k st rnd m = .error e) : e = .valueError := by
  unfold rawPrivateKeyOpBytes at h
  have hpq' : ¬ (k.p = 0 ∨ k.q = 0) := by omega
  by_cases h1 : m.length ≠ numBytes k.pub.n
  · simp [h1] at h; exact h.symm
  · by_cases h2 : beDecode m ≥ k.pub.n
    · simp [h1, h2] at h; exact h.symm
    · simp [h1, h2, hpq'] at h

theorem gen_RSASSA_PSS_sign_eq (k : PrivKey) (H : HashAlg) (st : Blind) (rnd : Nat) (hp : Bool) (mHash salt : Bytes)
    (hh : 0 < H.hLen) (hpq : k.p ≠ 0 ∧ k.q ≠ 0) (hn : 0 < k.pub.n) :
    Gen.RSASSA_PSS_sign (padSelf k.pub H (privOf k st rnd) hp salt) mHash H.name (salt.length : Int) =
      liftP ((rsassaPssSign H k st rnd mHash salt).map Prod.fst) := by
  unfold Gen.RSASSA_PSS_sign rsassaPssSign
  have hnb : 1 ≤ numBits k.pub.n := numBits_pos k.pub.n (Nat.ne_of_gt hn)
  simp only [bind, pyrt, pyNumBits, pyNumBytes, ← Int.natCast_sub hnb, gen_EMSA_PSS_encode_eq _ _ _ _ _ _ _ hh]
  cases henc : emsaPssEncode H mHash (numBits k.pub.n - 1) salt with
  | error e => rfl
  | ok em =>
    simp only [pyrt, Int.toNat_sub, gen_raw_private_eq _ _ _ _ _ _ _ hpq]
    cases hraw : rawPrivateKeyOpBytes k st rnd (List.replicate (numBytes k.pub.n - em.length) 0 ++ em) with
    | error e => cases rawPrivate_err k st rnd _ e hpq hraw; rfl
    | ok r => rfl

theorem gen_sign_pkcs1_eq (k : PrivKey) (H : HashAlg) (st : Blind) (rnd : Nat) (s salt bytes : Bytes) (p : String)
    (alg : Option String) (sl : Option Int) (fuel : Nat)
    (hp : p.toLower = "pkcs1") (hpq : k.p ≠ 0 ∧ k.q ≠ 0) (hlow : ∀ a, alg = some a → a.toLower = a) :
    Gen.sign fuel (padSelf k.pub H (privOf k st rnd) (decide (k.d ≠ 0)) s) bytes p alg sl =
      liftP ((sign k st rnd bytes .pkcs1 alg H salt).map Prod.fst) := by
  unfold Gen.sign sign
  simp only [bind, pure, PyE.lower, hp, gen_addPKCS1Prefix_eq, gen_raw_pkcs1_sign_eq _ _ _ _ _ _ _ hpq, bind_pure']
  cases alg with
  | none => rfl
  | some a =>
    have ha := hlow a rfl
    simp only [Option.isSome_some, if_true, PyE.optGet, ok_bind', ha]
    cases hpre : addPKCS1Prefix bytes a with
    | error e => rfl
    | ok b => rfl

theorem gen_sign_pss_eq (k : PrivKey) (H : HashAlg) (st : Blind) (rnd : Nat) (hp : Bool) (mHash salt : Bytes) (p : String)
    (fuel : Nat) (hpp : p.toLower = "pss")
    (hh : 0 < H.hLen) (hpq : k.p ≠ 0 ∧ k.q ≠ 0) (hn : 0 < k.pub.n) :
    Gen.sign fuel (padSelf k.pub H (privOf k st rnd) hp salt) mHash p (some H.name) (some (salt.length : Int)) =
      liftP ((sign k st rnd mHash .pss (some H.name) H salt).map Prod.fst) := by
  unfold Gen.sign sign
  have hd1 : (decide ("pss" = "pkcs1") = true) = False := by decide
  simp only [bind, pure, PyE.lower, hpp, hd1, if_false, if_true, PyE.optGet, ok_bind', bind_pure',
    gen_RSASSA_PSS_sign_eq _ _ _ _ _ _ _ hh hpq hn, decide_true]

theorem gen_sign_other (self : PyE.RsaSelf) (bytes : Bytes) (p : String) (alg : Option String) (sl : Option Int) (fuel : Nat)
    (h1 : p.toLower ≠ "pkcs1") (h2 : p.toLower ≠ "pss") :
    Gen.sign fuel self bytes p alg sl = .error .unknownRSAType := by
  unfold Gen.sign
  simp only [bind, pure, PyE.lower, h1, h2, decide_false, Bool.false_eq_true, if_false]
  rfl

theorem gen_verify_pss_eq (k : PubKey) (H : HashAlg) (f : Nat → Nat) (hp : Bool) (s sig mHash : Bytes) (sLen fuel : Nat)
    (hh : 0 < H.hLen) :
    Gen.verify fuel (padSelf k H f hp s) sig mHash "pss" (some H.name) (some (sLen : Int)) =
      liftP (verify k sig mHash .pss (some H.name) H sLen) := by
  unfold Gen.verify verify
  have hd1 : (decide ("pss" = "pkcs1")) = false := by decide
  simp only [bind, pure, hd1, Bool.false_and, Bool.false_eq_true, if_false, if_true, PyE.optGet, ok_bind',
    gen_RSASSA_PSS_verify_eq _ _ _ _ _ _ _ _ hh, bind_pure']
  have hp1 : ¬ (Padding.pss = Padding.pkcs1) := by decide
  simp only [hp1, false_and, if_false]
  cases hv : rsassaPssVerify H k mHash sig sLen with
  | ok u => rfl
  | error e => cases e <;> rfl

theorem lower_pkcs1 : "pkcs1".toLower = "pkcs1" := by decide +kernel
theorem lower_pss : "pss".toLower = "pss" := by decide +kernel

theorem gen_hashAndVerify_pkcs1_eq (k : PubKey) (H : HashAlg) (f : Nat → Nat) (hp : Bool) (s sig data : Bytes)
    (scheme : String) (sl : Int) (sLen fuel : Nat) (hs : scheme.toLower = "pkcs1") (hlow : H.name.toLower = H.name) :
    Gen.hashAndVerify fuel (padSelf k H f hp s) sig data scheme H.name sl =
      liftP (hashAndVerify k sig data .pkcs1 H sLen) := by
  unfold Gen.hashAndVerify hashAndVerify
  simp only [PyE.lower, hs, hlow, padSelf_hash]
  exact gen_verify_pkcs1_eq k H f hp s sig (H.hash data) (some H.name) (some sl) sLen fuel
    (fun a ha => by cases ha; exact hlow)

theorem gen_hashAndVerify_pss_eq (k : PubKey) (H : HashAlg) (f : Nat → Nat) (hp : Bool) (s sig data : Bytes)
    (scheme : String) (sLen fuel : Nat) (hs : scheme.toLower = "pss") (hlow : H.name.toLower = H.name)
    (hh : 0 < H.hLen) :
    Gen.hashAndVerify fuel (padSelf k H f hp s) sig data scheme H.name (sLen : Int) =
      liftP (hashAndVerify k sig data .pss H sLen) := by
  unfold Gen.hashAndVerify hashAndVerify
  simp only [PyE.lower, hs, hlow, padSelf_hash]
  exact gen_verify_pss_eq k H f hp s sig (H.hash data) sLen fuel hh

theorem gen_hashAndSign_pkcs1_eq (k : PrivKey) (H : HashAlg) (st : Blind) (rnd : Nat) (s salt data : Bytes)
    (scheme : String) (sl : Int) (fuel : Nat) (hs : scheme.toLower = "pkcs1") (hlow : H.name.toLower = H.name)
    (hpq : k.p ≠ 0 ∧ k.q ≠ 0) :
    Gen.hashAndSign fuel (padSelf k.pub H (privOf k st rnd) (decide (k.d ≠ 0)) s) data scheme H.name sl =
      liftP ((hashAndSign k st rnd data .pkcs1 H salt).map Prod.fst) := by
  unfold Gen.hashAndSign hashAndSign
  simp only [PyE.lower, hs, hlow, padSelf_hash]
  exact gen_sign_pkcs1_eq k H st rnd s salt (H.hash data) "pkcs1" (some H.name) (some sl) fuel lower_pkcs1 hpq
    (fun a ha => by cases ha; exact hlow)

theorem gen_hashAndSign_pss_eq (k : PrivKey) (H : HashAlg) (st : Blind) (rnd : Nat) (hp : Bool) (salt data : Bytes)
    (scheme : String) (fuel : Nat) (hs : scheme.toLower = "pss") (hlow : H.name.toLower = H.name)
    (hh : 0 < H.hLen) (hpq : k.p ≠ 0 ∧ k.q ≠ 0) (hn : 0 < k.pub.n) :
    Gen.hashAndSign fuel (padSelf k.pub H (privOf k st rnd) hp salt) data scheme H.name (salt.length : Int) =
      liftP ((hashAndSign k st rnd data .pss H salt).map Prod.fst) := by
  unfold Gen.hashAndSign hashAndSign
  simp only [PyE.lower, hs, hlow, padSelf_hash]
  exact gen_sign_pss_eq k H st rnd hp (H.hash data) salt "pss" fuel lower_pss hh hpq hn

/-- **pss_verify_accept_iff, of the source as it is now.** -/
theorem gen_pss_verify_accept_iff (k : PubKey) (H : HashAlg) (f : Nat → Nat) (hp : Bool) (s mHash em : Bytes)
    (emBits sLen : Nat) (hh : 0 < H.hLen) :
    Gen.EMSA_PSS_verify (padSelf k H f hp s) mHash em (emBits : Int) H.name (sLen : Int) = .ok true ↔
      let emLen := divceil emBits 8
      let maskedDB := em.take (emLen - H.hLen - 1)
      let h := (em.drop (emLen - H.hLen - 1)).take H.hLen
      H.hLen + sLen + 2 ≤ emLen ∧
      em.getLast? = some 0xbc ∧
      (∃ b0, maskedDB.head? = some b0 ∧ b0.toNat &&& pssTopMask emLen emBits = 0) ∧
      ∃ db, pssRecoverDB H maskedDB h emLen emBits = .ok db ∧
        (∀ x ∈ db.take (emLen - H.hLen - sLen - 2), x = 0) ∧
        db[emLen - H.hLen - sLen - 2]? = some 1 ∧
        h = H.hash (List.replicate 8 (0 : UInt8) ++ mHash ++
              (if sLen ≠ 0 then db.drop (db.length - sLen) else [])) := by
  rw [gen_EMSA_PSS_verify_eq k H f hp s mHash em emBits sLen hh, liftP_map_true_eq_ok]
  exact pss_verify_accept_iff H mHash em emBits sLen

/-- **What the source's `sign` emits, the source's `verify` accepts** (RSASSA-PSS, any hash with fixed non-zero
    output length, any salt, any well-formed key — also modulus bit lengths = 1 mod 8), stated about the
    regenerated functions on both sides. -/
theorem gen_pss_sign_then_verify {H : HashAlg} (hH : HashOk H) {k : PrivKey} (vk : ValidKey k)
    {st : Blind} {rnd : Nat} (hst : BlindOk k st)
    (hrnd : st.blinder = 0 → invMod rnd k.pub.n * rnd % k.pub.n = 1)
    (mHash salt sig s' : Bytes) (hp hp' : Bool) (f' : Nat → Nat) (fuel fuel' : Nat)
    (hs : Gen.sign fuel (padSelf k.pub H (privOf k st rnd) hp salt) mHash "pss" (some H.name) (some (salt.length : Int))
      = .ok sig) :
    Gen.verify fuel' (padSelf k.pub H f' hp' s') sig mHash "pss" (some H.name) (some (salt.length : Int)) = .ok true := by
  have hp0 := Nat.ne_zero_of_lt vk.hp2
  have hq0 := Nat.ne_zero_of_lt vk.hq2
  have hn := Nat.zero_lt_of_lt vk.n_gt_one
  rw [gen_sign_pss_eq k H st rnd hp mHash salt "pss" fuel lower_pss hH.pos ⟨hp0, hq0⟩ hn] at hs
  have hsig : ∃ st', rsassaPssSign H k st rnd mHash salt = .ok (sig, st') := by
    unfold sign at hs
    cases hr : rsassaPssSign H k st rnd mHash salt with
    | error e => rw [hr] at hs; cases hs
    | ok r =>
      rw [hr] at hs
      obtain ⟨a, b⟩ := r
      have : a = sig := by cases hs; rfl
      exact ⟨b, by rw [this]⟩
  obtain ⟨st', hst'⟩ := hsig
  have hv := (pss_verify_sign hH vk hst hrnd mHash salt sig st' hst').1
  rw [gen_verify_pss_eq k.pub H f' hp' s' sig mHash salt.length fuel' hH.pos]
  unfold verify
  have hp1 : ¬ (Padding.pss = Padding.pkcs1) := by decide
  simp only [hp1, false_and, if_false, if_true, hv]
  rfl

/-- **pkcs1_verify_iff_canonical, of the source as it is now.**  `verify(sig, h, "pkcs1", alg)` of the
    regenerated rsakey.py returns True iff the key is not PSS-only, `sig` has the length of the modulus,
    is below it, and `sig^e mod n` on exactly k bytes is THE canonical encoding (lower-case hash name,
    as every caller passes it). -/
theorem gen_pkcs1_verify_iff_canonical (k : PubKey) (H : HashAlg) (f : Nat → Nat) (hp : Bool) (s sig h : Bytes)
    (alg : String) (sl : Option Int) (fuel : Nat) (hlow : alg.toLower = alg) :
    Gen.verify fuel (padSelf k H f hp s) sig h "pkcs1" (some alg) sl = .ok true ↔
      k.pssOnly = false ∧ sig.length = numBytes k.n ∧ beDecode sig < k.n ∧
      ∃ t ∈ acceptedDigestInfos alg h,
        beEncode (numBytes k.n) ((beDecode sig) ^ k.e % k.n) = canonicalEM (numBytes k.n) t := by
  rw [gen_verify_pkcs1_eq k H f hp s sig h (some alg) sl 0 fuel (fun a ha => by cases ha; exact hlow), liftP_eq_ok]
  exact pkcs1_verify_iff_canonical k sig h alg H 0

example : Gen.verify 4 (padSelf exKey.pub toyHash (fun _ => 0) false []) [1, 2, 3, 4, 5] [7] "pkcs1" none none = .ok false := by
  decide +kernel

/-- outcome of a hand-model verification as the source reports it -/
def asBool (r : Except Err Unit) : PyE.M Bool := liftP (r.map fun _ => true)

def pssEM (emBits : Nat) (salt : Bytes) : Bytes := (emsaPssEncode toyHash [1, 2] emBits salt).toOption.getD []
def flipAt (b : Bytes) (i : Nat) (m : UInt8) : Bytes := b.set i ((b.getD i 0) ^^^ m)

def pssVerifyVectors : List (Bytes × Nat × Nat) :=
  [((47 : Nat), ([9] : Bytes)), (48, [9]), (41, [9]), (47, []), (64, [7, 8, 9]), (33, [])].flatMap fun es =>
    let emBits := es.1
    let salt := es.2
    let em := pssEM emBits salt
    [ (em, emBits, salt.length),
      (flipAt em 0 0x01, emBits, salt.length), (flipAt em 0 0x40, emBits, salt.length), (flipAt em 0 0x80, emBits, salt.length),
      (flipAt em 1 0x01, emBits, salt.length), (flipAt em (em.length - 1) 0x01, emBits, salt.length),
      (flipAt em (em.length - 2) 0x10, emBits, salt.length), (flipAt em (em.length - 4) 0x02, emBits, salt.length),
      (em, emBits, salt.length + 1), (em.drop 1, emBits, salt.length), (0 :: em, emBits, salt.length), ([], emBits, 0),
      (em, emBits + 8, salt.length), (em, emBits - 1, salt.length) ]

theorem gen_pss_verify_vectors :
    pssVerifyVectors.all (fun v =>
      Gen.EMSA_PSS_verify (padSelf exKey.pub toyHash (fun _ => 0) false []) [1, 2] v.1 (v.2.1 : Int) "toy" (v.2.2 : Int)
        == asBool (emsaPssVerify toyHash [1, 2] v.1 v.2.1 v.2.2)) = true :=
  List.all_eq_true.mpr fun v _ => beq_iff_eq.mpr
    (gen_EMSA_PSS_verify_eq exKey.pub toyHash _ false [] [1, 2] v.1 v.2.1 v.2.2 toyHash_ok.pos)


theorem gen_pss_encode_vectors :
    ([((47 : Nat), ([9] : Bytes)), (48, [9]), (41, [9]), (47, []), (64, [7, 8, 9]), (33, []), (24, [1]), (31, []), (32, []), (0, [])].all
      fun es => Gen.EMSA_PSS_encode (padSelf exKey.pub toyHash (fun _ => 0) false es.2) [1, 2] (es.1 : Int) "toy" (es.2.length : Int)
        == liftP (emsaPssEncode toyHash [1, 2] es.1 es.2)) = true :=
  List.all_eq_true.mpr fun es _ => beq_iff_eq.mpr
    (gen_EMSA_PSS_encode_eq exKey.pub toyHash _ false [1, 2] es.2 es.1 toyHash_ok.pos)

def pssSig (salt : Bytes) : Bytes :=
  ((rsassaPssSign toyHash exKey ⟨0, 0⟩ 12345 [1, 2] salt).toOption.map Prod.fst).getD []

def pssKeyVectors : List (Bytes × Nat) :=
  [([9] : Bytes), []].flatMap fun salt =>
    let sig := pssSig salt
    [ (sig, salt.length), (flipAt sig 0 0x01, salt.length), (flipAt sig 4 0x01, salt.length), (sig, salt.length + 1),
      (sig.drop 1, salt.length), (0 :: sig, salt.length), (beEncode 5 136117223861, salt.length), (beEncode 5 0, salt.length),
      (beEncode 5 1, salt.length), (beEncode 5 136117223860, salt.length) ]

theorem gen_rsassa_pss_verify_vectors :
    (pssKeyVectors.all fun v =>
      Gen.RSASSA_PSS_verify (padSelf exKey.pub toyHash (fun _ => 0) false []) [1, 2] v.1 "toy" (v.2 : Int)
        == asBool (rsassaPssVerify toyHash exKey.pub [1, 2] v.1 v.2)) = true ∧
    (pssKeyVectors.all fun v =>
      Gen.verify 8 (padSelf exKey.pub toyHash (fun _ => 0) false []) v.1 [1, 2] "pss" (some "toy") (some (v.2 : Int))
        == liftP (verify exKey.pub v.1 [1, 2] .pss (some "toy") toyHash v.2)) = true :=
  ⟨List.all_eq_true.mpr fun v _ => beq_iff_eq.mpr
      (gen_RSASSA_PSS_verify_eq exKey.pub toyHash _ false [] [1, 2] v.1 v.2 toyHash_ok.pos),
   List.all_eq_true.mpr fun v _ => beq_iff_eq.mpr
      (gen_verify_pss_eq exKey.pub toyHash _ false [] v.1 [1, 2] v.2 8 toyHash_ok.pos)⟩

def exPriv (m : Nat) : Nat := (rawPrivateKeyOp exKey ⟨0, 0⟩ 12345 m).1

/-- signing: the source's `sign` / `RSASSA_PSS_sign` / `_raw_pkcs1_sign` with the hand model's blinded CRT
    operation as `_rawPrivateKeyOp` give the hand model's signatures -/
theorem gen_sign_vectors :
    ([([9] : Bytes), []].all fun salt =>
      Gen.sign 8 (padSelf exKey.pub toyHash exPriv true salt) [1, 2] "pss" (some "toy") (some (salt.length : Int))
        == liftP ((sign exKey ⟨0, 0⟩ 12345 [1, 2] .pss (some "toy") toyHash salt).map Prod.fst)) = true ∧
    ([some "sha1", some "sha256", none, some "nohash"].all fun alg =>
      Gen.sign 8 (padSelf exKey.pub toyHash exPriv true []) [1] "pkcs1" alg none
        == liftP ((sign exKey ⟨0, 0⟩ 12345 [1] .pkcs1 alg toyHash []).map Prod.fst)) = true ∧
    Gen.sign 8 (padSelf exKey.pub toyHash exPriv true []) [1] "x" none none = .error .unknownRSAType ∧
    Gen.hashAndVerify 8 (padSelf exKey.pub toyHash exPriv true []) (pssSig [9]) [5, 6] "PSS" "toy" 1
      = liftP (hashAndVerify exKey.pub (pssSig [9]) [5, 6] .pss toyHash 1) := by
  have hpq : exKey.p ≠ 0 ∧ exKey.q ≠ 0 := by decide
  refine ⟨List.all_eq_true.mpr fun salt _ => beq_iff_eq.mpr
      (gen_sign_pss_eq exKey toyHash ⟨0, 0⟩ 12345 true [1, 2] salt "pss" 8 lower_pss toyHash_ok.pos hpq (by decide)),
    List.all_eq_true.mpr fun alg ha => beq_iff_eq.mpr
      (gen_sign_pkcs1_eq exKey toyHash ⟨0, 0⟩ 12345 [] [] [1] "pkcs1" alg none 8 lower_pkcs1 hpq ?_),
    gen_sign_other _ _ _ _ _ _ (by decide +kernel) (by decide +kernel),
    gen_hashAndVerify_pss_eq exKey.pub toyHash exPriv true [] (pssSig [9]) [5, 6] "PSS" 1 8 (by decide +kernel)
      (by decide +kernel) toyHash_ok.pos⟩
  -- the hash names of the second family are lower-case
  intro a h
  subst h
  simp only [List.mem_cons, Option.some.injEq, List.not_mem_nil, or_false, reduceCtorEq, false_or] at ha
  rcases ha with rfl | rfl | rfl <;> decide +kernel

end Tls.Rsa
