import TlsProofs.Interop
/-
  C07 — tlslite-ng interoperates with an independent TLS implementation (OpenSSL).

  PARTIAL, and deliberately so.  No model of OpenSSL exists, so nothing below is a statement
  about OpenSSL (or about tlslite-ng's handshake code): OpenSSL's behaviour is OBSERVED by the
  harness (harness/props/c07.py: live tlslite <-> OpenSSL pairs over in-memory BIOs, both role
  assignments), never proved.  What is proved here is that the *expectation* the harness diffs
  the live pairs against — `Tls.Interop.expectedOutcome` over two capability records and the
  server's key type — is exactly the property's side condition:

    * it predicts success iff the two configurations share a version and, for the highest
      shared one, a suite that is defined for that version, is authenticated by the server key,
      and has a group and a signature scheme listed by both  (`compatible_iff_expected_success`);
    * everything it predicts lies in BOTH capability records  (`expected_params_in_both`), so a
      live pair that reports a parameter outside the expectation has left one configuration;
    * it predicts failure only for configurations that share no common parameters
      (`failure_only_if_disjoint`, with the reason-specific forms).

  The full property ("every compatible tlslite/OpenSSL pair completes, agrees, and moves data
  intact") is NOT a theorem: it is the direct oracle of the harness, run over all combinations.
-/
namespace Tls.Interop

/-- The configurations share common parameters: a highest common version `v`, and for it a suite
    both list that is defined for `v`, can be authenticated with the server key `k`, and for which
    both list a usable group and a fitting signature scheme. -/
def Compatible (c s : Caps) (k : KeyType) : Prop :=
  ∃ v, v ∈ c.versions ∧ v ∈ s.versions ∧ (∀ w, w ∈ c.versions → w ∈ s.versions → w ≤ v) ∧
    ∃ id, SuiteAvail v c s k id

/-- Failures are expected only when the configurations share no common parameters
    (contrapositive form of the property's last sentence). -/
theorem failure_only_if_disjoint (c s : Caps) (k : KeyType) (r : FailReason)
    (h : expectedOutcome c s k = .failure r) : ¬ Compatible c s k := by
  intro ⟨v', hc', hs', hmax', id, hid⟩
  have := expectedOutcome_spec h
  have hv' : negotiatedVersion c s = some v' := negotiatedVersion_some.mpr ⟨hc', hs', hmax'⟩
  cases r with
  | noCommonVersion => exact this v' hc' hs'
  | noCommonSuite =>
    obtain ⟨v, hv, hno⟩ := this
    cases hv.symm.trans hv'
    obtain ⟨hc, hs, si, hsi, hok, _⟩ := hid
    rw [hno id si hc hs hsi] at hok
    cases hok
  | noUsableSuite =>
    obtain ⟨v, hv, _, hno⟩ := this
    cases hv.symm.trans hv'
    exact hno id hid

/-- expectedOutcome = success  ↔  the capability records share a version and, for the highest
    shared one, a suite / group / signature scheme usable with the server's credentials. -/
theorem compatible_iff_expected_success (c s : Caps) (k : KeyType) :
    (∃ v ps, expectedOutcome c s k = .success v ps) ↔ Compatible c s k := by
  constructor
  · intro ⟨v, ps, h⟩
    obtain ⟨hv, ⟨id, hid⟩, _⟩ := expectedOutcome_spec h
    have ⟨hc, hs, hmax⟩ := negotiatedVersion_some.mp hv
    exact ⟨v, hc, hs, hmax, id, mem_usableSuites.mp hid⟩
  · intro hcomp
    cases h : expectedOutcome c s k with
    | success v ps => exact ⟨v, ps, rfl⟩
    | failure r => exact absurd hcomp (failure_only_if_disjoint c s k r h)

example : ∃ v ps, expectedOutcome ⟨[0x0303, 0x0304], [0xC02F, 0x1301], [29, 23], [0x0804, 0x0401], []⟩
    ⟨[0x0301, 0x0302, 0x0303], [0xC02F, 0x002F], [23], [0x0401], []⟩ .rsa = .success v ps :=
  ⟨0x0303, [(0xC02F, [23])], by decide⟩

/-- Whatever is expected lies in both capability records: the version, every admissible suite,
    every admissible group; and the suite set is never empty. -/
theorem expected_params_in_both (c s : Caps) (k : KeyType) (v : Nat) (ps : List (Nat × List Nat))
    (h : expectedOutcome c s k = .success v ps) :
    v ∈ c.versions ∧ v ∈ s.versions ∧ ps ≠ [] ∧
    ∀ p, p ∈ ps → p.1 ∈ c.suites ∧ p.1 ∈ s.suites ∧ SuiteAvail v c s k p.1 ∧
      ∀ g, g ∈ p.2 → g ∈ c.groups ∧ (g ∈ s.groups ∨ g ∈ s.dhLegacy) := by
  have := expectedOutcome_spec h
  obtain ⟨hv, ⟨id, hid⟩, rfl⟩ := this
  have ⟨hc, hs, _⟩ := negotiatedVersion_some.mp hv
  refine ⟨hc, hs, List.ne_nil_of_mem (List.mem_map_of_mem hid), fun p hp => ?_⟩
  obtain ⟨id, hid, rfl⟩ := List.mem_map.mp hp
  have hav := mem_usableSuites.mp hid
  exact ⟨hav.1, hav.2.1, hav, fun g hg => mem_groupsOf hg⟩

example : expectedOutcome ⟨[0x0304], [0x1301, 0x1302], [29, 256], [0x0403], []⟩
    ⟨[0x0303, 0x0304], [0x1302, 0x1303], [256, 29, 23], [0x0403, 0x0503], []⟩ (.ecdsa 23) =
    .success 0x0304 [(0x1302, [29, 256])] := by decide

/-- The expected version is the highest one both configurations list. -/
theorem expected_version_highest (c s : Caps) (k : KeyType) (v : Nat) (ps : List (Nat × List Nat))
    (h : expectedOutcome c s k = .success v ps) :
    ∀ w, w ∈ c.versions → w ∈ s.versions → w ≤ v := by
  have := expectedOutcome_spec h
  exact (negotiatedVersion_some.mp this.1).2.2

example : expectedOutcome ⟨[0x0301, 0x0302, 0x0303], [0x002F], [], [], []⟩
    ⟨[0x0301, 0x0302], [0x002F], [], [], []⟩ .rsa = .success 0x0302 [(0x002F, [])] := by decide

/-- reason `noCommonVersion`: no version is listed by both -/
theorem failure_noCommonVersion (c s : Caps) (k : KeyType)
    (h : expectedOutcome c s k = .failure .noCommonVersion) :
    ∀ v, v ∈ c.versions → v ∉ s.versions :=
  expectedOutcome_spec h

example : expectedOutcome ⟨[0x0301], [0x002F], [], [], []⟩ ⟨[0x0303, 0x0304], [0x002F], [], [], []⟩ .rsa =
    .failure .noCommonVersion := by decide

/-- reason `noCommonSuite`: a highest common version exists, but no suite listed by both is
    defined for it -/
theorem failure_noCommonSuite (c s : Caps) (k : KeyType)
    (h : expectedOutcome c s k = .failure .noCommonSuite) :
    ∃ v, negotiatedVersion c s = some v ∧
      ∀ id si, id ∈ c.suites → id ∈ s.suites → suiteInfo id = some si → versionOk si v = false :=
  expectedOutcome_spec h

example : expectedOutcome ⟨[0x0303], [0xC02F], [23], [0x0401], []⟩ ⟨[0x0303], [0x1301, 0x002F], [23], [0x0401], []⟩ .rsa =
    .failure .noCommonSuite := by decide

/-- reason `noUsableSuite`: common suites defined for the version exist, but none of them has
    key, group and signature scheme available in both configurations -/
theorem failure_noUsableSuite (c s : Caps) (k : KeyType)
    (h : expectedOutcome c s k = .failure .noUsableSuite) :
    ∃ v, negotiatedVersion c s = some v ∧ (∃ id, id ∈ admissibleSuites v c s) ∧
      ∀ id, ¬ SuiteAvail v c s k id :=
  expectedOutcome_spec h

-- an ECDSA P-384 key cannot sign for a TLS 1.3 client that lists only ecdsa_secp256r1_sha256;
-- an ECDHE suite without a common curve; an RSA-PSS key in TLS 1.0
example : expectedOutcome ⟨[0x0304], [0x1301], [29], [0x0403], []⟩ ⟨[0x0304], [0x1301], [29], [0x0403, 0x0503], []⟩
    (.ecdsa 24) = .failure .noUsableSuite := by decide
example : expectedOutcome ⟨[0x0303], [0xC02F], [29], [0x0401], []⟩ ⟨[0x0303], [0xC02F], [23], [0x0401], []⟩ .rsa =
    .failure .noUsableSuite := by decide
example : expectedOutcome ⟨[0x0301], [0xC013], [23], [], []⟩ ⟨[0x0301], [0xC013], [23], [], []⟩ .rsaPss =
    .failure .noUsableSuite := by decide

/-- A client ECDSA certificate is expected to be usable in TLS <= 1.2 only if its curve is listed
    by both sides; nothing else is constrained. -/
theorem clientCert_expected_iff (v : Nat) (c s : Caps) (k : KeyType) :
    clientCertOk v c s k = true ↔
      ∀ g, k = .ecdsa g → v ≤ tls12 → g ∈ c.groups ∧ g ∈ s.groups := by
  unfold clientCertOk
  cases k with
  | ecdsa g =>
    by_cases h : v ≤ tls12
    · simp only [h, if_true, Bool.and_eq_true, List.contains_iff_mem, KeyType.ecdsa.injEq]
      constructor
      · intro hh g' e _; subst e; exact hh
      · intro hh; exact hh g rfl trivial
    · simp only [h, if_false, true_iff, KeyType.ecdsa.injEq]
      intro g' _ h'; exact h'.elim
  | _ => simp

example : clientCertOk 0x0303 ⟨[], [], [257], [], []⟩ ⟨[], [], [23, 257], [], []⟩ (.ecdsa 23) = false := by decide
example : clientCertOk 0x0304 ⟨[], [], [29], [], []⟩ ⟨[], [], [29], [], []⟩ (.ecdsa 23) = true := by decide

/-- A client CertificateVerify is expected to be possible in TLS 1.2 / 1.3 iff some signature scheme
    listed by both sides fits the client key (for ECDSA in TLS 1.2: any hash, smaller than, equal to
    or larger than the curve; in TLS 1.3: the hash bound to the curve). -/
theorem clientSig_expected_iff (v : Nat) (c s : Caps) (k : KeyType) (hv : v = tls12 ∨ v = tls13) :
    clientSigOk v c s k = true ↔
      ∃ x, x ∈ c.sigs ∧ x ∈ s.sigs ∧ (if v = tls13 then sigFits13 k x else sigFits12 k x) = true := by
  rw [clientSigOk_iff]
  have h32 : tls13 ≠ tls12 := by decide
  rcases hv with rfl | rfl
  · simp only [h32.symm, if_false, false_and, ne_eq, not_true, and_false, true_and, or_false, false_or]
  · simp only [if_true, true_and, h32, ne_eq, not_true, false_and, or_false]

-- a P-256 key signs with SHA-384 / SHA-512 in TLS 1.2 (hash larger than the curve), not in TLS 1.3
example : clientSigOk 0x0303 ⟨[], [], [], [0x0403, 0x0503, 0x0603], []⟩ ⟨[], [], [], [0x0603], []⟩ (.ecdsa 23) = true := by decide
example : clientSigOk 0x0304 ⟨[], [], [], [0x0403, 0x0503, 0x0603], []⟩ ⟨[], [], [], [0x0603], []⟩ (.ecdsa 23) = false := by decide
example : clientSigOk 0x0303 ⟨[], [], [], [0x0401, 0x0804], []⟩ ⟨[], [], [], [0x0809], []⟩ .rsa = false := by decide

/-- ALPN: a protocol is expected-selectable iff both sides list it. -/
theorem expectedAlpn_in_both (cp sp : List String) (p : String) :
    p ∈ expectedAlpn cp sp ↔ p ∈ cp ∧ p ∈ sp := by
  simp [expectedAlpn, List.mem_filter]

example : expectedAlpn ["h2", "http/1.1"] ["http/1.1", "spdy/3"] = ["http/1.1"] := by decide

/-- Resumption is expected only with a mechanism both sides support, for a second connection
    that is itself expected to succeed in the original session's version. -/
theorem resume_expected_only_if_shared (m : Mech) (cm sm : List Mech) (v0 s0 : Nat) (out : Outcome)
    (h : resumeExpected m cm sm v0 s0 out = true) :
    m ∈ cm ∧ m ∈ sm ∧ mechVersionOk m v0 = true ∧ ∃ ps, out = .success v0 ps := by
  unfold resumeExpected at h
  cases out with
  | failure r => simp at h
  | success v ps =>
    simp only [Bool.and_eq_true, List.contains_iff_mem, beq_iff_eq] at h
    obtain ⟨⟨⟨hcm, hsm⟩, hmv⟩, hv, _⟩ := h
    exact ⟨hcm, hsm, hmv, ps, by rw [hv]⟩

example : resumeExpected .psk [.psk, .ticket] [.psk] 0x0304 0x1301
    (.success 0x0304 [(0x1303, [29])]) = true := by decide
example : resumeExpected .psk [.psk] [.psk] 0x0304 0x1302
    (.success 0x0304 [(0x1301, [29])]) = false := by decide

end Tls.Interop
