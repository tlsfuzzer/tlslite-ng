import TlsProofs.AuthHs
import TlsProofs.AuthSrp
import TlsProofs.AuthSrcSpec
/-
  C05 — peer credentials are recorded only after proof of possession.

  Model: `TlsModel/Auth.lean` mirrors, site by site, the code that decides that the peer proved
  knowledge of the secret behind the identity it presents (see the header of that file), with
  abstract cryptography `Crypto`.  `Proved C key msg sig` (TlsProofs/AuthSites.lean) says: some
  algorithm of `key` verified `sig` on a public encoding (hash / DigestInfo prefix / truncation /
  MD5‖SHA-1) of `msg`.  `compatible c ver sid` is the RFC table "scheme fits the key type".

  The theorems are stated for every `Crypto`, settings, certificate, transcript and message.
  Unforgeability and collision resistance are NOT assumed: they appear as the named bad events
  `Forgery`, `EncCollision`, `TranscriptCollision` in `proof_bound_to_this_handshake`.

  History: three deviations found by this check were repaired in the tree (commits 01163b7, ae51d84:
  TLS 1.3 client accepted a CertificateVerify scheme it had not offered / one unusable with the
  certificate's key; 87777aa: TLS 1.3 server accepted a scheme absent from its CertificateRequest).
  The model follows the current code, so the theorems below hold at full strength; the harness
  keeps the corresponding oracle cases.
-/
namespace Tls.Auth
open Gen

/-! ### generated tables (re-checked against constants.py on every run) -/

theorem gen_tables_ok : Gen.problems = [] := by decide +kernel

/-- `rsa_<pad>_rsae_<h>` exists iff `rsa_<pad>_pss_<h>` exists — `_sigHashesToList` relies on it -/
theorem gen_rsa_variants (p : RsaPad) (h : HashName) :
    (rsaAttr p false h).isSome = (rsaAttr p true h).isSome := by
  cases p <;> cases h <;> rfl

theorem gen_hashId_repr (h : HashName) : hashRepr (hashId h) = some h := by
  cases h <;> rfl

/-- the EdDSA identifiers are exactly the names with key type `eddsa` and intrinsic hash -/
theorem gen_eddsa_ids : schemeRepr 8 7 = some { name := "ed25519", fam := .eddsa, pad := none, hash := .intrinsic } ∧
    schemeRepr 8 8 = some { name := "ed448", fam := .eddsa, pad := none, hash := .intrinsic } := by
  constructor <;> rfl

/-! ### the source, as extracted from its AST on every run (TlsModel/Gen/AuthSrc.lean), has the structure the model assumes

  Event lists are in source order per function (see translate/gen_auth.py for the vocabulary).
  Failure actions: alert n ↦ n (47 illegal_parameter, 51 decrypt_error, 80 internal_error), raise ↦ 1000.
  `schemeCheck (10·n + k)`: k membership tests `x not in list` guarding `_sendError n` (10001: raise).
  Sub-handshake indices in `call`: 0 _serverCertKeyExchange, 1 _serverFinished, 2 _clientKeyExchange,
  3 _clientFinished, 4 _getFinished, 5 _sendFinished, 6 _serverSRPKeyExchange, 7 _serverTLS13Handshake,
  8 _clientTLS13Handshake, 9 _serverAnonKeyExchange.  `record k`: bit 1 srpUsername, 2 clientCertChain,
  4 serverCertChain.  An unrecognised shape is an `odd` event or a `problems` entry and falsifies these. -/

/-- **Every place where a peer identity is recorded is dominated by the verification steps that
    `identity_implies_proof` assumes**, in the order the model runs them:
    * TLS 1.3 server: admission of the CertificateVerify scheme (two membership tests → illegal_parameter),
      signed bytes with the `client` tag, signature check → decrypt_error, Finished → decrypt_error,
      only then `session.create` with the client chain; a ticket's chain is remembered only AFTER every
      `continue` of the PSK loop and after the PSK was selected, and the binder check (→ illegal_parameter)
      follows before anything is recorded;
    * TLS 1.3 client: scheme advertised, `server` tag, certificate check, delegated-credential check,
      scheme offered and fitting the certificate, signature → exception (mapped to decrypt_error), Finished;
    * TLS ≤ 1.2 server: admission against the certificate-filtered list, certificate check, signature →
      decrypt_error before the chain is handed back; the helper records it, then runs `_serverFinished`
      (client Finished checked in `_getFinished` → decrypt_error BEFORE `_sendFinished` may send a ticket),
      then caches the SAME session object, then `_handshakeDone`;
    * TLS ≤ 1.2 client: certificate check, `verifyServerKeyExchange` with both exceptions mapped to alerts,
      Finished exchange before `session.create`;
    * PHA: both membership tests, `client` tag, signature → decrypt_error, Finished → decrypt_error, and
      the assignment to `session.clientCertChain` is the last event;
    * SRP: `A % N == 0` / `B % N == 0` raise, mapped to illegal_parameter; binder compared on all bytes;
      every ServerKeyExchange / delegated-credential verifier raises on a False result. -/
theorem gen_identity_recorded_only_after_proof :
    Src.problems = [] ∧ Src.allFunctions.all Src.noOdd = true ∧
    -- TLS 1.3 server
    Src.subseq [.sigList 1, .schemeCheck 472, .calcBytes 1, .sigVerify 51, .finCheck 51, .record 6]
      Src.f_serverTLS13Handshake = true ∧
    Src.subseq [.setResuming 0, .skip 0, .skip 0, .skip 0, .skip 0, .selectPsk 0, .setResuming 3, .recordResumed 0,
      .binderCheck 47, .finCheck 51, .useResumed 0, .record 6] Src.f_serverTLS13Handshake = true ∧
    Src.noneAfter Src.isSkip Src.isRecordResumed Src.f_serverTLS13Handshake = true ∧
    -- TLS 1.3 client
    Src.subseq [.setResuming 0, .setResuming 1, .schemeCheck 471, .calcBytes 2, .certCheck 0, .dcVerify 1000, .sigList 1,
      .schemeCheck 472, .sigVerify 1000, .finCheck 1000, .record 6] Src.f_clientTLS13Handshake = true ∧
    -- TLS ≤ 1.2 server
    Src.subseq [.kexProcess 47, .sigList 1, .schemeCheck 471, .calcBytes 0, .certCheck 0, .sigVerify 51, .yieldChain 0]
      Src.f_serverCertKeyExchange = true ∧
    Src.subseq [.call 0, .record 7, .call 1, .cacheInsert 1, .done 0] Src.f_handshakeServerAsyncHelper = true ∧
    Src.f_serverFinished = [.call 4, .call 5] ∧ Src.f_getFinished = [.finCheck 51] ∧
    -- TLS ≤ 1.2 client
    Src.subseq [.certCheck 0, .sigList 1, .skeVerify 47051, .yieldChain 0] Src.f_clientKeyExchange = true ∧
    Src.subseq [.call 2, .call 3, .record 7, .done 0] Src.f_handshakeClientAsyncHelper = true ∧
    Src.f_clientFinished = [.call 5, .call 4] ∧
    -- post-handshake authentication
    Src.f_handle_srv_pha = [.schemeCheck 471, .sigList 3, .schemeCheck 471, .calcBytes 1, .sigVerify 51, .finCheck 51, .record 2] ∧
    -- SRP, binder, ServerKeyExchange and delegated-credential verifiers
    Src.f_serverSRPKeyExchange = [.kexProcess 47, .yieldChain 0] ∧
    Src.f_SRPKeyExchange_processClientKeyExchange = [.srpCheck 0] ∧
    Src.f_SRPKeyExchange_processServerKeyExchange = [.srpCheck 0] ∧
    Src.f_verify_binder = [.binderCompare 1] ∧
    Src.f_tls12_verify_SKE = [.schemeCheck 10001, .sigVerify 1000] ∧
    Src.f_tls12_verify_ecdsa_SKE = [.sigVerify 1000] ∧ Src.f_tls12_verify_eddsa_ske = [.sigVerify 1000] ∧
    Src.f_tls12_verify_dsa_SKE = [.sigVerify 1000] ∧ Src.f_verifyServerKeyExchange = [.sigVerify 1000] ∧
    Src.f_DelegatedCredential_verify = [.schemeCheck 10001, .schemeCheck 10001, .sigVerify 1000] := by
  decide +kernel

/-- **No `verify` / `hashAndVerify` result is ignored**: every call site in tlsconnection.py,
    tlsrecordlayer.py, keyexchange.py and x509.py (also through `x = key.verify` aliases) sits in
    `if not …:` whose body sends an alert or raises, or is returned to the caller; and the sites that
    check the PEER's proof do what the model says (`sigVerify 51` / `sigVerify 1000` above). -/
theorem gen_verify_result_never_ignored :
    (Src.verifySites.all fun s => s.2 != 0) = true ∧ Src.verifySites.length ≥ 10 := by
  decide +kernel

/-- **`Checker.__call__` has the decision structure of `checkerSkips` / `checkerOk`**: the only
    way past it without raising is `not checkResumedSession and connection.resumed`; the client
    looks at `session.serverCertChain`, the server at `session.clientCertChain`; the comparison is
    `chain.getFingerprint() != x509Fingerprint` with `getFingerprint` = fingerprint of `x509List[0]`
    (the end-entity certificate); a missing chain raises. -/
theorem gen_checker_structure_matches_model :
    Src.checkerShape = Src.modelCheckerShape ∧
    (∀ cr resumed, checkerSkips cr resumed = (!cr && resumed)) ∧
    (∀ certFp fp sess c rest, sess.serverCertChain = c :: rest →
      (checkerOk certFp fp true sess = true ↔ certFp c = fp)) := by
  refine ⟨by decide +kernel, fun _ _ => rfl, ?_⟩
  intro certFp fp sess c rest h
  simp [checkerOk, h]

/-- **The checker runs before any session ticket is handed out** (regression of d4beb6f): in both
    functions that send tickets (`_serverTLS13Handshake`, `_sendFinished`) a checker call precedes
    `_serverSendTickets`; no other analysed function sends tickets; `_check_before_tickets` sets
    `self.resumed` before calling the checker (so the skip policy sees the right flag); the TLS 1.3
    server has recorded the session before; the wrapper still runs the checker for ticket-less
    handshakes. -/
theorem gen_checker_runs_before_tickets :
    Src.ticketsAfterChecker Src.f_serverTLS13Handshake false = true ∧ Src.hasTicketSend Src.f_serverTLS13Handshake = true ∧
    Src.subseq [.record 6, .checkerCall 0, .ticketSend 0] Src.f_serverTLS13Handshake = true ∧
    Src.f_sendFinished = [.checkerCall 0, .ticketSend 0] ∧
    Src.f_check_before_tickets = [.setResumed 0, .checkerCall 0] ∧
    Src.f_handshakeWrapperAsync = [.checkerCall 0] ∧
    ((Src.allFunctions.filter Src.hasTicketSend).length = 2) := by
  decide +kernel

/-- **Session tickets (the `pskTicket` case of `identity_implies_proof`).**  A TLS 1.3 server that
    completes and records a client chain got it either from this handshake's own Certificate /
    CertificateVerify (as above), or from a session ticket — and then only from the ticket that
    was SELECTED as this handshake's PSK: it decrypted under the server's ticket keys, has the
    negotiated version and PRF hash, is not expired, and its resumption binder over THIS truncated
    ClientHello verified.  A ticket that is merely offered (wrong binder, other hash, expired,
    undecryptable) never contributes an identity. -/
theorem identity_implies_proof_pskTicket (C : Crypto) (s : Settings) (own : Chain) (configs : List PskConfig)
    (dec : Bytes → Option Ticket) (lifetime now : Nat) (prf : HashName) (trCH : Transcript) (last : Bool)
    (psks : List (Bytes × Bytes)) (reqCert : Bool) (offered : List SchemeId) (chain : Chain) (tCV : Transcript)
    (ownScheme : Option SchemeId) (cv : CertVerify) (sec : Bytes) (tFin : Transcript) (fin : Bytes)
    (h : (hsServer13T C s own configs dec lifetime now prf trCH last psks reqCert offered chain tCV ownScheme cv sec tFin fin).completed = true) :
    ∃ sess, (hsServer13T C s own configs dec lifetime now prf trCH last psks reqCert offered chain tCV ownScheme cv sec tFin fin).session = some sess ∧
      fin = finished13 C prf sec tFin ∧
      (sess.clientCertChain ≠ [] →
        (sess.clientCertChain = chain ∧ reqCert = true ∧ ClientProof13 C offered chain tCV prf cv) ∨
        (∃ c, sess.pskIdentity = some c.identity ∧ c.external = false ∧ sess.clientCertChain = c.resumedChain ∧
          PskChoiceProof C configs dec lifetime now 4 prf trCH psks c)) ∧
      (∀ ident, sess.pskIdentity = some ident → ∃ c, c.identity = ident ∧
        PskChoiceProof C configs dec lifetime now 4 prf trCH psks c) := by
  revert h
  fun_cases hsServer13T C s own configs dec lifetime now prf trCH last psks reqCert offered chain tCV ownScheme cv sec tFin fin
  -- the one arm that completes: PSK loop and CertificateVerify passed, Finished equal
  case case4 sel hp _ ch hcv hf resumed =>
    refine fun _ => ⟨_, rfl, Decidable.not_not.mp hf, fun hne => ?_, fun ident hid => ?_⟩
    · cases sel with
      | some c =>
        cases Except.ok.inj hcv
        have hproof := pskSelectT_ok C configs dec lifetime now 4 prf trCH last psks _ 0 c rfl hp
        refine .inr ⟨c, rfl, ?_, rfl, hproof⟩
        obtain ⟨_, _, ⟨_, hnil, _⟩ | ⟨hext, _⟩⟩ := hproof
        · exact absurd hnil hne
        · exact hext
      | none =>
        by_cases hch : ch = []
        · exact absurd (if_pos hch) hne
        · cases reqCert with
          | false => exact absurd (Except.ok.inj hcv).symm hch
          | true =>
            obtain ⟨h1, h2⟩ := verifyCV13Server_ok hcv
            exact .inl ⟨(if_neg hch).trans h1, rfl, h2⟩
    · cases sel with
      | none => cases hid
      | some c =>
        cases hid
        exact ⟨c, rfl, pskSelectT_ok C configs dec lifetime now 4 prf trCH last psks _ 0 c rfl hp⟩
  all_goals nofun

/-- in particular: without a selected PSK and without a client Certificate message no client
    identity is recorded, whatever tickets were offered -/
theorem no_identity_without_proof (C : Crypto) (s : Settings) (own : Chain) (configs : List PskConfig)
    (dec : Bytes → Option Ticket) (lifetime now : Nat) (prf : HashName) (trCH : Transcript) (last : Bool)
    (psks : List (Bytes × Bytes)) (reqCert : Bool) (offered : List SchemeId) (tCV : Transcript)
    (ownScheme : Option SchemeId) (cv : CertVerify) (sec : Bytes) (tFin : Transcript) (fin : Bytes)
    (hsel : pskSelectT C configs dec lifetime now 4 prf trCH last psks 0 = .ok none) :
    ∀ sess, (hsServer13T C s own configs dec lifetime now prf trCH last psks reqCert offered [] tCV ownScheme cv sec tFin fin).session = some sess →
      sess.clientCertChain = [] := by
  intro sess hs
  unfold hsServer13T at hs
  by_cases hf : fin = finished13 C prf sec tFin
  · cases reqCert <;> simp [hsel, verifyCV13Server, pure, Except.pure, hf, Outcome.done] at hs <;> rw [← hs]
  · cases reqCert <;> simp [hsel, verifyCV13Server, pure, Except.pure, hf, Outcome.fail] at hs

/-- **Main theorem.**  For every handshake flavour of the model: if the handshake function
    completes, the session it leaves attributes a chain / SRP user / PSK to the peer only if
    the corresponding proof was checked on this handshake's own data:
    * TLS 1.3 client: server chain ⇒ signature by its end-entity key over
      `64×0x20 ‖ "TLS 1.3, server CertificateVerify" ‖ 0 ‖ H(transcript)`, scheme in the ClientHello
      list and compatible with the key, and the server Finished is the HMAC of this transcript;
    * TLS 1.3 server: client chain ⇒ the same with the `client` tag and the CertificateRequest
      list; PSK identity ⇒ the binder at that position is the HMAC of this truncated ClientHello
      under the configured secret; client Finished correct;
    * TLS ≤ 1.2 client: server chain ⇒ ServerKeyExchange (if any) signed by its key over
      `client_random ‖ server_random ‖ params`, TLS 1.2 scheme offered and compatible; Finished;
    * TLS ≤ 1.2 server: client chain ⇒ CertificateVerify by its key over the transcript; Finished;
    * SRP server: user name ⇒ `A mod N ≠ 0` and the client's Finished keyed by the premaster the
      server derives from its stored verifier. -/
theorem identity_implies_proof (C : Crypto) (s : Settings) :
    (∀ chSig chain certBytes tCV prf cv sec tFin fin,
      (hsClient13 C s chSig chain certBytes [] tCV prf cv sec tFin fin).completed = true →
      ∃ sess, (hsClient13 C s chSig chain certBytes [] tCV prf cv sec tFin fin).session = some sess ∧
        sess.serverCertChain = chain ∧ ServerProof13 C chSig chain tCV prf cv ∧
        fin = finished13 C prf sec tFin) ∧
    (∀ own configs prf trCH last psks reqCert offered chain tCV ownScheme cv sec tFin fin,
      (hsServer13 C s own configs prf trCH last psks reqCert offered chain tCV ownScheme cv sec tFin fin).completed = true →
      ∃ sess, (hsServer13 C s own configs prf trCH last psks reqCert offered chain tCV ownScheme cv sec tFin fin).session = some sess ∧
        fin = finished13 C prf sec tFin ∧
        (sess.clientCertChain ≠ [] → sess.clientCertChain = chain ∧ reqCert = true ∧
          ClientProof13 C offered chain tCV prf cv) ∧
        (∀ ident, sess.pskIdentity = some ident → ∃ (j : Nat) (cfg : PskConfig) (binder : Bytes),
          cfg ∈ configs ∧ cfg.identity = ident ∧ cfg.hash = prf ∧ psks[j]? = some (ident, binder) ∧
          binder = calcBinder C prf cfg.secret trCH true)) ∧
    (∀ ver fam chain ske cr sr master t fin own,
      (hsClient12 C s ver fam chain ske cr sr master t fin own).completed = true →
      ∃ sess, (hsClient12 C s ver fam chain ske cr sr master t fin own).session = some sess ∧
        sess.serverCertChain = chain ∧ fin = finished12 C ver master lblServerFinished t ∧
        ∃ c rest, chain = c :: rest ∧ ∀ k, ske = some k →
          Proved C c.key (cr ++ sr ++ k.params) k.signature ∧
          (¬ ver < 3 → compatible c 3 (k.hashAlg, k.signAlg) = true ∧
            ∀ l0, sigHashesToList s false [] 3 = .ok l0 → (k.hashAlg, k.signAlg) ∈ l0)) ∧
    (∀ ver own chain tCV cv master tFin fin, ver ≠ 4 →
      (hsServer12 C s ver own chain tCV cv master tFin fin).completed = true →
      ∃ sess, (hsServer12 C s ver own chain tCV cv master tFin fin).session = some sess ∧
        sess.clientCertChain = chain ∧ fin = finished12 C ver master lblClientFinished tFin ∧
        (chain = [] ∨ ∃ c rest, chain = c :: rest ∧ Proved C c.key tCV cv.signature ∧
          (ver = 3 → ∃ sid, cv.scheme = some sid ∧ compatible c 3 sid = true ∧
            ∀ l0, sigHashesToList s false [] 3 = .ok l0 → sid ∈ l0))) ∧
    (∀ ver user N v b A u masterOf tFin fin,
      (hsServerSRP C ver user N v b A u masterOf tFin fin).completed = true →
      A % N ≠ 0 ∧ ∃ S, srpServerPremaster N v b A u = .ok S ∧
        fin = finished12 C ver (masterOf S) lblClientFinished tFin) := by
  refine ⟨?_, ?_, ?_, ?_, ?_⟩
  · intro chSig chain certBytes tCV prf cv sec tFin fin
    fun_cases hsClient13 C s chSig chain certBytes [] tCV prf cv sec tFin fin
    -- 3 completes (here and in the three handshakes below): verification passed, Finished equal
    case case3 hv hf =>
      obtain ⟨h1, h2⟩ := verifyCV13Client_ok hv
      exact fun _ => ⟨_, rfl, h1, h2, Decidable.not_not.mp hf⟩
    all_goals nofun
  · intro own configs prf trCH last psks reqCert offered chain tCV ownScheme cv sec tFin fin
    -- the ticket-less case of `identity_implies_proof_pskTicket`: what that says of a ticket cannot arise
    rw [hsServer13_eq_T]
    intro h
    obtain ⟨sess, hs, hfin, hcc, hpsk⟩ := identity_implies_proof_pskTicket C s own configs (fun _ => none) 0 0 prf
      trCH last psks reqCert offered chain tCV ownScheme cv sec tFin fin h
    refine ⟨sess, hs, hfin, fun hne => ?_, fun ident hid => ?_⟩
    · rcases hcc hne with h | ⟨c, _, hext, _, _, _, ⟨hx, _⟩ | ⟨_, _, hd, _⟩⟩
      · exact h
      · cases hext.symm.trans hx
      · cases hd
    · obtain ⟨c, rfl, b, hb, ⟨_, _, cfg, h1, h2, h3, h4⟩ | ⟨_, _, hd, _⟩⟩ := hpsk ident hid
      · exact ⟨c.index, cfg, b, h1, h2, h3, hb, h4⟩
      · cases hd
  · intro ver fam chain ske cr sr master t fin own
    fun_cases hsClient12 C s ver fam chain ske cr sr master t fin own
    case case3 hv hf =>
      obtain ⟨h1, h2⟩ := verifySKE_ok hv
      exact fun _ => ⟨_, rfl, h1, Decidable.not_not.mp hf, h2⟩
    all_goals nofun
  · -- `ver ≠ 4` is not used: `calcVerifyBytes_enc` holds in every version
    intro ver own chain tCV cv master tFin fin _
    fun_cases hsServer12 C s ver own chain tCV cv master tFin fin
    case case3 hv _ hf =>
      obtain ⟨h1, h2⟩ := verifyCV12_ok hv
      exact fun _ => ⟨_, rfl, h1, Decidable.not_not.mp hf, h2⟩
    all_goals nofun
  · intro ver user N v b A u masterOf tFin fin
    fun_cases hsServerSRP C ver user N v b A u masterOf tFin fin
    case case3 S hs _ hf =>
      refine fun _ => ⟨fun hA => ?_, S, hs, Decidable.not_not.mp hf⟩
      simp [srpServerPremaster, hA] at hs
    all_goals nofun

/-- With a delegated credential the TLS 1.3 client uses the credential's key only after the
    delegation signature verified under the CERTIFICATE key over the DC context (certificate ‖
    credential ‖ algorithm); the credential's scheme was offered in the delegated_credential
    extension, the delegation algorithm in signature_algorithms, and CertificateVerify (named with
    the credential's scheme) verifies under the credential key over this transcript. -/
theorem delegated_credential_after_delegation (C : Crypto) (s : Settings) (chSig : List SchemeId)
    (chain : Chain) (certBytes : Bytes) (dc : DelegatedCred) (t : Transcript) (prf : HashName)
    (cv : CertVerify) (ch : Chain)
    (h : verifyCV13Client C s chSig chain certBytes [dc] t prf cv = .ok ch) :
    ch = chain ∧ ∃ c rest, chain = c :: rest ∧ cv.scheme = some dc.dcScheme ∧ dc.dcScheme ∈ s.dcSigAlgs ∧
      dc.algorithm ∈ chSig ∧
      Proved C c.key (dcContext certBytes dc.credBytes dc.algorithm) dc.signature ∧
      Proved C dc.dcKey.key (tbs13 tagServer (digest C prf t)) cv.signature := by
  have h := liftExc13_ok h
  unfold verifyCV13ClientRaw at h
  obtain ⟨sid, hsch, h⟩ := some_or_throw_bind_ok h
  simp only [guard_eq_ok, bind_eq_ok_iff, pure_or_throw_eq_ok, pure_eq_ok] at h
  obtain ⟨_, ctx, hvb, pk, hpk, _, _, _, hdc, _, rfl, ok, hcall, rfl, rfl⟩ := h
  obtain ⟨d1, d2, rfl, d4⟩ := verifyDC_ok hdc
  obtain ⟨rest, rfl⟩ := clientGetKeyFromChain_ok hpk
  obtain ⟨f, hf, rfl⟩ := calcVerifyBytes13_enc hvb
  exact ⟨rfl, pk, rest, rfl, hsch, d1, d2, d4,
    .of_enc hf (cv13Call_true hcall)⟩

/-- The signed bytes are an injective function of THIS handshake: a TLS 1.3 proof accepted for
    (tag, transcript) although the key's owner only ever signed CertificateVerify messages of
    other (tag', transcript') pairs (other handshakes, or the other role in this one) implies a
    named bad event: a signature forgery, a collision of the signed encodings, or a collision
    of the transcript hash. -/
theorem proof_bound_to_this_handshake (C : Crypto) (key : Nat) (prf : HashName) (tag : Bytes)
    (t : Transcript) (sig : Bytes) (ownerSigned : Bytes → Prop)
    (hacc : Proved C key (tbs13 tag (digest C prf t)) sig)
    (hown : ∀ m, ownerSigned m → ∃ tag' t', tag'.length = tag.length ∧ (tag', t') ≠ (tag, t) ∧
      m = tbs13 tag' (digest C prf t')) :
    Forgery C key sig ownerSigned ∨ EncCollision C ∨ TranscriptCollision C := by
  by_cases hcol : TranscriptCollision C
  · exact Or.inr (Or.inr hcol)
  · have hother : ∀ m', ownerSigned m' → m' ≠ tbs13 tag (digest C prf t) := by
      intro m' hs heq
      obtain ⟨tag', t', hl, hne, hm⟩ := hown m' hs
      rcases tbs13_binds_transcript C prf tag' tag t' t hl hne with h1 | h1
      · exact h1 (by rw [← hm, heq])
      · exact hcol h1
    rcases proved_foreign_message C key _ sig ownerSigned hacc hother with h | h
    · exact Or.inl h
    · exact Or.inr (Or.inl h)

/-- the two role tags differ and have the same length: a server's CertificateVerify can never be
    replayed as a client's -/
theorem role_tags_distinct : tagClient ≠ tagServer ∧ tagClient.length = tagServer.length := ⟨by decide, by decide⟩

/-- ServerKeyExchange: the signed message determines both randoms and the parameters -/
theorem ske_signed_bytes_injective (cr1 sr1 p1 cr2 sr2 p2 : Bytes) (hc : cr1.length = cr2.length)
    (hs : sr1.length = sr2.length) (h : cr1 ++ sr1 ++ p1 = cr2 ++ sr2 ++ p2) :
    cr1 = cr2 ∧ sr1 = sr2 ∧ p1 = p2 := by
  simp only [List.append_assoc] at h
  obtain ⟨h1, h2⟩ := List.append_inj h hc
  obtain ⟨h3, h4⟩ := List.append_inj h2 hs
  exact ⟨h1, h3, h4⟩

/-- `session.clientCertChain` is replaced by a post-handshake Certificate only on the path on
    which the request context was outstanding (and is consumed), the CertificateVerify — if a
    chain was sent — verified under the chain's end-entity key over
    first-handshake transcript ‖ CertificateRequest ‖ Certificate with an offered compatible
    scheme, AND the client's Finished over that context is correct. -/
theorem pha_chain_after_finished (C : Crypto) (dflt : Settings) (st st' : PhaState) (crContext : Bytes)
    (chain : Chain) (certMsg : Bytes) (cv : CertVerify) (cvBytes fin : Bytes)
    (h : phaServer C dflt st crContext chain certMsg cv cvBytes fin = .ok st') :
    st'.clientCertChain = chain ∧ crContext ≠ [] ∧
    ∃ cr rest, popRequest crContext st.requests = some (cr, rest) ∧ st'.requests = rest ∧
      PhaProof C st cr chain certMsg cv cvBytes fin := by
  unfold phaServer at h
  obtain ⟨hctx, h⟩ := ite_eq_right h nofun
  cases hpop : popRequest crContext st.requests with
  | none => rw [hpop] at h; cases h
  | some p =>
    obtain ⟨cr, rest⟩ := p
    rw [hpop] at h
    obtain ⟨_, ⟨⟩, h⟩ := bind_eq_ok h
    cases chain with
    | nil =>
      simp only [guard_eq_ok, bind_eq_ok_iff, pure_eq_ok, Decidable.not_not, ne_eq, List.append_assoc] at h
      obtain ⟨_, _, rfl, hfin, rfl⟩ := h
      exact ⟨rfl, hctx, cr, rest, rfl, rfl, .inl ⟨rfl, hfin⟩⟩
    | cons c r =>
      obtain ⟨sid, hsch, h⟩ := some_or_throw_bind_ok h
      simp only [guard_eq_ok, bind_eq_ok_iff, pure_eq_ok, Decidable.not_not, ne_eq, List.append_assoc] at h
      obtain ⟨hoff, avail, hav, hin, _, sc, hvb, ok, hcall, hok, _, rfl, hfin, rfl⟩ := h
      obtain ⟨f, hf, rfl⟩ := calcVerifyBytes13_enc hvb
      exact ⟨rfl, hctx, cr, rest, rfl, rfl, .inr ⟨c, r, sid, rfl, hsch, hoff,
        sigHashes_cert_compatible hav hin, .of_enc hf (phaCall_true (hok ▸ hcall)), hfin⟩⟩

/-- A scheme the verifier did not put on the wire is rejected at every site that names a scheme:
    TLS 1.3 server (CertificateRequest list), TLS 1.3 client (ClientHello list), post-handshake
    authentication (the request's list), TLS 1.2 server and TLS 1.2 client (the list computed
    from the settings without certificate, which is what CertificateRequest / ClientHello carry). -/
theorem not_offered_scheme_rejected (C : Crypto) (s : Settings) (c : Cert) (rest : Chain) (sid : SchemeId)
    (sig : Bytes) (t : Transcript) (prf : HashName) :
    (∀ offered own, ¬ sid ∈ offered →
      ∃ e, verifyCV13Server C s offered (c :: rest) t prf own { scheme := some sid, signature := sig } = .error e) ∧
    (∀ chSig certBytes, ¬ sid ∈ chSig →
      ∃ e, verifyCV13Client C s chSig (c :: rest) certBytes [] t prf { scheme := some sid, signature := sig } = .error e) ∧
    (∀ dflt st crContext certMsg cvBytes fin,
      (∀ cr r, popRequest crContext st.requests = some (cr, r) → ¬ sid ∈ cr.sigAlgs) →
      ∃ e, phaServer C dflt st crContext (c :: rest) certMsg { scheme := some sid, signature := sig } cvBytes fin = .error e) ∧
    (∀ l0, sigHashesToList s false [] 3 = .ok l0 → ¬ sid ∈ l0 →
      ∃ e, verifyCV12 C s 3 (c :: rest) t { scheme := some sid, signature := sig } = .error e) ∧
    (∀ l0 fam params cr sr, sigHashesToList s false [] 3 = .ok l0 → ¬ sid ∈ l0 →
      ∃ e, verifySKE C s 3 fam (c :: rest)
        (some { hashAlg := sid.1, signAlg := sid.2, params := params, signature := sig }) cr sr = .error e) := by
  refine ⟨?_, ?_, ?_, ?_, ?_⟩
  · intro offered own hno
    refine error_of_ne_ok fun ch hr => ?_
    obtain ⟨_, h | ⟨_, _, _, _, ⟨⟩, hoff, _⟩⟩ := verifyCV13Server_ok hr
    · cases h
    · exact hno hoff
  · intro chSig certBytes hno
    refine error_of_ne_ok fun ch hr => ?_
    obtain ⟨_, _, _, _, _, ⟨⟩, hoff, _⟩ := verifyCV13Client_ok hr
    exact hno hoff
  · intro dflt st crContext certMsg cvBytes fin hno
    refine error_of_ne_ok fun st' hr => ?_
    obtain ⟨_, _, cr, r, hpop, _, ⟨h, _⟩ | ⟨_, _, _, _, ⟨⟩, hoff, _⟩⟩ :=
      pha_chain_after_finished C dflt st st' crContext _ certMsg _ cvBytes fin hr
    · cases h
    · exact hno cr r hpop hoff
  · intro l0 hl0 hno
    refine error_of_ne_ok fun ch hr => ?_
    obtain ⟨_, h | ⟨_, _, _, _, h3⟩⟩ := verifyCV12_ok hr
    · cases h
    · obtain ⟨_, ⟨⟩, _, hin⟩ := h3 rfl
      exact hno (hin l0 hl0)
  · intro l0 fam params cr sr hl0 hno
    refine error_of_ne_ok fun ch hr => ?_
    obtain ⟨_, _, _, _, h3⟩ := verifySKE_ok hr
    exact hno (((h3 _ rfl).2 (by omega)).2 l0 hl0)

/-- with a delegated credential: a credential scheme that is not in the client's
    delegated_credential extension, or a delegation algorithm that is not in its
    signature_algorithms, is rejected -/
theorem not_offered_dc_rejected (C : Crypto) (s : Settings) (chSig : List SchemeId) (chain : Chain)
    (certBytes : Bytes) (dc : DelegatedCred) (t : Transcript) (prf : HashName) (cv : CertVerify)
    (hno : ¬ dc.dcScheme ∈ s.dcSigAlgs ∨ ¬ dc.algorithm ∈ chSig) :
    ∃ e, verifyCV13Client C s chSig chain certBytes [dc] t prf cv = .error e := by
  refine error_of_ne_ok fun ch hr => ?_
  obtain ⟨_, _, _, _, _, h1, h2, _⟩ := delegated_credential_after_delegation C s chSig chain certBytes dc t prf cv ch hr
  exact hno.elim (· h1) (· h2)

/-- A scheme that the RFC tables do not allow for the end-entity key of the PRESENTED chain
    (rsa_pkcs1 or SHA-1 in TLS 1.3, rsa_pss_pss with an rsaEncryption key and vice versa, ECDSA
    with a hash not bound to the curve in TLS 1.3, any scheme of another key family) is rejected
    at every site. -/
theorem wrong_key_type_rejected (C : Crypto) (s : Settings) (c : Cert) (rest : Chain) (sid : SchemeId)
    (sig : Bytes) (t : Transcript) (prf : HashName) :
    (compatible c 4 sid = false →
      (∀ offered own,
        ∃ e, verifyCV13Server C s offered (c :: rest) t prf own { scheme := some sid, signature := sig } = .error e) ∧
      (∀ chSig certBytes,
        ∃ e, verifyCV13Client C s chSig (c :: rest) certBytes [] t prf { scheme := some sid, signature := sig } = .error e) ∧
      (∀ dflt st crContext certMsg cvBytes fin,
        ∃ e, phaServer C dflt st crContext (c :: rest) certMsg { scheme := some sid, signature := sig } cvBytes fin = .error e)) ∧
    (compatible c 3 sid = false →
      (∃ e, verifyCV12 C s 3 (c :: rest) t { scheme := some sid, signature := sig } = .error e) ∧
      (∀ fam params cr sr, ∃ e, verifySKE C s 3 fam (c :: rest)
        (some { hashAlg := sid.1, signAlg := sid.2, params := params, signature := sig }) cr sr = .error e)) := by
  constructor
  · intro hbad
    refine ⟨fun offered own => ?_, fun chSig certBytes => ?_, fun dflt st crContext certMsg cvBytes fin => ?_⟩
    · refine error_of_ne_ok fun ch hr => ?_
      obtain ⟨_, h | ⟨_, _, _, ⟨⟩, ⟨⟩, _, hcomp, _⟩⟩ := verifyCV13Server_ok hr
      · cases h
      · cases hbad.symm.trans hcomp
    · refine error_of_ne_ok fun ch hr => ?_
      obtain ⟨_, _, _, _, ⟨⟩, ⟨⟩, _, hcomp, _⟩ := verifyCV13Client_ok hr
      cases hbad.symm.trans hcomp
    · refine error_of_ne_ok fun st' hr => ?_
      obtain ⟨_, _, _, _, _, _, ⟨h, _⟩ | ⟨_, _, _, ⟨⟩, ⟨⟩, _, hcomp, _⟩⟩ :=
        pha_chain_after_finished C dflt st st' crContext _ certMsg _ cvBytes fin hr
      · cases h
      · cases hbad.symm.trans hcomp
  · intro hbad
    refine ⟨?_, fun fam params cr sr => ?_⟩
    · refine error_of_ne_ok fun ch hr => ?_
      obtain ⟨_, h | ⟨_, _, ⟨⟩, _, h3⟩⟩ := verifyCV12_ok hr
      · cases h
      · obtain ⟨_, ⟨⟩, hcomp, _⟩ := h3 rfl
        cases hbad.symm.trans hcomp
    · refine error_of_ne_ok fun ch hr => ?_
      obtain ⟨_, _, _, ⟨⟩, h3⟩ := verifySKE_ok hr
      cases hbad.symm.trans ((h3 _ rfl).2 (by omega)).1

/-- A Checker whose fingerprint does not match the recorded peer chain (or with no peer chain)
    makes the call fail: the wrapped handshake never completes; if the inner handshake had
    completed, the connection is closed and the session is no longer resumable. -/
theorem checker_mismatch_fails (fpf : Cert → Bytes) (fp : Bytes) (isClient : Bool) (o : Outcome)
    (sess : Session) (hs : o.session = some sess) (hbad : checkerOk fpf fp isClient sess = false) :
    (wrapper fpf (some fp) isClient o).completed = false ∧
    (o.completed = true → (wrapper fpf (some fp) isClient o).closed = true ∧
      ∃ s', (wrapper fpf (some fp) isClient o).session = some s' ∧ s'.resumable = false) := by
  unfold wrapper
  by_cases hc : o.completed = false
  · simp [hc]
  · have hc' : o.completed = true := by simpa using hc
    simp [hc', hs, hbad]

/-- The pin is compared with the END-ENTITY certificate only: a pin that equals the fingerprint of
    some other certificate of the presented chain (an attacker holding the key of certificate A
    who presents `[A, V]` against a pin on `V`) does not pass unless the end-entity certificate
    itself has that fingerprint. -/
theorem checker_pins_end_entity (fpf : Cert → Bytes) (fp : Bytes) (isClient : Bool) (sess : Session)
    (c : Cert) (rest : Chain)
    (hch : (if isClient then sess.serverCertChain else sess.clientCertChain) = c :: rest) :
    checkerOk fpf fp isClient sess = true ↔ fpf c = fp := by
  rw [checkerOk_iff, hch]
  constructor
  · rintro ⟨_, _, ⟨⟩, hfp⟩
    exact hfp
  · exact fun h => ⟨c, rest, rfl, h⟩

/-- **A Checker that demands a certificate property cannot be satisfied without an authenticated
    chain.**  The check is skipped only for a connection reported as resumed (and only with
    `checkResumedSession = False`); certificate, external-PSK, SRP and anonymous handshakes are never
    reported as resumed (`resumedOf`, `resuming13` for an external PSK choice).  Hence in those
    modes a handshake that leaves no peer chain in the session — an external-PSK-only or SRP or
    anonymous peer — makes the call with `Checker(x509Fingerprint=…)` fail. -/
theorem checker_fails_without_authenticated_chain (certFp : Cert → Bytes) (fp : Bytes) (cr isClient : Bool)
    (mode : AuthMode) (hmode : mode = .cert ∨ mode = .extPsk ∨ mode = .srp ∨ mode = .anon)
    (o : Outcome) (sess : Session) (hs : o.session = some sess)
    (hnone : (if isClient then sess.serverCertChain else sess.clientCertChain) = []) :
    (wrapperR certFp (some (fp, cr)) isClient (resumedOf mode) o).completed = false := by
  have hr : resumedOf mode = false := by
    rcases hmode with h | h | h | h <;> subst h <;> rfl
  rw [hr, wrapperR_not_skipped (Bool.and_false _)]
  exact (checker_mismatch_fails certFp fp isClient o sess hs (checkerOk_no_chain hnone)).1

/-- with `checkResumedSession = True` the same holds for resumed connections -/
theorem checker_checks_resumed_when_asked (certFp : Cert → Bytes) (fp : Bytes) (isClient resumed : Bool)
    (o : Outcome) (sess : Session) (hs : o.session = some sess)
    (hnone : (if isClient then sess.serverCertChain else sess.clientCertChain) = []) :
    (wrapperR certFp (some (fp, true)) isClient resumed o).completed = false := by
  rw [wrapperR_not_skipped rfl]
  exact (checker_mismatch_fails certFp fp isClient o sess hs (checkerOk_no_chain hnone)).1

/-- an external PSK never makes the TLS 1.3 server report a resumption -/
theorem external_psk_not_resumed (c : PskChoice) (h : c.external = true) : resuming13 (some c) = false := by
  simp [resuming13, h]

/-- conversely a wrapped call that completes has passed the checker on the recorded chain -/
theorem checker_pass_means_match (fpf : Cert → Bytes) (fp : Bytes) (isClient : Bool) (o : Outcome)
    (h : (wrapper fpf (some fp) isClient o).completed = true) :
    o.completed = true ∧ ∀ sess, o.session = some sess → checkerOk fpf fp isClient sess = true := by
  unfold wrapper at h
  by_cases hc : o.completed = false
  · simp [hc] at h
  · have hc' : o.completed = true := by simpa using hc
    refine ⟨hc', ?_⟩
    intro sess hs
    simp only [hc', Bool.true_eq_false, if_false, hs] at h
    by_cases hk : checkerOk fpf fp isClient sess = true
    · exact hk
    · simp [hk] at h

/-- a failed TLS ≤ 1.2 server handshake may leave `conn.session` carrying the client chain (the
    code writes it before the Finished check — observed on the implementation too) but the
    connection is closed and the session is not resumable -/
theorem failed_handshake_session_not_resumable (C : Crypto) (s : Settings) (ver : Nat) (own chain : Chain)
    (tCV : Transcript) (cv : CertVerify) (master : Bytes) (tFin : Transcript) (fin : Bytes)
    (h : (hsServer12 C s ver own chain tCV cv master tFin fin).completed = false) :
    (hsServer12 C s ver own chain tCV cv master tFin fin).closed = true ∧
    ∀ sess, (hsServer12 C s ver own chain tCV cv master tFin fin).session = some sess → sess.resumable = false := by
  revert h
  fun_cases hsServer12 C s ver own chain tCV cv master tFin fin
  -- 1: CertificateVerify rejected, no session; 2: Finished wrong, the chain is in the session already; 3 completes
  case case1 => exact fun _ => ⟨rfl, nofun⟩
  case case2 => exact fun _ => ⟨rfl, fun _ hs => Option.some.inj hs ▸ rfl⟩
  case case3 => nofun

/-- the executed square-and-multiply is modular exponentiation -/
theorem powMod_spec (b e n : Nat) : powMod b e n = b ^ e % n := powMod_eq b e n

/-- **SRP agreement.**  If the server's stored verifier is `v = g^x mod N` for the `x` the client
    derives from salt, user name and password, and `A = g^a`, `B = g^b + k v` are delivered
    unmodified (and are not 0 mod N), both sides compute the same premaster secret — hence the
    Finished messages can only match if the client knew the password behind `v`. -/
theorem srp_agreement (N g k x a b u : Nat) (hN : 0 < N)
    (hA : srpClientA N g a % N ≠ 0) (hB : srpServerB N g k (powMod g x N) b % N ≠ 0) :
    ∃ S, srpClientPremaster N g k x a (srpServerB N g k (powMod g x N) b) u = .ok S ∧
      srpServerPremaster N (powMod g x N) b (srpClientA N g a) u = .ok S := by
  -- both are `g ^ (b * (a + u * x)) % N`; the equations hold for `N = 0` as well
  have _ := hN
  exact ⟨_, srpClientPremaster_honest N g k x a b u hB, srpServerPremaster_honest N g x a b u hA⟩

/-- the server never derives a premaster from `A ≡ 0 (mod N)` -/
theorem srp_zero_A_rejected (N v b A u : Nat) (h : A % N = 0) :
    srpServerPremaster N v b A u = .error (.alert AD.illegalParameter) := by
  simp [srpServerPremaster, h]

/-- the client never derives a premaster from `B ≡ 0 (mod N)` -/
theorem srp_zero_B_rejected (N g k x a B u : Nat) (h : B % N = 0) :
    srpClientPremaster N g k x a B u = .error (.alert AD.illegalParameter) := by
  simp [srpClientPremaster, h]

/-! ### non-vacuity: an honest peer is accepted (concrete toy cryptography) -/

/-- toy cryptography: a signature is the key byte; hashing keeps the first byte -/
def exCrypto : Crypto :=
  { verify := fun k _ _ s => s == [UInt8.ofNat k]
    hash := fun _ x => x.take 1
    hashLen := fun _ => 1
    pkcs1Prefix := fun _ => []
    pkcs1Sha1Alt := []
    derOk := fun _ => true
    hmac := fun _ k d => k ++ d
    finKey := fun _ s => s
    prf12 := fun _ m l t => m ++ l ++ t
    binderKey := fun _ p _ => p }

def exSettings : Settings :=
  { rsaSigHashes := [.sha256], rsaSchemes := [.pss, .pkcs1], ecdsaSigHashes := [.sha256], dsaSigHashes := [],
    moreSigSchemes := [.ed25519], eccCurves := [.nist256], minKeySize := 1023, maxKeySize := 8193 }

def exRsa : Cert := { key := 7, alg := .rsa, bits := 2048 }

example : verifyCV13Server exCrypto exSettings [(8, 4)] [exRsa] [1, 2] .sha256 none
    { scheme := some (8, 4), signature := [7] } = .ok [exRsa] := by decide +kernel

example : verifyCV13Client exCrypto exSettings [(8, 4)] [exRsa] [] [] [1, 2] .sha256
    { scheme := some (8, 4), signature := [7] } = .ok [exRsa] := by decide +kernel

-- a scheme that was offered but does not fit the RSA key is refused …
example : verifyCV13Client exCrypto exSettings [(8, 4), (8, 9)] [exRsa] [] [] [1, 2] .sha256
    { scheme := some (8, 9), signature := [7] } = .error (.alert 47) := by decide +kernel

-- … and so is one that fits but was not offered
example : verifyCV13Server exCrypto exSettings [] [exRsa] [1, 2] .sha256 none
    { scheme := some (8, 4), signature := [7] } = .error (.alert 47) := by decide +kernel

example : compatible exRsa 4 (8, 9) = false := by decide +kernel
example : compatible exRsa 4 (4, 1) = false ∧ compatible exRsa 3 (4, 1) = true := by decide +kernel

example : verifyCV12 exCrypto exSettings 3 [exRsa] [1, 2] { scheme := some (4, 1), signature := [7] } = .ok [exRsa] := by
  decide +kernel

example : (hsServer12 exCrypto exSettings 3 [] [exRsa] [1, 2] { scheme := some (4, 1), signature := [7] } [9] [3] [0]).completed = false := by
  decide +kernel

example : srpClientPremaster 23 5 3 6 4 (srpServerB 23 5 3 (powMod 5 6 23) 9) 7 = .ok 6 ∧
    srpServerPremaster 23 (powMod 5 6 23) 9 (srpClientA 23 5 4) 7 = .ok 6 := by decide +kernel

example : checkerOk (fun c => [UInt8.ofNat c.key]) [9] true { serverCertChain := [exRsa] } = false := by
  decide +kernel

-- pin on the second certificate of the chain [attacker, victim]: refused; pin on the end entity: accepted
example : checkerOk (fun c => [UInt8.ofNat c.key]) [9] true
    { serverCertChain := [exRsa, { key := 9, alg := .rsa, bits := 2048 }] } = false ∧
  checkerOk (fun c => [UInt8.ofNat c.key]) [7] true
    { serverCertChain := [exRsa, { key := 9, alg := .rsa, bits := 2048 }] } = true := by decide +kernel

end Tls.Auth
