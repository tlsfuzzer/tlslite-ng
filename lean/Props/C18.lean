import TlsProofs.Cache
import TlsProofs.ConcCache
import TlsProofs.RsaCorrect
import TlsProofs.Db
import TlsModel.Gen.Locks
/-
  C18 — shared objects stay correct under every thread interleaving.

  Sequential part: `Tls.Cache.Cache` mirrors `tlslite/sessioncache.py` statement by statement
  (dict, per-ID count, circular list, firstIndex/lastIndex, `_purge`, `_remove`); `runSpec` is the
  property's specification over the time-stamped log of stores.  Hypotheses: `1 ≤ maxEntries`
  (with 0 the constructor builds an empty list and the first store raises IndexError — shown
  below) and a clock that never goes back.

  Concurrent part: `Tls.Conc` is an interleaving semantics of threads built from thread-local
  actions, shared actions and one lock.  The action shapes of the real methods are GENERATED from
  the Python AST on every run (TlsModel/Gen/Locks.lean); the `*_lock_discipline` theorems, from
  which every later theorem takes the shape of the method it speaks of, stop checking when a lock
  is removed, a shared access is moved outside its section, or a construct appears that the
  translator cannot classify.
-/
namespace Tls.C18
open Tls.Cache Tls.Conc Tls.CacheConc Tls.Locks

/-- For every history of stores, lookups and invalidations with a clock that never goes back,
    every result of the implementation model — returned session, KeyError, or an escaping
    internal error — equals the specification's: the session last stored under the ID iff it is
    not older than maxAge, still valid and fewer than maxEntries−1 stores came after it. -/
theorem cache_refines_spec (maxEntries : Nat) (maxAge : Int) (ops : List Op)
    (hcap : 1 ≤ maxEntries) (hmono : ClockMonotone ops) :
    runImpl maxEntries maxAge ops = runSpec maxEntries maxAge ops :=
  (run_sim_new maxEntries maxAge ops hcap hmono).1

example : runImpl 3 10 [.set 1 0 100, .set 1 5 101, .get 1 12, .get 1 15, .get 1 16, .set 2 16 102,
                        .set 3 16 103, .get 1 16, .get 2 16, .inval 103, .get 3 16]
    = [.done, .done, .sess 101, .sess 101, .keyError, .done, .done, .keyError, .sess 102, .done,
       .keyError] := by decide +kernel

/-- the specification never reports an internal error -/
theorem spec_no_internal (maxEntries : Nat) (maxAge : Int) (ops : List Op) (st : SpecState) :
    ∀ o ∈ (runSpecFrom maxEntries maxAge st ops).2, ∀ e, o ≠ Out.internal e := by
  induction ops generalizing st with
  | nil => intro o ho; simp [runSpecFrom] at ho
  | cons op ops ih =>
    intro o ho e
    simp only [runSpecFrom, List.mem_cons] at ho
    rcases ho with ho | ho
    · subst ho
      cases op with
      | set id t s => simp [SpecState.step]
      | inval s => simp [SpecState.step]
      | get id t =>
        simp only [SpecState.step, specGet]
        split
        · simp
        · split <;> simp
    · exact ih _ o ho e

/-- No internal error on any history: neither `_remove` (inside purge or eviction) nor any list
    index raises; the only exception a caller can see is the KeyError of a lookup. -/
theorem cache_no_internal_error (maxEntries : Nat) (maxAge : Int) (ops : List Op)
    (hcap : 1 ≤ maxEntries) (hmono : ClockMonotone ops) :
    ∀ o ∈ runImpl maxEntries maxAge ops, ∀ e, o ≠ Out.internal e := by
  rw [cache_refines_spec maxEntries maxAge ops hcap hmono]
  exact spec_no_internal maxEntries maxAge ops _

/-- the hypothesis `1 ≤ maxEntries` is needed: with an empty circular list the store raises -/
example : runImpl 0 10 [.set 1 0 100] = [.internal .indexError] := by decide

/-- Size bound after any history: the dictionary, the per-ID counts and the live part of the
    circular list never hold more than maxEntries−1 entries, and the dictionary never more than
    the live list. -/
theorem cache_size_bound (maxEntries : Nat) (maxAge : Int) (ops : List Op)
    (hcap : 1 ≤ maxEntries) (hmono : ClockMonotone ops) :
    let c := (runImplFrom { cache := Cache.new maxEntries maxAge, inval := [] } ops).1.cache
    c.liveLen ≤ maxEntries - 1 ∧ c.dict.length ≤ c.liveLen ∧ c.count.length ≤ c.liveLen := by
  obtain ⟨_, _, q, hinv, _⟩ := run_sim_new maxEntries maxAge ops hcap hmono
  intro c
  rw [liveLen_eq _ q hinv]
  exact ⟨Nat.le_sub_one_of_lt hinv.lt, dc_length_le hinv.dc⟩

example : (runImplFrom { cache := Cache.new 3 10, inval := [] }
            [.set 1 0 1, .set 2 0 2, .set 3 0 3, .set 4 1 4]).1.cache.liveLen = 2 := by decide

/-- If every access of every operation to the shared state lies inside one acquire…release section
    of the lock, then every interleaving that runs to completion ends in the state (shared state
    and every thread's own state) of some serial execution of whole operations. -/
theorem lock_gives_atomicity {σ ρ : Type} (P : Nat → List (List (Act σ ρ)))
    (hwf : AllSharedAccessInsideLock P) (s0 : σ) (l0 : Nat → ρ) (c : Cfg σ ρ)
    (hrun : Steps (initCfg P s0 l0) c) (hfin : Final c) :
    ∃ order : List Nat,
      (serialRun order (initSCfg P s0 l0)).sh = c.sh ∧
      (∀ t, ((serialRun order (initSCfg P s0 l0)).th t).loc = (c.th t).loc) ∧
      (∀ t, ((serialRun order (initSCfg P s0 l0)).th t).ops = []) := by
  obtain ⟨order, hrel⟩ := steps_sim _ c (initSCfg P s0 l0) (rel_init P hwf s0 l0) hrun
  exact ⟨order, rel_final c _ hrel hfin⟩

/-- non-vacuity: two threads add to a shared counter under the lock; thread 1 performs its
    thread-local step while thread 0 holds the lock.  The interleaved run is complete and the
    program satisfies the lock discipline. -/
example : ∃ c : Cfg Nat Nat,
    Steps (initCfg (fun t => if t < 2 then [[Act.loc (· + 10), Act.acq, Act.sh (fun s l => (s + 1, l + s)), Act.rel]]
                             else []) 0 (fun _ => 0)) c ∧
    Final c ∧ c.sh = 2 ∧ (c.th 0).loc = 10 ∧ (c.th 1).loc = 11 := by
  refine ⟨_, Steps.tail (Steps.tail (Steps.tail (Steps.tail (Steps.tail (Steps.tail (Steps.tail
    (Steps.tail (Steps.tail (Steps.tail (Steps.refl _)
      (Step.loc _ 0 _ _ _ rfl)) (Step.acq _ 0 _ _ rfl rfl)) (Step.loc _ 1 _ _ _ rfl))
      (Step.sh _ 0 _ _ _ rfl)) (Step.rel _ 0 _ _ rfl rfl)) (Step.acq _ 1 _ _ rfl rfl))
      (Step.endOp _ 0 _ rfl)) (Step.sh _ 1 _ _ _ rfl)) (Step.rel _ 1 _ _ rfl rfl))
      (Step.endOp _ 1 _ rfl), ?_, rfl, rfl, rfl⟩
  intro t
  by_cases h0 : t = 0
  · subst h0; rfl
  · by_cases h1 : t = 1
    · subst h1; rfl
    · have : ¬ t < 2 := by omega
      simp only [setTh, h0, h1, initCfg, this, if_false]

example : AllSharedAccessInsideLock (σ := Nat) (ρ := Nat)
    (fun t => if t < 2 then [[Act.loc (· + 10), Act.acq, Act.sh (fun s l => (s + 1, l + s)), Act.rel]] else []) := by
  intro t op hop
  dsimp only at hop
  split at hop
  · simp at hop; subst hop; rfl
  · simp at hop

/-- without the lock the conclusion fails: `shapeOK` rejects a shared access outside a section -/
example : shapeOK 0 [Kind.loc, Kind.sh, Kind.acq, Kind.sh, Kind.rel] = false := by decide

/-- Generic consequence of the lock discipline: calls on a lock-protected object whose
    statement-level semantics `sem` has well-formed shapes and the sequential model `step` as
    composition.  Every complete interleaving is explained by ONE serial history: it contains each
    thread's calls in program order, each thread observed exactly the results recorded in it, and
    results and final shared state are those of running `step` over it. -/
theorem lock_gives_linearizability {σ ρ ω ο : Type} (res : ρ → List ο) (sem : ω → List (Act σ ρ))
    (step : ω → σ → σ × ο) (T : Nat → List ω)
    (hshape : ∀ t, ∀ o ∈ T t, shapeOK 0 (kinds (sem o)) = true)
    (hseq : ∀ o x l, (runActs (sem o) (x, l)).1 = (step o x).1 ∧
                     res (runActs (sem o) (x, l)).2 = res l ++ [(step o x).2])
    (s0 : σ) (l0 : Nat → ρ) (hl0 : ∀ t, res (l0 t) = []) (c : Cfg σ ρ)
    (hrun : Steps (initCfg (fun t => (T t).map sem) s0 l0) c) (hfin : Final c) :
    ∃ hist : List (Ev ω ο),
      (∀ t, (evOf t hist).map (·.call) = T t) ∧
      (∀ t, res (c.th t).loc = (evOf t hist).map (·.out)) ∧
      runSeq step s0 (hist.map (·.call)) = (c.sh, hist.map (·.out)) := by
  have hwf : AllSharedAccessInsideLock (fun t => (T t).map sem) := by
    intro t op hop
    obtain ⟨o, ho, rfl⟩ := List.mem_map.mp hop
    exact hshape t o ho
  obtain ⟨order, hsh, hloc, hops⟩ := lock_gives_atomicity _ hwf s0 l0 c hrun hfin
  have h0 : LinHist res sem step T s0 (initSCfg (fun t => (T t).map sem) s0 l0) [] :=
    ⟨fun t => ⟨T t, rfl, rfl, hl0 t⟩, rfl⟩
  obtain ⟨hist, hh⟩ := linHist_run res sem step T s0 hseq order _ [] h0
  choose rem hrem using hh.th
  have hnil : ∀ t, rem t = [] := fun t => List.map_eq_nil_iff.mp ((hrem t).ops.symm.trans (hops t))
  refine ⟨hist, fun t => ?_, fun t => ?_, ?_⟩
  · rw [← (hrem t).calls, hnil t, List.append_nil]
  · rw [← hloc t]; exact (hrem t).outs
  · rw [← hsh]; exact hh.run

/-- `SessionCache.__getitem__/__setitem__` (with `_purge`, `_remove` inlined): every access to a
    field some operation changes, and every clock reading, lies inside the one `self.lock` section -/
theorem sessioncache_lock_discipline : classOK Gen.Locks.sessionCache = true := by decide +kernel

/-- `Python_RSAKey._rawPrivateKeyOp`: the blinding pair is read and updated inside `with self._lock` -/
theorem rsakey_lock_discipline : classOK Gen.Locks.pythonRSAKey = true := by decide +kernel

/-- `VerifierDB` / `BaseDB` get, set, del, contains, check, keys: every access to the database
    object lies inside the `self.lock` section -/
theorem verifierdb_lock_discipline : classOK Gen.Locks.verifierDB = true := by decide +kernel

example : (shapeOf Gen.Locks.sessionCache Gen.Locks.sessionCache_setitem).length > 3 := by decide

/-- Threads calling get / set on one cache.  `sem` is any statement-level semantics of the two
    methods whose action kinds are the ones generated from the source (`hshape`) and whose
    sequential composition is the sequential model of the call (`hseq`: what the sequential
    correspondence checks).  Then every complete interleaving is explained by one serial history
    `hist`: it contains every thread's calls in program order, every thread observed exactly the
    results recorded in it, its clock readings never go back, and its results are those of the
    specification — the session last stored under the ID iff young enough, valid and not evicted. -/
theorem concurrent_cache_correct {ρ : Type} (res : ρ → List Out) (maxEntries : Nat)
    (maxAge clock0 : Int) (hcap : 1 ≤ maxEntries)
    (sem : COp → List (Act Shared ρ))
    (hshape : ∀ o, kinds (sem o) = match o with
        | .set _ _ _ => shapeOf Gen.Locks.sessionCache Gen.Locks.sessionCache_setitem
        | .get _ _ => shapeOf Gen.Locks.sessionCache Gen.Locks.sessionCache_getitem)
    (hseq : ∀ o x l, (runActs (sem o) (x, l)).1 = (stepD o x).1 ∧
                     res (runActs (sem o) (x, l)).2 = res l ++ [(stepD o x).2])
    (T : Nat → List COp) (l0 : Nat → ρ) (hl0 : ∀ t, res (l0 t) = [])
    (c : Cfg Shared ρ)
    (hrun : Steps (initCfg (fun t => (T t).map sem)
                    ⟨{ cache := Cache.new maxEntries maxAge, inval := [] }, clock0⟩ l0) c)
    (hfin : Final c) :
    ∃ hist : List Event,
      (∀ t, (ofThread t hist).map (·.call) = T t) ∧
      (∀ t, res (c.th t).loc = (ofThread t hist).map (·.out)) ∧
      ClockMonotone (hist.map Event.op) ∧
      hist.map (·.out) = runSpec maxEntries maxAge (hist.map Event.op) := by
  obtain ⟨h, hcalls, houts, hseqrun⟩ := lock_gives_linearizability res sem stepD T
    (fun t o _ => by
      rw [hshape o]
      cases o <;> exact classOK_entry sessioncache_lock_discipline (by decide))
    hseq ⟨{ cache := Cache.new maxEntries maxAge, inval := [] }, clock0⟩ l0 hl0 c hrun hfin
  obtain ⟨himpl, hmono⟩ := stamp_run h _ _ hseqrun
  replace hmono := (List.pairwise_cons.mp hmono).2
  have hev := fun t => ofThread_stamp t clock0 h
  refine ⟨stamp clock0 h, ?_, ?_, hmono, ?_⟩
  · intro t
    rw [← hcalls t, ← hev t, List.map_map]
    rfl
  · intro t
    rw [houts t, ← hev t, List.map_map]
    rfl
  · rw [← cache_refines_spec maxEntries maxAge _ hcap hmono, runImpl, himpl, ← stamp_ev clock0 h,
      List.map_map, stamp_ev]
    rfl

/-- Generic form: operations on a lock-protected object that keep an invariant `good` of the
    shared state and return `correct o` whenever the invariant holds (and the call's arguments
    satisfy `ok`).  `sem` is any statement-level semantics with the action kinds generated from
    `_rawPrivateKeyOp` and `stepR` as sequential composition.  After every complete interleaving
    the invariant holds and every thread got exactly the correct results of its calls, in order. -/
theorem lock_protected_invariant {σ ρ ω : Type} (res : ρ → List Nat) (good : σ → Prop)
    (ok : ω → Prop) (stepR : ω → σ → σ × Nat) (correct : ω → Nat)
    (hgood : ∀ o s, ok o → good s → good (stepR o s).1 ∧ (stepR o s).2 = correct o)
    (sem : ω → List (Act σ ρ))
    (hshape : ∀ o, kinds (sem o) =
        shapeOf Gen.Locks.pythonRSAKey Gen.Locks.pythonRSAKey_rawPrivateKeyOp)
    (hseq : ∀ o s l, (runActs (sem o) (s, l)).1 = (stepR o s).1 ∧
                     res (runActs (sem o) (s, l)).2 = res l ++ [(stepR o s).2])
    (T : Nat → List ω) (hT : ∀ t, ∀ o ∈ T t, ok o)
    (s0 : σ) (hs0 : good s0) (l0 : Nat → ρ) (hl0 : ∀ t, res (l0 t) = [])
    (c : Cfg σ ρ) (hrun : Steps (initCfg (fun t => (T t).map sem) s0 l0) c) (hfin : Final c) :
    good c.sh ∧ ∀ t, res (c.th t).loc = (T t).map correct := by
  obtain ⟨hist, hcalls, houts, hseqrun⟩ := lock_gives_linearizability res sem stepR T
    (fun t o _ => by rw [hshape o]; exact classOK_entry rsakey_lock_discipline (by decide))
    hseq s0 l0 hl0 c hrun hfin
  obtain ⟨hg, hout⟩ := runSeq_invariant good ok stepR correct hgood (hist.map (·.call)) s0 hs0
    (forall_calls hcalls hT)
  rw [hseqrun] at hg hout
  rw [List.map_map] at hout
  refine ⟨hg, fun t => ?_⟩
  rw [houts t, ← hcalls t, List.map_map]
  exact List.map_congr_left fun e he => List.map_inj_left.mp hout e (List.mem_filter.mp he).1

/-- Any number of threads, each performing any number of private operations
    `key._rawPrivateKeyOp(m)` on one shared key.  The shared state is the blinding pair
    (`Tls.Rsa.Blind`, C10's model); a call is (random number drawn if the pair is unset, message).
    For a well-formed key (C10's `ValidKey`: p ≠ q primes > 2, n = p·q, e·d ≡ 1, CRT exponents and
    qInv consistent), an initial pair that is unset or consistent, and invertible first
    unblinders: `sem` is any statement-level semantics of the method whose action kinds are the
    ones generated from the source and whose sequential composition is C10's
    `rawPrivateKeyOp` (locked section = `blindStep`, then blind / CRT helper / unblind).
    Under EVERY interleaving every result equals `m^d mod n` and the pair stays consistent
    (`blinder · unblinder^e ≡ 1 (mod n)`).  No algebra is assumed: it is C10's
    `rawPrivateKeyOp_root` / `root_unique` / `blindStep_spec` (TlsProofs/RsaCorrect.lean). -/
theorem concurrent_rsa_correct {ρ : Type} (res : ρ → List Nat) (k : Rsa.PrivKey)
    (vk : Rsa.ValidKey k)
    (sem : Rsa.Call → List (Act Rsa.Blind ρ))
    (hshape : ∀ o, kinds (sem o) =
        shapeOf Gen.Locks.pythonRSAKey Gen.Locks.pythonRSAKey_rawPrivateKeyOp)
    (hseq : ∀ (o : Rsa.Call) s l,
        (runActs (sem o) (s, l)).1 = (Rsa.rawPrivateKeyOp k s o.1 o.2).2 ∧
        res (runActs (sem o) (s, l)).2 = res l ++ [(Rsa.rawPrivateKeyOp k s o.1 o.2).1])
    (T : Nat → List Rsa.Call)
    (hrnd : ∀ t, ∀ o ∈ T t, Rsa.invMod o.1 k.pub.n * o.1 % k.pub.n = 1)
    (s0 : Rsa.Blind) (hs0 : Rsa.BlindOk k s0) (l0 : Nat → ρ) (hl0 : ∀ t, res (l0 t) = [])
    (c : Cfg Rsa.Blind ρ) (hrun : Steps (initCfg (fun t => (T t).map sem) s0 l0) c)
    (hfin : Final c) :
    Rsa.BlindOk k c.sh ∧ ∀ t, res (c.th t).loc = (T t).map (fun o => o.2 ^ k.d % k.pub.n) :=
  lock_protected_invariant res (Rsa.BlindOk k) (Rsa.CallOk k) (Rsa.callStep k) (Rsa.callCorrect k)
    (fun o s ho hs => Rsa.callStep_good vk o s ho hs) sem hshape hseq T hrnd s0 hs0 l0 hl0 c hrun hfin

/-- non-vacuity: a well-formed key, a fresh pair and calls with invertible random numbers exist,
    and C10's model really computes m^d mod n on them -/
example : Rsa.ValidKey Rsa.toyKey ∧ Rsa.BlindOk Rsa.toyKey ⟨0, 0⟩ ∧
    (∀ o ∈ [((2, 3) : Rsa.Call), (4, 17)], Rsa.invMod o.1 Rsa.toyKey.pub.n * o.1 % Rsa.toyKey.pub.n = 1) ∧
    (Rsa.rawPrivateKeyOp Rsa.toyKey ⟨0, 0⟩ 2 3).1 = 3 ^ 5 % 35 :=
  ⟨Rsa.toyKey_valid, Or.inl rfl, by decide, by decide⟩

/-- Sequentially, for an in-memory or on-disk database and every history of create / get / set /
    del / contains / keys / check in which callers store and delete user names only, every result
    of the implementation model equals the specification's, whose state is the user entries alone:
    the internal records (`--Reserved--type` written by `create()` on disk) are invisible. -/
theorem db_refines_spec (E : Db.Env) (hT : E.resv E.typeKey = true) (onDisk : Bool)
    (ops : List Db.Op) (hw : ∀ op ∈ ops, Db.userWrite E op = true) :
    (Db.runFrom E (Db.DB.new onDisk) ops).2 = (Db.specFrom E (Db.Spec.new onDisk) ops).2 :=
  (Db.run_sim E hT ops _ _ (Db.sim_new E onDisk) hw).1

/-- Reserved names are never entries, in any state of the object: a lookup raises KeyError (or
    "DB not open"), a membership test is False, `check` raises KeyError, `keys()` lists none. -/
theorem db_reserved_never_entry (E : Db.Env) (d : Db.DB) (k : Db.Name) (hk : E.resv k = true) :
    ((d.step E (.get k)).2 = .keyError ∨ (d.step E (.get k)).2 = .assertionError) ∧
    ((d.step E (.contains k)).2 = .bool false ∨ (d.step E (.contains k)).2 = .assertionError) ∧
    (∀ p, (d.step E (.check k p)).2 = .keyError ∨ (d.step E (.check k p)).2 = .assertionError) ∧
    (∀ l, (d.step E .keys).2 = .names l → ∀ u ∈ l, E.resv u = false) := by
  refine ⟨?_, ?_, ?_, ?_⟩
  · simp only [Db.DB.step, Db.DB.getitem]; cases d.db <;> simp [hk]
  · simp only [Db.DB.step]; cases d.db <;> simp [hk]
  · intro p; simp only [Db.DB.step, Db.DB.getitem]; cases d.db <;> simp [hk]
  · intro l hl u hu
    simp only [Db.DB.step] at hl
    cases hd : d.db with
    | none => rw [hd] at hl; simp at hl
    | some m =>
      rw [hd] at hl
      simp only [Db.Out.names.injEq] at hl
      subst hl
      simpa using (List.mem_filter.mp hu).2

/-- non-vacuity: an on-disk database after `create()` physically holds the type record (name 0,
    reserved), yet it is neither returned, contained nor listed; user 5 is. -/
example :
    let E : Db.Env := { resv := fun n => n == 0, typeKey := 0, typeVal := 77, checkItem := fun v _ p => v == p }
    (Db.runFrom E (Db.DB.new true) [.get 5, .create, .get 0, .contains 0, .set 5 9, .keys, .get 5, .check 5 9, .del 5, .del 5]).2
      = [.assertionError, .done, .keyError, .bool false, .done, .names [5], .val 9, .bool true, .done, .keyError] ∧
    (Db.runFrom E (Db.DB.new true) [.create]).1.db = some [(0, 77)] := by decide

/-- the generated shape of the method behind every database call (all but the setup method
    `create`) satisfies the lock discipline -/
theorem verifierdb_call_shapes (o : Db.Op) (h : o ≠ .create) : shapeOK 0 (Db.callShape o) = true := by
  cases o with
  | create => exact absurd rfl h
  | _ => exact classOK_entry verifierdb_lock_discipline (by decide)

/-- Threads calling get / set / del / contains / keys / check on one open verifier database
    (`create`/`open` are setup and excluded; stores and deletes use user names).  `sem` is any
    statement-level semantics whose action kinds are those generated from basedb.py /
    verifierdb.py for the method of each call and whose sequential composition is the BaseDB
    model.  Every complete interleaving is explained by one serial history whose results are the
    specification's: a plain mapping of user entries in which reserved names never appear. -/
theorem concurrent_db_correct {ρ : Type} (E : Db.Env) (hT : E.resv E.typeKey = true)
    (res : ρ → List Db.Out) (sem : Db.Op → List (Act Db.DB ρ))
    (hshape : ∀ o, kinds (sem o) = Db.callShape o)
    (hseq : ∀ o x l, (runActs (sem o) (x, l)).1 = (Db.DB.step E x o).1 ∧
                     res (runActs (sem o) (x, l)).2 = res l ++ [(Db.DB.step E x o).2])
    (T : Nat → List Db.Op) (hcreate : ∀ t, ∀ o ∈ T t, o ≠ .create)
    (hw : ∀ t, ∀ o ∈ T t, Db.userWrite E o = true)
    (d0 : Db.DB) (s0 : Db.Spec) (hsim : Db.Sim E d0 s0)
    (l0 : Nat → ρ) (hl0 : ∀ t, res (l0 t) = []) (c : Cfg Db.DB ρ)
    (hrun : Steps (initCfg (fun t => (T t).map sem) d0 l0) c) (hfin : Final c) :
    ∃ hist : List (Ev Db.Op Db.Out),
      (∀ t, (evOf t hist).map (·.call) = T t) ∧
      (∀ t, res (c.th t).loc = (evOf t hist).map (·.out)) ∧
      hist.map (·.out) = (Db.specFrom E s0 (hist.map (·.call))).2 := by
  obtain ⟨hist, h1, h2, h3⟩ := lock_gives_linearizability res sem (fun o x => Db.DB.step E x o) T
    (fun t o ho => by rw [hshape o]; exact verifierdb_call_shapes o (hcreate t o ho)) hseq d0 l0 hl0 c hrun hfin
  refine ⟨hist, h1, h2, ?_⟩
  have href := (Db.run_sim E hT (hist.map (·.call)) d0 s0 hsim (forall_calls h1 hw)).1
  rw [Db.runFrom_eq_runSeq, h3] at href
  exact href

end Tls.C18
