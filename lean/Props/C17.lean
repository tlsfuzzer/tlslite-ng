import TlsProofs.ConnClose
import TlsModel.Gen.Conn
/-
  C17 — closure, truncation and transport failures are contained and reported faithfully.

  Decision logic of tlsrecordlayer.py (`readAsync`, `_getMsg` alert branch, `writeAsync`,
  `closeAsync`, `_sendMsgThroughSocket`, `_handshakeWrapperAsync`) over the model
  TlsModel/Conn.lean, each statement for an arbitrary endpoint state / arbitrary history.
-/
namespace Tls.Conn

/-- Receiving close_notify: the read that reaches it returns what is buffered (no exception), the
    endpoint has answered with its own close_notify, is closed, and the session's resumable flag
    is exactly what it was. -/
theorem close_notify_received (l : Local) (lvl : Nat) (rest : List Rec) (mx : Option Nat) (mn : Nat)
    (hopen : l.me.closed = false) (htx : l.me.txDead = false)
    (hneed : l.me.readBuf.length < mn ∨ l.me.readBuf = [])
    (hin : l.inc.recs = ⟨l.me.readGen, .alert lvl 0⟩ :: rest) :
    (read mx mn l).1 = .ok (l.me.readBuf.take (mx.getD l.me.readBuf.length)) ∧
    (read mx mn l).2.me.closed = true ∧ (read mx mn l).2.me.resumable = l.me.resumable ∧
    (read mx mn l).2.out.recs = l.out.recs ++ [⟨l.me.writeGen, .alert 1 0⟩] := by
  simpa [htx] using read_alert l lvl 0 rest mx mn hopen hneed hin

/-- non-vacuity: buffered data, then close_notify; the read returns the data, closed, resumable -/
example : (runLocal (.read none 5) ⟨{ isClient := true, ver13 := true, readBuf := [7, 8] },
      ⟨[⟨0, .alert 1 0⟩], false⟩, {}⟩).1 = .bytes [7, 8] ∧
    (runLocal (.read none 5) ⟨{ isClient := true, ver13 := true, readBuf := [7, 8] },
      ⟨[⟨0, .alert 1 0⟩], false⟩, {}⟩).2.me.resumable = true := by decide +kernel

/-- After an orderly close — indeed after any closure — over EVERY later history of operations by
    either endpoint: the connection stays closed and the session's resumable flag is never touched
    again (so it stays resumable after close_notify). -/
theorem after_close_notify (w : World) (who : Side) (h : List (Side × Op))
    (hc : (w.endOf who).closed = true) :
    ((run w h).endOf who).closed = true ∧
    ((run w h).endOf who).resumable = (w.endOf who).resumable := by
  induction h generalizing w with
  | nil => exact ⟨hc, rfl⟩
  | cons o rest ih =>
    have h1 := step_closed w who o.1 o.2 hc
    have := ih (step w o.1 o.2).2 h1.1
    exact ⟨this.1, this.2.trans h1.2⟩

/-- ... and each single operation on the closed connection answers as the property says: reads
    return the buffered bytes (then empty) and never raise, writes raise the closed-connection
    error, nothing is sent, resumable is untouched. -/
theorem after_close_each_op (op : Op) (l : Local) (hc : l.me.closed = true) :
    (runLocal op l).2.me.closed = true ∧ (runLocal op l).2.me.resumable = l.me.resumable ∧
    (runLocal op l).2.out.recs = l.out.recs ∧ closedAnswer l op (runLocal op l).1 :=
  runLocal_closed op l hc

example : closedAnswer default (.write [1]) (.err .closedConn) ∧
    closedAnswer default (.read none 5) (.bytes []) := by simp [closedAnswer]; rfl

/-- Truncation is not end of data: the transport ends (EOF) with no close_notify and nothing in
    flight; a read that needs more input raises TLSAbruptCloseError, closes and invalidates the
    session — unless the user set ignoreAbruptClose, in which case it returns what is buffered,
    closes, and keeps the session. -/
theorem truncation_not_eof (l : Local) (mx : Option Nat) (mn : Nat)
    (hopen : l.me.closed = false) (hneed : l.me.readBuf.length < mn ∨ l.me.readBuf = [])
    (hin : l.inc.recs = []) (heof : l.inc.eof = true ∨ l.me.rxDead = 1) :
    (l.me.ignoreAbruptClose = false →
      (read mx mn l).1 = .err .abruptClose ∧ (read mx mn l).2.me.closed = true ∧
      (read mx mn l).2.me.resumable = false) ∧
    (l.me.ignoreAbruptClose = true →
      (read mx mn l).1 = .ok (l.me.readBuf.take (mx.getD l.me.readBuf.length)) ∧
      (read mx mn l).2.me.closed = true ∧ (read mx mn l).2.me.resumable = l.me.resumable) := by
  have hcond : (l.inc.eof || l.me.rxDead == 1) = true := by
    rcases heof with h | h <;> simp [h]
  have hi : readIter (l.me.ver13 && !l.me.closed) (allowedHs l.me) l = (.err .abruptClose, l) := by
    apply readIter_of_step_err
    rw [getMsgStep_nil hin]; simp [noInput, hcond]
  rw [read_of_iter_eof hopen hneed hi, read_closed _ _ _ rfl]
  constructor <;> intro hig <;> simp [hig, shutdown_me]

example : (runLocal (.read none 1) ⟨{ isClient := true, ver13 := true }, ⟨[], true⟩, {}⟩).1 = .err .abruptClose := by
  decide +kernel
example : (runLocal (.read none 1) ⟨{ isClient := true, ver13 := true, ignoreAbruptClose := true }, ⟨[], true⟩, {}⟩).1
    = .bytes [] := by decide +kernel

/-- A fatal alert from the peer is surfaced as such: TLSRemoteAlert with the peer's description,
    connection closed, session not resumable, nothing sent in reply. -/
theorem fatal_alert_surfaced (l : Local) (lvl d : Nat) (rest : List Rec) (mx : Option Nat) (mn : Nat)
    (hopen : l.me.closed = false) (hneed : l.me.readBuf.length < mn ∨ l.me.readBuf = [])
    (hin : l.inc.recs = ⟨l.me.readGen, .alert lvl d⟩ :: rest) (hl : lvl ≠ 1) (hd : d ≠ 0) :
    (read mx mn l).1 = .err (.remoteAlert d) ∧ (read mx mn l).2.me.closed = true ∧
    (read mx mn l).2.me.resumable = false ∧ (read mx mn l).2.out.recs = l.out.recs := by
  simpa [hl, hd, beq_false_of_ne hd] using read_alert l lvl d rest mx mn hopen hneed hin

example : (runLocal (.read none 1) ⟨{ isClient := false, ver13 := false }, ⟨[⟨0, .alert 2 40⟩], false⟩, {}⟩).1
    = .err (.remoteAlert 40) := by decide +kernel

/-- A warning alert other than close_notify is handled as the code does: answered with
    close_notify, raised as TLSRemoteAlert, the connection is closed and the session invalidated. -/
theorem warning_alert_handled (l : Local) (d : Nat) (rest : List Rec) (mx : Option Nat) (mn : Nat)
    (hopen : l.me.closed = false) (htx : l.me.txDead = false)
    (hneed : l.me.readBuf.length < mn ∨ l.me.readBuf = [])
    (hin : l.inc.recs = ⟨l.me.readGen, .alert 1 d⟩ :: rest) (hd : d ≠ 0) :
    (read mx mn l).1 = .err (.remoteAlert d) ∧ (read mx mn l).2.me.closed = true ∧
    (read mx mn l).2.me.resumable = false ∧
    (read mx mn l).2.out.recs = l.out.recs ++ [⟨l.me.writeGen, .alert 1 0⟩] := by
  simpa [hd, beq_false_of_ne hd, htx] using read_alert l 1 d rest mx mn hopen hneed hin

/-- A transport fault at ANY socket call of a handshake (whatever the sequence of calls is): the
    handshake call raises a socket error or the abrupt-close error — or the alert the peer had
    already sent, when a directly sent handshake record failed — the connection is closed, the
    session is not resumable, and the handshake is not reported complete. -/
theorem transport_fault_contained (steps : List IoStep) (i : Nat) (k : Fault) (pa : Option Nat)
    (hi : i < steps.length) :
    let r := hsFault steps i k pa
    r.closed = true ∧ r.resumable = false ∧ r.complete = false ∧
    (r.exc = some .socketError ∨ r.exc = some .abruptClose ∨
      (∃ d, pa = some d ∧ steps[i]? = some .sendHs ∧ r.exc = some (.remoteAlert d))) := by
  have hs : steps[i]? = some steps[i] := List.getElem?_eq_getElem hi
  simp only [hsFault, hs]
  cases steps[i] with
  | recv => cases k <;> simp
  | sendHs => cases pa <;> cases k <;> simp [recvAfter]
  | sendOther | flush => simp

/-- only a run with no fault reports completion -/
theorem handshake_complete_iff_no_fault (steps : List IoStep) (i : Nat) (k : Fault) (pa : Option Nat) :
    (hsFault steps i k pa).complete = true ↔ steps.length ≤ i := by
  rcases Nat.lt_or_ge i steps.length with hlt | hge
  · have hs : steps[i]? = some steps[i] := List.getElem?_eq_getElem hlt
    simp only [hsFault, hs]
    cases steps[i] <;> cases pa <;> simp <;> omega
  · simp [hsFault, hge]

example : hsFault [.sendHs, .recv, .flush, .recv] 2 .pipe none = ⟨some .socketError, true, false, false⟩ := by decide
example : hsFault [.sendHs, .recv] 0 .pipe (some 40) = ⟨some (.remoteAlert 40), true, false, false⟩ := by decide

/-- A fatal (or warning) alert of the peer in the middle of a handshake is surfaced with its
    description; the connection is closed, the session not resumable, the handshake not complete. -/
theorem fatal_alert_in_handshake (lvl d : Nat) (hd : d ≠ 0) :
    (hsAlert lvl d).exc = some (.remoteAlert d) ∧ (hsAlert lvl d).closed = true ∧
    (hsAlert lvl d).resumable = false ∧ (hsAlert lvl d).complete = false := by
  simp [hsAlert, hd]

/-- Transport faults in the data phase.  A receive failing with a reset: socket error, closed, not
    resumable.  A send failing: `write` raises the socket error and closes (resumable kept only if
    the user set ignoreAbruptClose); KeyUpdate / heartbeat requests raise it, close and invalidate
    the session. -/
theorem transport_fault_data_recv (l : Local) (mx : Option Nat) (mn : Nat)
    (hopen : l.me.closed = false) (hneed : l.me.readBuf.length < mn ∨ l.me.readBuf = [])
    (hin : l.inc.recs = []) (hne : l.inc.eof = false) (hrx : l.me.rxDead = 2) :
    (read mx mn l).1 = .err .socketError ∧ (read mx mn l).2.me.closed = true ∧
    (read mx mn l).2.me.resumable = false := by
  have hi : readIter (l.me.ver13 && !l.me.closed) (allowedHs l.me) l = (.err .socketError, l) := by
    apply readIter_of_step_err
    rw [getMsgStep_nil hin]; simp [noInput, hne, hrx]
  rw [read_of_iter_err hopen hneed hi (by simp) (by simp)]
  simp [shutdown_me]

example : (runLocal (.read none 1) ⟨{ isClient := true, ver13 := true, rxDead := 2 }, {}, {}⟩).1 = .err .socketError ∧
    (runLocal (.write [1, 2]) ⟨{ isClient := true, ver13 := true, txDead := true }, {}, {}⟩).1 = .err .socketError ∧
    (runLocal (.keyUpdate true) ⟨{ isClient := true, ver13 := true, txDead := true }, {}, {}⟩).2.me.closed = true := by
  decide +kernel

theorem transport_fault_data_send (l : Local) (hopen : l.me.closed = false) (htx : l.me.txDead = true) :
    (∀ d, (write d l).1 = .err .socketError ∧ (write d l).2.me.closed = true ∧
          (write d l).2.me.resumable = (l.me.resumable && l.me.ignoreAbruptClose)) ∧
    (∀ v, l.me.ver13 = true → (sendKeyUpdate v l).1 = .err .socketError ∧
          (sendKeyUpdate v l).2.me.closed = true ∧ (sendKeyUpdate v l).2.me.resumable = false) ∧
    (∀ p n, l.me.hbSupported = true → l.me.hbCanSend = true →
          (heartbeat p n l).1 = .err .socketError ∧ (heartbeat p n l).2.me.closed = true ∧
          (heartbeat p n l).2.me.resumable = false) := by
  refine ⟨?_, ?_, ?_⟩
  · intro d
    have hne : appRecords l.me d ≠ [] := by
      unfold appRecords; split
      · split <;> simp
      · cases hd : d.length <;> simp [fragments]
        split <;> simp
    cases hr : appRecords l.me d with
    | nil => exact absurd hr hne
    | cons x xs =>
      simp [write, hopen, hr, sendAll, sendMsg, sendRaw, htx, Msg.ct, shutdown_me]
  · intro v h13
    simp [sendKeyUpdate, hopen, h13, sendMsg, sendRaw, htx, Msg.ct, shutdown_me]
  · intro p n hs hc
    simp [heartbeat, hopen, hs, hc, sendMsg, sendRaw, htx, Msg.ct, shutdown_me]


/-- A session that was used by a connection ending in a fatal failure is not resumed any more,
    whichever connection of its history that was — the first one or a later, itself resumed, one —
    and however many orderly ones surround it; a history of orderly closes keeps it resumable. -/
theorem fatal_end_invalidates_session (before after : List ConnEnd) :
    nextResumes (before ++ .fatal :: after) = false ∧
    (∀ ends : List ConnEnd, (∀ e ∈ ends, e = .orderly) → nextResumes ends = true) := by
  constructor
  · induction before with
    | nil => rfl
    | cons e rest ih => cases e <;> simp [nextResumes, sessionAfter] at ih ⊢ <;> exact ih
  · intro ends h
    induction ends with
    | nil => rfl
    | cons e rest ih =>
      have he := h e (by simp)
      subst he
      simpa [nextResumes, sessionAfter] using ih (fun e he => h e (by simp [he]))

example : nextResumes [.orderly, .fatal] = false ∧ nextResumes [.orderly, .orderly] = true := by decide

/-! ### close(), makefile() reference counting, the two directions' close in every order -/

/-- `makefile()` adds a reference: the next close() only drops it; the connection stays open, nothing
    is sent.  In general a close() does something only when it brings the count to 0. -/
theorem makefile_refcount (l : Local) (hopen : l.me.closed = false) (h1 : l.me.refCount - 1 ≠ 0) :
    (close l).1 = .ok () ∧ (close l).2.me.closed = false ∧ (close l).2.out = l.out ∧
    (close l).2.me.refCount = l.me.refCount - 1 ∧ (close l).2.me.resumable = l.me.resumable := by
  simp [close, hopen, h1]

theorem makefile_then_close (l : Local) (hopen : l.me.closed = false) (h1 : l.me.refCount = 1) :
    (close (makefile l)).2.me.closed = false ∧ (close (makefile l)).2.me.refCount = 1 := by
  simp [close, makefile, hopen, h1]

def closeWorld (v13 csC csS : Bool) : World :=
  { c := { isClient := true, ver13 := v13, closeSocket := csC },
    s := { isClient := false, ver13 := v13, closeSocket := csS } }

def closeSeq (who : Side) : List (Side × Op) :=
  [(who, .write [1, 2]), (who, .close), (who, .read none 1), (who, .read none 0), (who, .close)]

/-- after the interleaving each endpoint looks at its input once more (an endpoint whose close() with
    closeSocket off was still waiting when its own sequence ended learns of the peer's close then) -/
def closeDrain : List (Side × Op) :=
  [(.client, .read none 0), (.server, .read none 0), (.client, .read none 0), (.server, .read none 0)]

def Out.isErr : Out → Bool
  | .err _ => true
  | _ => false

/-- Both directions closed, in EVERY interleaving of the two endpoints' (write, close, read, read,
    close) sequences, for every closeSocket combination and both protocol generations: both ends are
    closed, both sessions are still resumable, no operation raised, and a later write is refused
    with the closed-connection error while the session stays resumable. -/
theorem close_every_interleaving :
    ∀ v13 csC csS : Bool, ∀ h ∈ interleave (closeSeq .client) (closeSeq .server),
      (run (closeWorld v13 csC csS) (h ++ closeDrain)).c.closed = true ∧ (run (closeWorld v13 csC csS) (h ++ closeDrain)).s.closed = true ∧
      (run (closeWorld v13 csC csS) (h ++ closeDrain)).c.resumable = true ∧ (run (closeWorld v13 csC csS) (h ++ closeDrain)).s.resumable = true ∧
      (∀ o ∈ outs (closeWorld v13 csC csS) (h ++ closeDrain), o.isErr = false) ∧
      (step (run (closeWorld v13 csC csS) (h ++ closeDrain)) .client (.write [9])).1 = .err .closedConn ∧
      (step (run (closeWorld v13 csC csS) (h ++ closeDrain)) .client (.write [9])).2.c.resumable = true := by
  -- 16 calls, and no fewer: 5 + 5 that take a step of the two sequences, one that finds both used up and turns to
  -- `closeDrain`, 4 for its steps, one that sees both ends closed
  have hev : ∀ v13 csC csS : Bool,
      explore closeDrain 16 (closeWorld v13 csC csS) (closeSeq .client) (closeSeq .server) = true := by
    decide +kernel
  intro v13 csC csS h hh
  obtain ⟨ho, hc, hs, hcr, hsr⟩ := explore_sound closeDrain 16 _ (interleave_shuffle _ _ h hh) (hev v13 csC csS)
  have hw := runLocal_closed (.write [9]) ((run (closeWorld v13 csC csS) (h ++ closeDrain)).view .client) hc
  refine ⟨hc, hs, hcr, hsr, ?_, hw.2.2.2, hw.2.1.trans hcr⟩
  intro o hmem
  cases o with
  | err e => exact absurd rfl (ho _ hmem e)
  | _ => rfl

example : (interleave (closeSeq .client) (closeSeq .server)).length = 252 := by decide +kernel

/-! ### tie to the source: tables regenerated from tlslite/tlsrecordlayer.py on every run -/

def alertProbe (lvl d : Nat) (dead : Bool) : Out × Local :=
  runLocal (.read none 1) ⟨{ isClient := true, ver13 := true, txDead := dead }, ⟨[⟨0, .alert lvl d⟩], false⟩, {}⟩

/-- The alert handler of the model classifies every (level, description) as the generated condition
    and `_shutdown` arguments of `_getMsg` do: whether close_notify is sent back, which alert that is,
    whether the session stays resumable, and that the alert is raised with the peer's description
    (close_notify is swallowed by `readAsync`, as its generated except clause says). -/
theorem gen_alert_table_matches_model :
    ∀ lvl ∈ List.range 4, ∀ d ∈ List.range 256,
      ((alertProbe lvl d false).2.out.recs =
          if Gen.Conn.alertReply lvl d then [⟨0, .alert Gen.Conn.alertReplyMsg.1 Gen.Conn.alertReplyMsg.2⟩] else []) ∧
      (alertProbe lvl d false).2.me.resumable = Gen.Conn.alertKeepsResumable lvl d ∧
      (alertProbe lvl d false).2.me.closed = true ∧
      (alertProbe lvl d false).1 = (if d = 0 then .bytes [] else .err (.remoteAlert d)) := by
  intro lvl _ d _
  obtain ⟨h1, h2, h3, h4⟩ := read_alert ⟨{ isClient := true, ver13 := true, txDead := false },
    ⟨[⟨0, .alert lvl d⟩], false⟩, {}⟩ lvl d [] none 1 rfl (.inr rfl) rfl
  simp only [alertProbe, runLocal_read, h1, h2, h3, h4]
  by_cases hd : d = 0 <;> by_cases hl : lvl = 1 <;>
    simp [hd, hl, Gen.Conn.alertReply, Gen.Conn.alertReplyMsg, Gen.Conn.alertKeepsResumable]

/-- Every socket error of that reply is forgiven (the generated handler is `except socket.error: pass`):
    with a transport that cannot send, the outcome of receiving any alert is the same as above. -/
theorem gen_alert_reply_errors_forgiven :
    Gen.Conn.alertReplyForgiven = ["socket.error"] ∧ Gen.Conn.alertReplyForgivenBody = "pass" ∧
    Gen.Conn.alertRaises = "TLSRemoteAlert" ∧
    ∀ lvl ∈ List.range 4, ∀ d ∈ List.range 256,
      (alertProbe lvl d true).1 = (alertProbe lvl d false).1 ∧
      (alertProbe lvl d true).2.me.resumable = (alertProbe lvl d false).2.me.resumable ∧
      (alertProbe lvl d true).2.me.closed = true := by
  refine ⟨rfl, rfl, rfl, ?_⟩
  intro lvl _ d _
  have h := fun dead => read_alert ⟨{ isClient := true, ver13 := true, txDead := dead },
    ⟨[⟨0, .alert lvl d⟩], false⟩, {}⟩ lvl d [] none 1 rfl (.inr rfl) rfl
  simp only [alertProbe, runLocal_read, (h true).1, (h false).1, (h true).2.1, (h true).2.2.1,
    (h false).2.2.1, and_self]

/-- exception -> alert mapping of the except clauses, as the model raises them -/
theorem gen_exc_alert_matches_model :
    Gen.Conn.excAlert = [("_getMsg:TLSIllegalParameterException", 47), ("_getMsg:BadCertificateError", 42),
      ("_getMsg:SyntaxError", 50), ("_getNextRecordFromSocket:TLSUnexpectedMessage", 10),
      ("_getNextRecordFromSocket:TLSRecordOverflow", 22), ("_getNextRecordFromSocket:TLSIllegalParameterException", 47),
      ("_getNextRecordFromSocket:TLSDecryptionFailed", 21), ("_getNextRecordFromSocket:TLSBadRecordMAC", 20)] ∧
    (runLocal (.read none 1) ⟨{ isClient := true, ver13 := true }, ⟨[⟨5, .appData [1]⟩], false⟩, {}⟩).1 =
      .err (.localAlert ((Gen.Conn.excAlert.lookup "_getNextRecordFromSocket:TLSBadRecordMAC").getD 0)) := by
  refine ⟨rfl, ?_⟩
  decide +kernel

/-- the except clauses of `readAsync` (generated) and what the model does at those points -/
theorem gen_read_except_matches_model :
    Gen.Conn.readInnerExcept = [("TLSRemoteAlert", "reraise_unless_close_notify"),
      ("TLSAbruptCloseError", "reraise_unless_ignoreAbruptClose_then_shutdown_true")] ∧
    Gen.Conn.readOuterExcept = "shutdown_false_reraise" ∧
    (∀ ig : Bool,
      let r := runLocal (.read none 1) ⟨{ isClient := true, ver13 := true, ignoreAbruptClose := ig }, ⟨[], true⟩, {}⟩
      r.1 = (if ig then .bytes [] else .err .abruptClose) ∧ r.2.me.closed = true ∧ r.2.me.resumable = ig) := by
  refine ⟨rfl, rfl, ?_⟩
  decide +kernel

/-- `_decrefAsync`, `makefile`, `_handshakeStart` as generated, against the model's `close` -/
theorem gen_close_matches_model :
    Gen.Conn.refCountInit = 1 ∧ ((default : End).refCount = Gen.Conn.refCountInit) ∧
    Gen.Conn.makefileShape = "increment" ∧ Gen.Conn.decrefGuard = "decrement_then_if_zero_and_open" ∧
    Gen.Conn.closeFirstAlert = (1, 0) ∧ Gen.Conn.closeSocketBranch = "shutdown_true" ∧
    Gen.Conn.closeWait13Client = ([21, 23, 22], [4, 24]) ∧ Gen.Conn.closeWait13Server = ([21, 23, 22], [24]) ∧
    Gen.Conn.closeWaitOld = ([21, 23], []) ∧ Gen.Conn.closeWaitKeyUpdate = "advance_read_no_reply" ∧
    Gen.Conn.closeWaitFinal = "close_notify_shutdown_true_else_raise" ∧
    Gen.Conn.closeExcept = [("socket.error,TLSAbruptCloseError", "shutdown_true"), ("*", "shutdown_false_reraise")] ∧
    -- the first thing close() sends is the generated alert
    (runLocal .close ⟨{ isClient := true, ver13 := true }, {}, {}⟩).2.out.recs =
      [⟨0, .alert Gen.Conn.closeFirstAlert.1 Gen.Conn.closeFirstAlert.2⟩] ∧
    -- the wait loop accepts exactly the generated secondary types (TLS 1.3 client / server)
    (∀ c : Bool, ∀ t ∈ List.range 32,
      ((runLocal .close ⟨{ isClient := c, ver13 := true, closeSocket := false }, ⟨[⟨0, .hsMalformed t⟩], false⟩, {}⟩).1
          = .err (.localAlert 50)) =
        (if c then Gen.Conn.closeWait13Client.2 else Gen.Conn.closeWait13Server.2).contains t) := by
  refine ⟨rfl, rfl, rfl, rfl, rfl, rfl, rfl, rfl, rfl, rfl, rfl, rfl, ?_⟩
  decide +kernel

/-- `writeAsync` and `_sendMsgThroughSocket` as generated, against the model -/
theorem gen_write_and_send_failure_match_model :
    Gen.Conn.writeShape = "closed_check_before_try" ∧ Gen.Conn.writeExcept = "shutdown_ignoreAbruptClose_reraise" ∧
    Gen.Conn.sendFailPeek = "handshake_record_and_closed" ∧
    Gen.Conn.sendFailPeekOutcome = "shutdown_false_raise_alert_else_reraise" ∧
    Gen.Conn.sendFailElse = "shutdown_false_for_types_then_reraise" ∧
    -- a failed send closes the connection inside `_sendMsgThroughSocket` exactly for the generated content types
    (∀ m ∈ [Msg.keyUpdate 0, Msg.certRequest 1 0, Msg.heartbeat 1 [] 16, Msg.alert 1 0, Msg.appData [1]],
      (sendMsg m ⟨{ isClient := false, ver13 := true, txDead := true }, {}, {}⟩).2.me.closed =
        Gen.Conn.sendFailCloseTypes.contains m.ct) ∧
    (∀ ig : Bool,
      let r := runLocal (.write [1]) ⟨{ isClient := true, ver13 := true, txDead := true, ignoreAbruptClose := ig }, {}, {}⟩
      r.1 = .err .socketError ∧ r.2.me.closed = true ∧ r.2.me.resumable = ig) ∧
    (runLocal (.write [1]) ⟨{ isClient := true, ver13 := true, closed := true }, {}, {}⟩).2.me.resumable = true := by
  refine ⟨rfl, rfl, rfl, rfl, rfl, ?_⟩
  decide +kernel

end Tls.Conn
