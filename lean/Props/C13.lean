import TlsProofs.ResumeHist
import TlsModel.ResumeGen
import TlsProofs.Ticket
/-
  C13 — resumption reproduces the original session's security, or falls back cleanly.
  Model: TlsModel/Resume.lean (mirrors tlsconnection.py / session.py / sessioncache.py /
  tlsrecordlayer._shutdown); helper lemmas and the predicates used below: TlsProofs/Resume.lean (decisions),
  ResumeStep.lean and ResumeHist.lean (histories: `Ext`, `Logged`, `Inv`), Ticket.lean (ticket bytes).
-/
namespace Tls.Resume

theorem resume_implies_conditions (env : Env) (lookup : Bytes → Option Sess) (now : Nat)
    (st : SrvSettings) (h : Hello) (s : Sess)
    (hc : ∀ id s, lookup id = some s → s.completed = true)
    (hp : ∀ k n c p, env.aeadOpen k n c = some p → p.completed = true)
    (hr : serverResume12 env lookup now st h = .resume s) :
    s.completed = true ∧ s.resumable = true ∧
    (ViaTicket env now st h s ∨ ViaCache lookup st h s) ∧ Consistent st h s := by
  obtain ⟨hf, hres, hcons⟩ := serverResume12_resume hr
  have hvia := findSession_some hf
  refine ⟨?_, hres, hvia, hcons⟩
  rcases hvia with hv | ⟨_, _, _, hl, _⟩
  · obtain ⟨_, _, p, _, _, hop, hcomp, _⟩ := hv.payload
    rw [hcomp]
    exact hp _ _ _ _ hop
  · exact hc _ _ hl

theorem bad_ticket_falls_back (env : Env) (lookup : Bytes → Option Sess) (now : Nat)
    (st : SrvSettings) (h : Hello) (t : Bytes) (ht : h.ticket = some t) (hne : t ≠ [])
    (hbad : ∀ k ∈ st.ticketKeys, ∀ p, env.aeadOpen k (t.take 32) (t.drop 32) = some p →
      p.created + st.ticketLifetime < now) :
    serverResume12 env lookup now st h = .full := by
  have hte : ticketNonEmpty h = true := by
    unfold ticketNonEmpty; rw [ht]; cases t <;> simp_all
  have h1 : sessionFromTicket env st now h = none := by
    unfold sessionFromTicket; rw [ht]; simp [ticketToSession_none hbad]
  unfold serverResume12 findSession
  simp [h1, hte]

theorem unknown_id_falls_back (env : Env) (lookup : Bytes → Option Sess) (now : Nat)
    (st : SrvSettings) (h : Hello) (hn : ticketNonEmpty h = false)
    (hunk : ∀ s, lookup h.sessionId = some s → valid s = false) :
    serverResume12 env lookup now st h = .full := by
  have h1 := sessionFromTicket_none_of_empty (env := env) (st := st) (now := now) hn
  have h2 : cacheGet lookup h.sessionId = none := by
    unfold cacheGet
    cases hl : lookup h.sessionId with
    | none => rfl
    | some s => simp [hunk s hl]
  unfold serverResume12 findSession
  simp only [h1, hn, h2]
  split
  · split <;> simp_all
  · rfl

theorem bad_psk_skipped (env : Env) (st : SrvSettings) (now : Nat) (ver : Ver) (prf : Hash)
    (id : PskIdent) (rest : List PskIdent) (i : Nat)
    (hext : st.pskConfigs.find? (fun c => c.identity == id.identity) = none)
    (hbad : ∀ k ∈ st.ticketKeys, ∀ p,
      env.aeadOpen k (id.identity.take 32) (id.identity.drop 32) = some p →
        p.created + st.ticketLifetime < now) :
    selectPskFrom env st now ver prf (id :: rest) i = selectPskFrom env st now ver prf rest (i + 1) := by
  rw [selectPskFrom]
  simp only [hext]
  cases hd : tryDecrypt13 env st.ticketKeys id.identity with
  | none => rfl
  | some p =>
    obtain ⟨_, k, hk, hop⟩ := tryDecrypt13_some hd
    have := hbad k hk p hop
    simp only [this, if_true]
    split <;> rfl

theorem bad_psk_falls_back (env : Env) (st : SrvSettings) (now : Nat) (ver : Ver) (prf : Hash)
    (h : Hello) (id : PskIdent) (hpsk : h.psk = some [id]) (hcert : st.hasCert = true)
    (hext : st.pskConfigs.find? (fun c => c.identity == id.identity) = none)
    (hbad : ∀ k ∈ st.ticketKeys, ∀ p,
      env.aeadOpen k (id.identity.take 32) (id.identity.drop 32) = some p →
        p.created + st.ticketLifetime < now) :
    serverResume13 env st now ver prf h = .full := by
  have hsel : serverPsk13 env st now ver prf h = .none := by
    unfold serverPsk13
    rw [hpsk]
    simp only
    split
    · rw [bad_psk_skipped env st now ver prf id [] 0 hext hbad]; rfl
    · rfl
  unfold serverResume13
  rw [hsel]
  simp [kexOk13, hcert]

/-- After ANY history that follows a fatal close (seen by the server) of a connection using
    session object `i`, a ClientHello naming a session id that the cache maps to that object gets
    a full handshake. -/
theorem invalidated_never_resumes (w0 : World) (k : Nat) (c : ConnRec) (i : Nat) (ck : CloseKind)
    (hk : w0.conns[k]? = some c) (hs : c.sobj = some i) (hi : i < w0.sheap.length)
    (hf : ck.serverFatal = true) (ops : List Op)
    (srv : Nat) (sha : List Nat) (st : SrvSettings) (h : Hello)
    (hn : ticketNonEmpty h = false)
    (hid : (run (stepClose w0 k ck) ops).lookupIdx srv h.sessionId = some i) :
    serverResume12 ((run (stepClose w0 k ck) ops).env sha) ((run (stepClose w0 k ck) ops).lookup srv)
      (run (stepClose w0 k ck) ops).nowS st h = .full := by
  apply unknown_id_falls_back _ _ _ _ _ hn
  intro s hl
  rw [lookup_eq_bind, hid] at hl
  have he := (run_ext (stepClose w0 k ck) ops).1
  rw [stepClose_sheap ck hk hs, hf] at he
  obtain ⟨s', hs', hoff⟩ := he.off_of_modify hi fun _ => rfl
  cases hs'.symm.trans hl
  simp [valid, hoff]

/-- After ANY history that follows a fatal close (seen by the client) of a connection using client
    session object `j`, the client ignores that session: `clientPrepare` drops it (and a ClientHello built
    without a session carries no ticket and no resumption PSK: `helloOf_none_offers_nothing`). -/
theorem invalidated_never_offered (w0 : World) (k : Nat) (c : ConnRec) (j : Nat) (ck : CloseKind)
    (hk : w0.conns[k]? = some c) (hs : c.cobj = some j) (hj : j < w0.cheap.length)
    (hf : ck.clientFatal = true) (ops : List Op) (srp sni : Bytes) :
    clientPrepare ((run (stepClose w0 k ck) ops).cheap[j]?) srp sni = some none := by
  have he := (run_ext (stepClose w0 k ck) ops).2
  rw [stepClose_cheap ck hk hs, hf] at he
  obtain ⟨s', hs', hoff⟩ := he.off_of_modify hj fun _ => rfl
  rw [hs']
  exact clientPrepare_invalid hoff

/-- TLS 1.3: a `resume` decision implies the PSK identity is a ticket that opens under a CURRENT
    key, is of this protocol version, is not older than the lifetime, has the PRF hash of the
    negotiated suite, its binder verified, and a key-exchange mode both sides accept exists. -/
theorem resume13_implies_conditions (env : Env) (st : SrvSettings) (now : Nat) (ver : Ver) (prf : Hash)
    (h : Hello) (s : Sess)
    (hp : ∀ k n c p, env.aeadOpen k n c = some p → p.completed = true)
    (hr : serverResume13 env st now ver prf h = .resume s) :
    ∃ (ids : List PskIdent) (i : Nat) (id : PskIdent) (p : Payload), h.psk = some ids ∧ ids[i]? = some id ∧ TicketAccepted env st now ver prf id p ∧
      s = sessOfPayload p ∧ s.completed = true ∧ s.resumable = true ∧ kexOk13 st h true = true := by
  obtain ⟨i, p, hsel, rfl, hkex⟩ := serverResume13_resume hr
  obtain ⟨ids, id, hids, hget, hacc⟩ := serverPsk13_selected hsel
  refine ⟨ids, i, id, p, hids, hget, hacc, rfl, ?_, rfl, hkex⟩
  obtain ⟨_, _, ⟨k, _, hop⟩, _⟩ := hacc
  exact hp _ _ _ _ hop

/-- <=1.2: the resumed connection has exactly the parameters (suite, EMS, EtM, server name, client
    identity) and the master secret of the ticket's contents / of the cached session object. -/
theorem resumed_inherits (env : Env) (lookup : Bytes → Option Sess) (now : Nat) (st : SrvSettings)
    (ver : Ver) (nsuite : Nat) (h : Hello) (s : Sess) (hv : ¬ (ver.1 = 3 ∧ ver.2 ≥ 4))
    (hr : serverResume12 env lookup now st h = .resume s) :
    (∃ t k p, h.ticket = some t ∧ k ∈ st.ticketKeys ∧ env.aeadOpen k (t.take 32) (t.drop 32) = some p ∧
        resumedParams ver nsuite h s = p.params ∧ s.secret = p.secret) ∨
    (∃ s0, lookup h.sessionId = some s0 ∧ resumedParams ver nsuite h s = s0.params ∧ s.secret = s0.secret) := by
  obtain ⟨hf, _⟩ := serverResume12_resume hr
  simp only [resumedParams, hv, if_false]
  rcases findSession_some hf with hvt | ⟨_, _, _, hl, _⟩
  · obtain ⟨t, k, p, ht, hk, hop, _, hpar, hsec⟩ := hvt.payload
    exact .inl ⟨t, k, p, ht, hk, hop, hpar, hsec⟩
  · exact .inr ⟨s, hl, rfl, rfl⟩

/-- TLS 1.3: what the resumed connection takes from the ticket is the authenticated client identity;
    the PRF hash of the new suite equals the ticket suite's, EMS is on and EtM off as in every
    TLS 1.3 session.  Cipher suite and server name are NOT inherited: they come from the new
    ServerHello / ClientHello (RFC 8446 binds a PSK to the hash only; see the two examples below).
    Full statement of the property text, not provable for TLS 1.3:
      resumedParams ver nsuite h s = p.params -/
theorem resumed13_inherits_partial (env : Env) (st : SrvSettings) (now : Nat) (ver : Ver) (nsuite : Nat)
    (h : Hello) (s : Sess) (hv : ver.1 = 3 ∧ ver.2 ≥ 4)
    (hr : serverResume13 env st now ver (prfOf env nsuite) h = .resume s) :
    ∃ p, s = sessOfPayload p ∧ p.version = ver ∧
      (resumedParams ver nsuite h s).clientId = p.clientId ∧
      prfOf env (resumedParams ver nsuite h s).suite = prfOf env p.suite ∧
      (resumedParams ver nsuite h s).ems = true ∧ (resumedParams ver nsuite h s).etm = false := by
  obtain ⟨i, p, hsel, rfl, _⟩ := serverResume13_resume hr
  obtain ⟨_, id, _, _, hacc⟩ := serverPsk13_selected hsel
  obtain ⟨_, _, _, hver, _, hprf, _⟩ := hacc
  rw [show resumedParams ver nsuite h (sessOfPayload p) = _ from if_pos hv]
  exact ⟨p, rfl, hver, rfl, hprf.symm, rfl, rfl⟩

theorem Sess.shutdown_false_clears (s : Sess) : (s.shutdown false).resumable = false := by
  simp [Sess.shutdown]

theorem Sess.shutdown_true_keeps (s : Sess) : s.shutdown true = s := by
  simp [Sess.shutdown]

/-- <=1.2, client side: `resumed` is reported only if the ServerHello echoes the session's id or
    the random id sent along with a ticket, and names the session's suite. -/
theorem client_belief_resumed (sess : Option CSess) (sentSid shSid : Bytes) (shSuite : Nat)
    (hb : clientResume12 sess sentSid shSid shSuite = .resumed) :
    ∃ s, sess = some s ∧ shSuite = s.suite ∧
      ((s.sessionID ≠ [] ∧ shSid = s.sessionID) ∨ (s.tickets10 ≠ [] ∧ sentSid ≠ [] ∧ shSid = sentSid)) := by
  unfold clientResume12 at hb
  cases sess with
  | none => cases hb
  | some s =>
    obtain ⟨hc, hb⟩ := (ite_eq_cases hb).resolve_right nofun
    exact ⟨s, rfl, by simpa using (ite_eq_right hb nofun).1, (echoes_iff s sentSid shSid).mp hc⟩

/-- <=1.2: if both ends complete, they agree on `resumed`, the client reports resumed exactly
    when the server decided to resume, and then the client's session object holds the very master
    secret and suite of the session the server resumed. -/
theorem client_resumed_flag_sound (dec : Decision) (sess : Option CSess) (sentSid newSid : Bytes)
    (nsuite : Nat) (hd : (outcome12 dec sess sentSid newSid nsuite).bothDone = true) :
    (outcome12 dec sess sentSid newSid nsuite).cResumed = (outcome12 dec sess sentSid newSid nsuite).sResumed ∧
    ((outcome12 dec sess sentSid newSid nsuite).cResumed = true ↔ ∃ s, dec = .resume s) ∧
    (∀ s, dec = .resume s → ∃ c, sess = some c ∧ c.secret = s.secret ∧ c.suite = s.suite) := by
  unfold outcome12 at hd ⊢
  cases dec with
  | resume s =>
    simp only at hd ⊢
    split at hd
    · rename_i hb
      split at hd
      · rename_i hsec
        obtain ⟨c, hc, hsuite, _⟩ := client_belief_resumed _ _ _ _ hb
        simp only [hsec, if_true, true_and, Decision.resume.injEq, exists_eq', forall_eq']
        subst hc
        refine ⟨c, rfl, ?_, hsuite.symm⟩
        simpa using hsec
      · simp [Outcome.bothDone] at hd
    · simp [Outcome.bothDone] at hd
    · simp [Outcome.bothDone] at hd
  | full =>
    simp only at hd ⊢
    split at hd <;> simp [Outcome.bothDone] at hd
    simp
  | _ => simp [Outcome.bothDone] at hd

/-- <=1.2: when the server declines (full handshake) and its ServerHello carries a session id that
    is neither the offered session's nor the random one sent with the ticket, the client carries
    on with the full handshake: both ends complete, nobody reports resumed.
    (This is what the fix 9d20076 established; before it the client aborted.) -/
theorem declined_falls_back_cleanly (sess : Option CSess) (sentSid newSid : Bytes) (nsuite : Nat)
    (h1 : ∀ s, sess = some s → newSid ≠ s.sessionID ∨ s.sessionID = [])
    (h2 : newSid ≠ sentSid ∨ sentSid = []) :
    outcome12 .full sess sentSid newSid nsuite = ⟨.done, .done, false, false⟩ := by
  cases sess with
  | none => rfl
  | some s =>
    have hn : ¬ ((!s.sessionID.isEmpty && newSid == s.sessionID) ||
        (!s.tickets10.isEmpty && !sentSid.isEmpty && newSid == sentSid)) = true := fun hc => by
      rcases (echoes_iff s sentSid newSid).mp hc with ⟨ha, hb⟩ | ⟨_, ha, hb⟩
      · exact (h1 s rfl).elim (· hb) ha
      · exact h2.elim (· hb) ha
    simp [outcome12, clientResume12, hn]

/-- TLS 1.3: if both ends complete and they agree on which offered identities are external PSKs,
    they agree on `resumed`. -/
theorem client_resumed_flag_sound13 (env : Env) (st : SrvSettings) (now : Nat) (ver : Ver) (prf : Hash)
    (cs : CliSettings) (h : Hello)
    (hsame : ∀ ids, h.psk = some ids → ∀ id ∈ ids,
      (cs.pskConfigs.any (fun c => c.identity == id.identity) = true ↔
        (st.pskConfigs.find? (fun c => c.identity == id.identity)).isSome = true))
    (hd : (outcome13 (serverResume13 env st now ver prf h) cs h (selectedIndex env st now ver prf h)).bothDone = true) :
    (outcome13 (serverResume13 env st now ver prf h) cs h (selectedIndex env st now ver prf h)).cResumed =
    (outcome13 (serverResume13 env st now ver prf h) cs h (selectedIndex env st now ver prf h)).sResumed := by
  unfold serverResume13 selectedIndex at hd ⊢
  cases hsel : serverPsk13 env st now ver prf h with
  | alert a => simp [hsel, outcome13, Outcome.bothDone] at hd
  | none =>
    simp only [hsel] at hd ⊢
    split <;> simp [outcome13, clientResume13, serverResuming13]
  | selected i t =>
    obtain ⟨ids, id, hpsk, hget, hid⟩ := serverPsk13_selected hsel
    have hcfg := hsame ids hpsk id (List.mem_of_getElem? hget)
    -- the client takes the identity for an external PSK exactly when the server selected one
    have hany : cs.pskConfigs.any (fun c => c.identity == id.identity) = t.isNone := by
      cases t with
      | none => exact hcfg.mpr hid
      | some p =>
        have hnone : st.pskConfigs.find? (fun c => c.identity == id.identity) = none := hid.1
        simpa [hnone] using hcfg
    cases t <;> simp only [hsel] at hd ⊢ <;> split <;>
      simp [outcome13, clientResume13, serverResuming13, hpsk, hget, hany]

/-- Histories: in every history starting from the empty world, whatever a <=1.2 server decides to
    resume from is a session of a COMPLETED handshake, and its parameters (suite, EMS, EtM, server
    name, client identity) are those of an earlier completed connection of that history. -/
theorem history_resume_from_completed (ops : List Op) (a : HsArgs) (s : Sess)
    (hv : is13 a.ver = false)
    (hd : (stepHs (run World.init ops) a).2.dec = some (.resume s)) :
    s.completed = true ∧ Logged (run World.init ops) s.params := by
  have _ := hv -- not needed: `history_resume_sound` holds for every version
  exact (history_resume_sound ops a s hd).logged

/-- Histories: the invariant behind the previous theorem — every sealed ticket and every server
    session object stems from a completed connection of the log and carries its parameters. -/
theorem history_invariant (ops : List Op) : Inv (run World.init ops) := (run_inv InvAt.init ops).inv

/-! ### non-vacuity: concrete instances of the hypotheses and conclusions above -/
section Examples

def exPayload : Payload :=
  { secret := 0, version := (3, 3), suite := 0x9c, created := 1000, clientId := some 1, etm := false,
    ems := true, serverName := [104], completed := true }

/-- the ticket that key 7 opens in `exEnv` -/
def exTicket : Bytes := List.replicate 40 1

def exEnv : Env :=
  { aeadOpen := fun k n c => if k == 7 && n ++ c == exTicket then some exPayload else none, sha384 := [0x9d] }

def exSettings : SrvSettings :=
  { ticketKeys := [9, 7], ticketLifetime := 100, ticketCount := 1, allowed := [0x9c, 0x2f], hasCache := false,
    pskConfigs := [], pskModes := [pskDheKe], hasCert := true }

def exHello : Hello :=
  { sessionId := [5, 5], ticket := some exTicket, suites := [0x2f, 0x9c], srpUsername := [], serverName := [104],
    etm := true, ems := true, psk := none, pskModes := [] }

/-- a ticket sealed under the SECOND current key resumes (key rollover) … -/
example : serverResume12 exEnv (fun _ => none) 1100 exSettings exHello =
    .resume { sessOfPayload exPayload with sessionID := [5, 5] } := by decide +kernel

/-- … one second after its lifetime it gives a full handshake … -/
example : serverResume12 exEnv (fun _ => none) 1101 exSettings exHello = .full := by decide +kernel

/-- … with the issuing key removed it gives a full handshake … -/
example : serverResume12 exEnv (fun _ => none) 1100 { exSettings with ticketKeys := [9] } exHello = .full := by
  decide +kernel

/-- … a flipped bit gives a full handshake … -/
example : serverResume12 exEnv (fun _ => none) 1100 exSettings
    { exHello with ticket := some (2 :: exTicket.drop 1) } = .full := by decide +kernel

/-- … a ClientHello without EMS for an EMS session is refused with handshake_failure, one with
    another server name too; the session's suite must be offered -/
example : serverResume12 exEnv (fun _ => none) 1100 exSettings { exHello with ems := false } =
    .alert .handshake_failure := by decide +kernel
example : serverResume12 exEnv (fun _ => none) 1100 exSettings { exHello with serverName := [105] } =
    .alert .handshake_failure := by decide +kernel
example : serverResume12 exEnv (fun _ => none) 1100 exSettings { exHello with suites := [0x2f] } =
    .alert .illegal_parameter := by decide +kernel

def exCached : Sess :=
  { secret := 3, sessionID := [5, 5], suite := 0x2f, srpUsername := [], clientId := none, serverName := [104],
    resumable := true, etm := true, ems := true, version := (3, 1), completed := true }

/-- session-ID resumption from the cache; not once the object was invalidated -/
example : serverResume12 exEnv (fun id => if id == [5, 5] then some exCached else none) 0
    { exSettings with hasCache := true } { exHello with ticket := some [] } = .resume exCached := by decide +kernel
example : serverResume12 exEnv (fun id => if id == [5, 5] then some (exCached.shutdown false) else none) 0
    { exSettings with hasCache := true } { exHello with ticket := some [] } = .full := by decide +kernel

/-- TLS 1.3: the ticket is selected, expired it is skipped -/
def exPayload13 : Payload := { exPayload with version := (3, 4), suite := 0x1301 }
def exEnv13 : Env :=
  { aeadOpen := fun k n c => if k == 7 && n ++ c == exTicket then some exPayload13 else none, sha384 := [0x1302] }
def exHello13 : Hello :=
  { exHello with ticket := some [], suites := [0x1303],
                 psk := some [{ identity := exTicket, binder := some ⟨.resumption 0, .sha256, false⟩ }],
                 pskModes := [pskDheKe] }
example : serverResume13 exEnv13 exSettings 1100 (3, 4) .sha256 exHello13 = .resume (sessOfPayload exPayload13) := by
  decide +kernel
example : serverResume13 exEnv13 exSettings 1101 (3, 4) .sha256 exHello13 = .full := by decide +kernel
/-- a binder computed with another secret is refused -/
example : serverResume13 exEnv13 exSettings 1100 (3, 4) .sha256
    { exHello13 with psk := some [{ identity := exTicket, binder := some ⟨.resumption 1, .sha256, false⟩ }] } =
    .alert .illegal_parameter := by decide +kernel

/-- TLS 1.3 (see `resumed13_inherits_partial`): the resumed connection runs the NEW suite 0x1303 and
    the NEW server name, not the ticket's 0x1301 / [104] — same PRF hash, client identity kept -/
example : (resumedParams (3, 4) 0x1303 { exHello13 with serverName := [105] } (sessOfPayload exPayload13)) =
    { suite := 0x1303, ems := true, etm := false, serverName := [105], clientId := some 1 } := by decide +kernel
example : (resumedParams (3, 4) 0x1303 { exHello13 with serverName := [105] } (sessOfPayload exPayload13)).suite
    ≠ exPayload13.suite := by decide +kernel

/-- the client: a declined ticket (ServerHello with another / no session id) continues as a full
    handshake; an echoed id means resumed -/
def exCSess : CSess :=
  { secret := 0, sessionID := [], suite := 0x9c, srpUsername := [], serverName := [104], resumable := true,
    etm := false, ems := true, tickets10 := [{ ticket := exTicket, lifetime := 100, received := 1000 }], tickets13 := [] }
example : outcome12 .full (some exCSess) [5, 5] [] 0x2f = ⟨.done, .done, false, false⟩ := by decide +kernel
example : outcome12 (.resume { sessOfPayload exPayload with sessionID := [5, 5] }) (some exCSess) [5, 5] [] 0 =
    ⟨.done, .done, true, true⟩ := by decide +kernel
/-- a stolen ticket: the server resumes, but a client holding another secret cannot complete -/
example : outcome12 (.resume { sessOfPayload exPayload with sessionID := [5, 5] })
    (some { exCSess with secret := 77 }) [5, 5] [] 0 =
    ⟨.localAlert .bad_record_mac, .remoteAlert .bad_record_mac, false, false⟩ := by decide +kernel
/-- a corrupted binder is refused -/
example : serverResume13 exEnv13 exSettings 1100 (3, 4) .sha256 (applyEdit exHello13 (.badBinder 0)) =
    .alert .illegal_parameter := by decide +kernel
/-- an invalidated client session is not offered at all -/
example : clientPrepare (some (exCSess.shutdown false)) [] [104] = some none := by decide +kernel

/-- a two-step history: full handshake issuing a ticket, fatal close, and the world it leaves -/
def exArgs : HsArgs :=
  { srv := 0, cs := { maxVersion := (3, 3), suites := [0x9c], ems := true, etm := true, pskConfigs := [], pskModes := [] },
    srp := [], sni := [104], offer := none, edits := [], st := exSettings, ver := (3, 3), sha384 := [], freshSid := [5, 5],
    nsuite := 0x9c, nems := true, netm := false, ncid := none, newSid := [], nst := [exTicket], negFail := false }
example : ((run World.init [.newServer none, .hs exArgs]).cheap.map (·.resumable)) = [true] := by decide +kernel
example : ((run World.init [.newServer none, .hs exArgs, .close 0 ⟨true, true⟩]).cheap.map (·.resumable)) = [false] := by
  decide +kernel
example : (stepHs (run World.init [.newServer none, .hs exArgs]) { exArgs with offer := some 0 }).2.dec =
    some (.resume { sessOfPayload { exPayload with created := 0, clientId := none } with sessionID := [5, 5] }) := by
  decide +kernel
example : (stepHs (run World.init [.newServer none, .hs exArgs, .close 0 ⟨true, true⟩]) { exArgs with offer := some 0 }).2.dec =
    some .full := by decide +kernel

end Examples

/-! ### tie by regeneration
  `TlsModel/Gen/Resume.lean` is rewritten from the AST of the tree under check on every run
  (translate/gen_resume.py): the guards of the resumption block, of `_ticket_to_session`, of the
  TLS 1.3 PSK loop, the data flow through SessionTicketPayload, the places `resumable` is
  assigned.  The theorems below interpret that generated description over the model's data and
  prove it equal to the hand-written model for every input, or compare it with the shape the
  hand model relies on; a change of the source that alters a guard, its order, its effect or the
  data flow makes one of them fail. -/
section Regenerated
open Tls.Gen.Resume

theorem gen_translator_clean :
    translatorProblems = [] ∧
    ([outerCond, ticketCallCond, echoSidCond, cacheCond, pskOuterCond].all Cond.known &&
      checkGuards.all Guard.known && ticketToSessionGuards.all Guard.known &&
      pskLoopEvents.all PskEvent.known) = true := by decide +kernel

theorem gen_checks_eq_model (st : SrvSettings) (h : Hello) (s : Sess) :
    evalChain (GCtx.base st h (some s)) checkGuards = checkSession st h s := by
  -- interpreted, the generated chain is `checkSession` behind a first guard "no session found" that is
  -- false here, with `!!b` for `b`
  simp only [checkGuards, evalChain, evalCond, evalAtom, effectDecision, GCtx.base, checkSession]
  simp only [Option.isSome_some, Bool.not_true, Bool.false_eq_true, if_false, Bool.not_not]
  rfl

theorem gen_ticket_to_session_eq_model (env : Env) (st : SrvSettings) (now : Nat) (h : Hello) (t : Bytes) :
    genTicketToSession env st now h t = ticketToSession env st now t := by
  simp only [genTicketToSession, ticketToSessionGuards, ticketToSession, List.any, evalCond, evalAtom,
    ticketNonEmpty]
  cases hp : tryDecrypt12 env st.ticketKeys t with
  | none => simp
  | some p => by_cases he : t.isEmpty = true <;> by_cases hx : p.created + st.ticketLifetime < now <;> simp [he, hx]

theorem gen_server_resume12_eq_model (env : Env) (lookup : Bytes → Option Sess) (now : Nat)
    (st : SrvSettings) (h : Hello) :
    genServerResume12 env lookup now st h = serverResume12 env lookup now st h := by
  have htne : ticketNonEmpty h = true → h.ticket.isSome = true := by
    unfold ticketNonEmpty; cases h.ticket <;> simp
  have L1 : evalCond (GCtx.base st h none) outerCond =
      ((!h.sessionId.isEmpty && st.hasCache) || ticketNonEmpty h) := by
    simp only [outerCond, evalCond, evalAtom, GCtx.base]
    cases hq : ticketNonEmpty h
    · simp
    · simp [htne hq]
  have L2 : genSessionFromTicket env st now h = sessionFromTicket env st now h := by
    simp only [genSessionFromTicket, ticketCallCond, echoSidCond, evalCond, evalAtom, GCtx.base, sessionFromTicket]
    cases h.ticket with
    | none => simp
    | some t =>
      simp only [Option.isSome_some, if_true, gen_ticket_to_session_eq_model]
      congr 1
      funext s
      cases h.sessionId.isEmpty <;> simp
  have L3 : ∀ s1 : Option Sess, evalCond (GCtx.base st h s1) cacheCond =
      (s1.isNone && !ticketNonEmpty h && st.hasCache && !h.sessionId.isEmpty) := by
    intro s1
    simp only [cacheCond, evalCond, evalAtom, GCtx.base]
    cases hq : ticketNonEmpty h
    · cases s1 <;> cases h.ticket.isSome <;> simp
    · cases s1 <;> simp [htne hq]
  have L4 : ∀ s2 : Option Sess, evalChain (GCtx.base st h s2) checkGuards =
      (match s2 with | none => Decision.full | some s => checkSession st h s) := by
    intro s2
    cases s2 with
    | none => simp [checkGuards, evalChain, evalCond, evalAtom, effectDecision, GCtx.base]
    | some s => exact gen_checks_eq_model st h s
  have L5 : genFindSession env lookup now st h = findSession env lookup now st h := by
    simp only [genFindSession, findSession, L2, L3]
  simp only [genServerResume12, serverResume12, L1, L4, L5]
  split
  · split <;> simp_all
  · rfl

theorem gen_psk_outer_eq_model (env : Env) (st : SrvSettings) (now : Nat) (ver : Ver) (prf : Hash) (h : Hello) :
    serverPsk13 env st now ver prf h =
      if evalCond (GCtx.base st h none) pskOuterCond then selectPskFrom env st now ver prf (h.psk.getD []) 0
      else .none := by
  simp only [serverPsk13, pskOuterCond, evalCond, evalAtom, GCtx.base]
  cases h.psk with
  | none => simp
  | some ids => simp

theorem gen_psk_ticket_step_eq_model (env : Env) (st : SrvSettings) (now : Nat) (ver : Ver) (prf : Hash)
    (h : Hello) (id : PskIdent) (rest : List PskIdent) (i : Nat)
    (hext : st.pskConfigs.find? (fun c => c.identity == id.identity) = none) :
    selectPskFrom env st now ver prf (id :: rest) i =
      match genPskTicketStep env st now ver prf h id i with
      | none => selectPskFrom env st now ver prf rest (i + 1)
      | some r => r := by
  rw [selectPskFrom]
  simp only [hext, genPskTicketStep]
  cases hd : tryDecrypt13 env st.ticketKeys id.identity with
  | none => rfl
  | some p =>
    simp only [pskLoopEvents, pskGuardsAfterBranch, List.filterMap, List.any, evalCond, evalAtom]
    by_cases h1 : ver = p.version <;> by_cases h2 : p.created + st.ticketLifetime < now <;>
      by_cases h3 : prfOf env p.suite = prf <;> simp [h1, h2, h3] <;> split <;> rfl

theorem gen_psk_selection_after_guards : selectionAfterGuards pskLoopEvents = true := by decide +kernel

theorem gen_psk_resumed_flag_and_binder :
    pskResumedFlag = "not external" ∧
    binderArgs = ["clientHello", "self._pre_client_hello_handshake_hash", "selected_psk", "psk", "psk_hash",
                  "external"] := ⟨rfl, rfl⟩

theorem gen_ticket_dataflow :
    ticketCreateArgs = expectedTicketCreateArgs ∧ ticketToSessionArgs = expectedTicketToSessionArgs ∧
    payloadWriteFields = expectedPayloadFields ∧ payloadParseFields = expectedPayloadFields ∧
    inheritedFields.all fieldRoundTrips = true ∧
    ticketKeyUsed = "settings.ticketKeys[0]" ∧ kdfUsesUserKey = true ∧
    pendingEtmSource = "self._pendingWriteState.encryptThenMAC" ∧
    tryDecryptShape = expectedTryDecryptShape :=
  ⟨rfl, rfl, rfl, rfl, by decide +kernel, rfl, rfl, rfl, rfl⟩

theorem gen_resumed_session_is_the_stored_one :
    resumeSessionValue = "session" ∧
    resumeServerHello = ["version", "getRandomBytes(32)", "session.sessionID", "session.cipherSuite",
                         "CertificateType.x509", "None", "None", "extensions=extensions"] ∧
    resumeKeyArgs = ["session.cipherSuite", "session.masterSecret", "clientHello.random", "serverHello.random",
                     "settings.cipherImplementations"] := ⟨rfl, rfl, rfl⟩

theorem gen_resumable_cleared_where_modelled :
    resumableAssigned = expectedResumableAssigned ∧
    shutdownTail = "if not resumable and self.session:\n    self.session.resumable = False" ∧
    cacheGetTests = ["session.valid() -> return session | else raise KeyError()"] ∧
    sessionValid = "self.resumable and (self.sessionID or self.tickets or self.tls_1_0_tickets)" ∧
    sessionCreateDefaults.contains ("resumable", "True") = true := ⟨rfl, rfl, rfl, rfl, by decide +kernel⟩

end Regenerated

/-- TLS 1.3, what exactly separates `resumed13_inherits_partial` from the property text: the full
    equality of parameters holds as soon as the new handshake negotiates the ticket's suite and the
    ClientHello repeats the ticket's server name.  The server enforces neither (RFC 8446 binds a PSK
    to the PRF hash only, and the SNI is taken from every ClientHello anew); an honest tlslite client
    guarantees the second (`Session servername doesn't match` ValueError), nothing guarantees the first. -/
theorem resumed13_inherits_when_hello_repeats (env : Env) (st : SrvSettings) (now : Nat) (ver : Ver)
    (nsuite : Nat) (h : Hello) (s : Sess) (hv : ver.1 = 3 ∧ ver.2 ≥ 4)
    (_hr : serverResume13 env st now ver (prfOf env nsuite) h = .resume s)
    (hsuite : nsuite = s.suite) (hsni : h.serverName = s.serverName)
    (h13 : s.ems = true ∧ s.etm = false) :
    resumedParams ver nsuite h s = s.params := by
  simp only [resumedParams, hv, and_self, if_true, Sess.params, hsuite, hsni, h13.1, h13.2]

end Tls.Resume

/-! ### the ticket itself: SessionTicketPayload bytes and sealing (TlsModel/Ticket.lean) -/
namespace Tls.Ticket

/-- `SessionTicketPayload.parse(write(p)) = p` for every payload `write` can represent: what the
    server seals into a ticket is exactly what it reads back (all versions 0/1/2 of the format) -/
theorem ticket_payload_roundtrip (p : TicketPayload) (hw : p.WF) : parsePayload (writePayload p) = some p :=
  parse_write p hw

/-- wrong key or tampered ticket ⇒ decline: when the AEAD opens the ciphertext under none of the
    CURRENT keys, `_tryDecrypt` yields nothing, whatever the bytes -/
theorem tampered_or_wrong_key_ticket_declined (A : Aead) (keys : List Bytes) (t : Bytes)
    (h : ∀ k ∈ keys, A.aopen (A.kdf (t.take 32) k) (t.drop 32) = none) : openTicket A keys t = none := by
  cases ho : openTicket A keys t with
  | none => rfl
  | some p =>
    obtain ⟨k, hk, m, hm, _⟩ := openTicket_some ho
    rw [h k hk] at hm; contradiction

/-- reduction to the AEAD assumption: an accepted ticket is one the server sealed under a key
    derived from a CURRENT ticket key and the ticket's nonce (`log` = everything it ever sealed), or
    the AEAD opened a ciphertext never sealed under that key (a forgery) -/
theorem accepted_ticket_is_sealed_or_forgery (A : Aead) (keys : List Bytes) (t : Bytes) (p : TicketPayload)
    (log : List (Bytes × Bytes)) (h : openTicket A keys t = some p) :
    (∃ k ∈ keys, (A.kdf (t.take 32) k, t.drop 32) ∈ log) ∨
    (∃ k ∈ keys, ∃ m, A.aopen (A.kdf (t.take 32) k) (t.drop 32) = some m ∧
        (A.kdf (t.take 32) k, t.drop 32) ∉ log) := by
  obtain ⟨k, hk, m, hm, _⟩ := openTicket_some h
  by_cases hl : (A.kdf (t.take 32) k, t.drop 32) ∈ log
  · exact Or.inl ⟨k, hk, hl⟩
  · exact Or.inr ⟨k, hk, m, hm, hl⟩

/-- key rotation: a ticket sealed under ANY of the current keys (not only the first) is accepted
    and gives back the sealed payload -/
theorem rotated_key_ticket_accepted (A : Aead) (pre post : List Bytes) (k nonce : Bytes) (p : TicketPayload)
    (hn : nonce.length = 32) (hw : p.WF)
    (hcorrect : ∀ key m, A.aopen key (A.aseal key m) = some m)
    (hpre : ∀ k' ∈ pre, A.aopen (A.kdf nonce k') (A.aseal (A.kdf nonce k) (writePayload p)) = none) :
    openTicket A (pre ++ k :: post) (nonce ++ A.aseal (A.kdf nonce k) (writePayload p)) = some p := by
  have ht : (nonce ++ A.aseal (A.kdf nonce k) (writePayload p)).take 32 = nonce := List.take_left' hn
  have hd : (nonce ++ A.aseal (A.kdf nonce k) (writePayload p)).drop 32 =
      A.aseal (A.kdf nonce k) (writePayload p) := List.drop_left' hn
  unfold openTicket
  rw [ht, hd]
  induction pre with
  | nil =>
    simp only [List.nil_append, List.findSome?_cons, hcorrect, writePayload_ne_nil, parse_write p hw]
    simp
  | cons k' r ih =>
    simp only [List.cons_append, List.findSome?_cons, hpre k' (by simp)]
    exact ih (fun k'' hk'' => hpre k'' (by simp [hk'']))

/-- non-vacuity: a toy AEAD (tag = the derived key appended), three keys, a version-2 payload -/
def toyAead : Aead :=
  { kdf := fun n k => k ++ n.take 1,
    aseal := fun key m => m ++ key,
    aopen := fun key c => if c.drop (c.length - key.length) == key then some (c.take (c.length - key.length)) else none }

def toyPayload : TicketPayload :=
  create [1, 2, 3] 3 3 0x9c 1000 [7] (some [0, 0, 1, 9, 0, 0]) true false [104]

example : toyPayload.version = 2 := by decide +kernel
example : parsePayload (writePayload toyPayload) = some toyPayload := by decide +kernel
example : openTicket toyAead [[5], [6], [7]] (List.replicate 32 1 ++ toyAead.aseal [6, 1] (writePayload toyPayload))
    = some toyPayload := by decide +kernel
example : openTicket toyAead [[5], [7]] (List.replicate 32 1 ++ toyAead.aseal [6, 1] (writePayload toyPayload))
    = none := by decide +kernel
example : parsePayload (writePayload toyPayload ++ [0]) = none := by decide +kernel

end Tls.Ticket
