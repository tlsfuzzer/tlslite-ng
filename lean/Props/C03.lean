import TlsProofs.Negotiate
import TlsProofs.Compat
import TlsProofs.NoAbort
import TlsProofs.NegotiateVectors
/-
  C03 — both ends of a completed handshake agree on everything, within both policies.

  Model: TlsModel/Negotiate.lean (`negotiate cs ss cc sc`, `clientView`, `serverView`), tables
  regenerated from tlslite/constants.py (TlsModel/Gen/Negotiate.lean).  `st.allowsSuite s` reads the
  suite's cipher / MAC / key-exchange from its registered IETF name, not from the library's lists.
-/
namespace Tls.Neg.C03
open Tls.Neg Tls.Gen.Neg

/-! ### 1. every negotiated parameter is in the offer and inside both policies; otherwise an alert

  FULL STATEMENT (what the property text asks), proved by the two theorems below together with
  `version_inside_both_ranges`:
    negotiate cs ss cc sc = .ok p  →
      p.version inside [minVersion, maxVersion] of both sides ∧
      p.suite ∈ offer ∧ cs.allowsSuite p.suite ∧ ss.allowsSuite p.suite ∧
      (TLS ≤ 1.2 ECDHE curve: enabled on both sides and offered; of the TLS 1.3 key-share group nothing is stated) ∧
      (DH prime / SRP modulus within [minKeySize, maxKeySize] of the client) ∧
      (signature scheme offered by the verifier, produced from the signer's own lists) ∧
      (peer key size / curve / key type within the verifier's settings, both directions)
                                                        (`selected_in_offer_and_policy`), and
    otherwise  ∃ side d, negotiate cs ss cc sc = .alert side d        (`otherwise_an_alert`).
  Several conjuncts, and the second clause as a whole, became provable only after repairs made to the
  tree while this check was written (server version range, DH prime against the client's key sizes, client
  key in TLS 1.3; six places where a local credential unusable for what was negotiated made an exception
  escape without an alert): on the parents of those commits the mirrored code lacks the guard and the
  proof does not close.
-/
theorem selected_in_offer_and_policy (cs ss : Settings) (cc : ClientCfg) (sc : ServerCfg) (p : Params)
    (h : negotiate cs ss cc sc = .ok p) :
    let o := clientOffer cs cc
    -- version: inside the client's policy, named by the client, inside the server's range
    cs.minVersion ≤ p.version ∧ (p.version ≤ cs.maxVersion ∨ p.version ∈ cs.versions) ∧
    (∀ vs, o.supportedVersions = some vs → p.version ∈ vs ∧ p.version ∈ ss.versions ∧
        ss.minVersion ≤ p.version ∧ p.version ≤ ss.maxVersion) ∧
    (o.supportedVersions = none → p.version ≤ o.clientVersion ∧ p.version ≤ ss.maxVersion) ∧
    -- cipher suite: offered, usable at this version, and its registered cipher / MAC / key exchange
    -- are allowed by the client's and by the server's name lists
    p.suite ∈ o.suites ∧ p.suite ∈ filterForVersion o.suites p.version ∧
    cs.allowsSuite p.suite ∧ ss.allowsSuite p.suite ∧
    -- TLS ≤ 1.2 ECDHE: the curve is enabled on both sides and was offered
    (p.version ≤ 3 → ecdhAllSuites.contains p.suite = true →
        cs.allowsCurve p.group ∧ ss.allowsCurve p.group ∧ ∀ gs, o.groups = some gs → p.group ∈ gs) ∧
    -- TLS ≤ 1.2 DHE: the prime is within the client's key size bounds
    (p.version ≤ 3 → dhAllSuites.contains p.suite = true →
        cs.minKeySize ≤ p.dhBits ∧ p.dhBits ≤ cs.maxKeySize) ∧
    -- TLS ≤ 1.2 SRP: the modulus is within the client's key size bounds
    (p.version ≤ 3 → srpAllSuites.contains p.suite = true → dhAllSuites.contains p.suite = false →
        ecdhAllSuites.contains p.suite = false → cs.minKeySize ≤ p.dhBits ∧ p.dhBits ≤ cs.maxKeySize) ∧
    -- signature scheme of the server: from the server's own lists, offered by the client, and
    -- accepted by the client's lists for the presented chain
    (p.sigScheme ≠ 0 → ∀ algs, o.sigAlgs = some algs →
        p.sigScheme ∈ sigHashesToList ss none sc.cred p.version ∧ p.sigScheme ∈ algs) ∧
    (p.version = 3 → p.sigScheme ≠ 0 → ∀ c, p.serverCert = some c →
        p.sigScheme ∈ sigHashesToList cs none (some c) 3) ∧
    (3 < p.version → ∀ c, p.serverCert = some c →
        p.sigScheme ∈ o.sigAlgs.getD [] ∧ p.sigScheme ∈ sigHashesToList cs none (some c) 4) ∧
    -- the server's key: checked against the client's settings
    (∀ c, p.serverCert = some c → checkCertChain cs .client c p.version = .ok ()) ∧
    -- the client's key and signature scheme: checked against the server's settings and its request
    (∀ c, p.clientCert = some c →
        checkCertChain ss .server c p.version = .ok () ∧
        (p.version = 3 → p.clientSig ∈ sigHashesToList ss none (some c) 3) ∧
        (3 < p.version → p.clientSig ∈ sigHashesToList ss none (some c) 4)) := by
  intro o
  obtain ⟨sel, hsel, hacc, hfin⟩ := negotiate_ok h
  obtain ⟨_, hpick, hsall, hsoff, hssig, _, hkx⟩ := serverSelect_ok hsel
  obtain ⟨hhello, ev, es, eg, esig, ecert, _, hscert, h12, _⟩ := clientAccept_ok hacc
  obtain ⟨hmin, hmax, hsuite⟩ := clientCheckHello_ok_iff.mp hhello
  obtain ⟨hp1, hp2⟩ := pickVersion_ok hpick
  obtain ⟨_, hcc⟩ := serverFinish_ok hfin
  have hoff : sel.suite ∈ o.suites := hsoff
  have hcall : cs.allowsSuite sel.suite := clientSuites_allowed (cs := cs) (fl := cc.flavour) hoff
  rw [ev] at hcc
  rw [ev, es, eg, esig, ecert]
  refine ⟨hmin, hmax, fun vs hvs => ⟨(hp1 vs hvs).2.2.2, (hp1 vs hvs).1, (hp1 vs hvs).2.1, (hp1 vs hvs).2.2.1⟩,
    fun hn => ⟨(hp2 hn).2, (hp2 hn).1⟩,
    hoff, hsuite, hcall, hsall, ?_, ?_, ?_, ?_, ?_, ?_, ?_,
    fun c hc => ⟨(hcc c hc).1, (hcc c hc).2.1, fun hv => ((hcc c hc).2.2 hv).1⟩⟩
  · intro hle hec
    obtain ⟨hec1, _⟩ := hkx hle
    obtain ⟨hck, _, _⟩ := h12 hle
    have hg1 := clientCheckKex_ok_iff.mp hck
    rw [ecdh_not_dh _ (List.contains_iff_mem.mp hec), hec] at hg1
    obtain ⟨hs1, _⟩ := ecSelect_ok hec1
    exact ⟨curveNamesToList_allows hg1, curveNamesToList_allows (hs1 hec).1, (hs1 hec).2⟩
  · intro hle hdh
    obtain ⟨_, edh, _, hsz⟩ := h12 hle
    rw [edh]
    exact clientCheckDhSize_ok_iff.mp hsz hdh
  · intro hle hsrp hndh hnec
    obtain ⟨hck, edh, _⟩ := h12 hle
    have hs3 := clientCheckKex_ok_iff.mp hck
    rw [hndh, hnec] at hs3
    rw [edh]
    exact (hs3 hsrp).2
  · intro hne algs halgs
    exact (pickSig_ok (hssig hne)).1 algs halgs hne
  · intro hv hne c hc
    exact (clientCheckServerCert_ok_iff.mp hscert c hc).2.1 hv hne
  · intro hv c hc
    exact (clientCheckServerCert_ok_iff.mp hscert c hc).2.2 hv
  · intro c hc
    exact (clientCheckServerCert_ok_iff.mp hscert c hc).1

/-- what the acceptance of a chain means in terms of the settings' fields -/
theorem accepted_chain_inside_policy (st : Settings) (side : Side) (c : Cred) (v : Nat)
    (h : checkCertChain st side c v = .ok ()) :
    (c.certAlg = "ecdsa" → v ≤ 3 → c.curve ∈ st.eccCurves) ∧
    (c.certAlg = "ecdsa" → 4 ≤ v → ∃ hn, curveHash c.curve = some hn ∧ hn ∈ st.ecdsaSigHashes) ∧
    ((c.certAlg = "Ed25519" ∨ c.certAlg = "Ed448") → 3 ≤ v ∧ c.certAlg ∈ st.moreSigSchemes) ∧
    (c.certAlg ≠ "ecdsa" → c.certAlg ≠ "Ed25519" → c.certAlg ≠ "Ed448" →
      st.minKeySize ≤ c.keyBits ∧ c.keyBits ≤ st.maxKeySize) :=
  checkCertChain_ok h

/-- `_filterSuites` admits only suites whose registered cipher, MAC and key exchange the settings name
    (full strength: holds for every suite of the current tables, AEAD suites need 'aead') -/
theorem filterSuites_inside_policy (suites : List Nat) (st : Settings) (v s : Nat)
    (h : s ∈ filterSuites suites st v) : s ∈ suites ∧ st.allowsSuite s :=
  ⟨(mem_filterSuites h).1, filterSuites_allows h⟩

-- non-vacuity: default settings on both sides with an RSA certificate complete with TLS 1.3,
-- TLS_AES_256_GCM_SHA384, secp256r1, rsa_pss_rsae_sha512
example : okWith (negotiate dflt dflt certClient (certServer rsaCred))
    (fun p => p.version == 4 && p.suite == 0x1302 && p.group == 23 && p.sigScheme == 2054) = true :=
  vectors_policy.1
-- … and TLS 1.2 ECDHE-ECDSA when the client stops at TLS 1.2
example : okWith (negotiate { dflt with maxVersion := 3, versions := [3, 2, 1] } dflt certClient (certServer ecdsaCred))
    (fun p => p.version == 3 && ecdheEcdsaSuites.contains p.suite && p.group != 0 && p.sigScheme != 0) = true :=
  vectors_policy.2.1
-- … and disjoint cipher policies end in an alert
example : negotiate { dflt with cipherNames := ["aes128"], maxVersion := 3, versions := [3, 2, 1] }
    { dflt with cipherNames := ["aes256"] } certClient (certServer rsaCred) = .alert .server "insufficient_security" :=
  vectors_policy.2.2.1

/-- (a) the negotiated version lies inside BOTH configured ranges.  Hypotheses: what `validate()`
    establishes (`versions` holds no TLS 1.3 entry when maxVersion is below it; min ≤ max; no version
    above (3,4) exists). -/
theorem version_inside_both_ranges (cs ss : Settings) (cc : ClientCfg) (sc : ServerCfg) (p : Params)
    (hcv : cs.maxVersion < 4 → ∀ w ∈ cs.versions, w < 4) (hsr : ss.minVersion ≤ ss.maxVersion)
    (hs4 : ss.maxVersion ≤ 4)
    (h : negotiate cs ss cc sc = .ok p) :
    cs.minVersion ≤ p.version ∧ p.version ≤ cs.maxVersion ∧ ss.minVersion ≤ p.version ∧ p.version ≤ ss.maxVersion := by
  obtain ⟨h1, h2, h3, h4, _⟩ := versionCommon_iff.mp (negotiate_versionCommon hcv hsr hs4 h).1
  exact ⟨h1, h2, h3, h4⟩

-- the key size bounds bite (each was a completed handshake before the repairs 22d0e9e / 312cede):
-- an anonymous-DH client that demands 3072-bit keys refuses the server's 2048-bit prime
example : negotiate { dflt with maxVersion := 3, versions := [3, 2, 1], minKeySize := 3072, dhGroups := [],
                                keyExchangeNames := ["dh_anon"] }
                    { dflt with maxVersion := 3, versions := [3, 2, 1], keyExchangeNames := ["dh_anon"] }
                    anonClient anonServer = .alert .client "insufficient_security" :=
  vectors_policy.2.2.2.1
-- a server that demands 2048-bit keys refuses a 1024-bit client RSA key, in TLS 1.3 and in TLS 1.2
example :
    negotiate dflt { dflt with minKeySize := 2048 } { certClient with cred := some rsa1024Cred }
              { certServer rsaCred with reqCert := true } = .alert .server "handshake_failure" ∧
    negotiate { dflt with maxVersion := 3, versions := [3, 2, 1] } { dflt with minKeySize := 2048 }
              { certClient with cred := some rsa1024Cred } { certServer rsaCred with reqCert := true }
      = .alert .server "handshake_failure" :=
  vectors_policy.2.2.2.2.1

/-- "… otherwise the handshake fails with an alert": for a server that was given credentials (the
    handshake function refuses to start without: ValueError before any message) the outcome is a
    completed handshake or an alert raised by a named side; no exception escapes -/
theorem otherwise_an_alert (cs ss : Settings) (cc : ClientCfg) (sc : ServerCfg)
    (hcred : serverHasCredentials ss sc = true) :
    (∃ p, negotiate cs ss cc sc = .ok p) ∨ (∃ side d, negotiate cs ss cc sc = .alert side d) := by
  have h := negotiate_noAbort cs ss cc sc hcred
  cases hn : negotiate cs ss cc sc with
  | ok p => exact Or.inl ⟨p, rfl⟩
  | alert s d => exact Or.inr ⟨s, d, rfl⟩
  | abort s d => exact absurd hn (h s d)

-- the six former escapes now end in alerts (each was `Outcome.abort` in the model of the parent trees):
-- Ed25519 server key at TLS 1.1; Ed25519 client certificate at TLS 1.1; TLS 1.2 client certificate with
-- every usable hash disabled; anonymous DH without a common FFDHE group
example :
    negotiate { dflt with maxVersion := 2, versions := [3, 2, 1] } dflt certClient
        (certServer { certAlg := "Ed25519", keyBits := 253, curve := "" }) = .alert .server "insufficient_security" ∧
    negotiate { dflt with maxVersion := 2, versions := [3, 2, 1] } dflt
        { certClient with cred := some { certAlg := "Ed25519", keyBits := 253, curve := "" } }
        { certServer rsaCred with reqCert := true } = .alert .client "handshake_failure" ∧
    negotiate { dflt with maxVersion := 3, versions := [3, 2, 1], rsaSigHashes := [] } dflt
        { certClient with cred := some rsa1024Cred } { certServer ecdsaCred with reqCert := true }
      = .alert .client "handshake_failure" ∧
    negotiate { dflt with maxVersion := 3, versions := [3, 2, 1], keyExchangeNames := ["dh_anon"], dhGroups := ["ffdhe2048"] }
              { dflt with maxVersion := 3, versions := [3, 2, 1], keyExchangeNames := ["dh_anon"], dhGroups := ["ffdhe3072"] }
              anonClient anonServer = .alert .server "internal_error" :=
  vectors_policy.2.2.2.2.2

/-! ### 2. both endpoints' views are the same function of the same transcript

  For every transcript whose selection the server produced for the client's offer and the client
  accepted, `clientView` and `serverView` (what `_handshakeClientAsyncHelper` / `_clientTLS13Handshake`
  and `_handshakeServerAsyncHelper` / `_serverTLS13Handshake` store) agree on every field, for every
  key schedule `K`: version, suite, master / traffic / exporter / resumption secrets, exporter output for
  every label and length, EtM, EMS, ALPN, server name, both record size limits (what one side sends is
  at most what the other accepts), both certificate chains.  Full strength since d953e10 / 79985ec
  (before, the chain fields differed for DHE_DSS suites and for TLS 1.3 PSK / unrequested client
  certificates, and the corresponding equalities could not be proved).
-/
theorem views_agree (K : KeySched) (cs ss : Settings) (cc : ClientCfg) (sc : ServerCfg)
    (t : Transcript) (pm : Bytes) (p : Params)
    (hoffer : t.offer = clientOffer cs cc)
    (hsel : serverSelect ss sc t.offer = .ok t.selection)
    (hacc : clientAccept cs cc sc t.offer t.selection = .ok p) :
    let c := clientView K cs t pm
    let s := serverView K ss t pm
    c.version = s.version ∧ c.suite = s.suite ∧ c.masterSecret = s.masterSecret ∧
    c.clAppSecret = s.clAppSecret ∧ c.srAppSecret = s.srAppSecret ∧
    c.exporterSecret = s.exporterSecret ∧ c.resumptionSecret = s.resumptionSecret ∧
    (∀ label n, c.exporter label n = s.exporter label n) ∧
    c.etm = s.etm ∧ c.ems = s.ems ∧ c.alpn = s.alpn ∧ c.serverName = s.serverName ∧
    c.sendLimit ≤ s.recvLimit ∧ s.sendLimit ≤ c.recvLimit ∧
    c.serverChain = s.serverChain ∧ c.clientChain = s.clientChain := by
  obtain ⟨h12, h13, hecho, _⟩ := serverSelect_view hsel
  have hrsl : t.offer.recordSizeLimit = cs.recordSizeLimit := by rw [hoffer]; rfl
  -- below TLS 1.3 the client takes the extended_master_secret echo, which is what the server computed
  have hems : (if t.selection.version > 3 then true else t.selection.ems) =
      (if t.selection.version > 3 then true else (ss.useEMS && t.offer.ems && decide (t.selection.version > 0))) := by
    split
    · rfl
    · exact (h12 (by omega)).1
  have hsec := congrArg (secretsOf K t pm) hems
  -- the echo is present exactly when both ends set a record size limit
  have hon : (t.selection.rslEcho != 0) = (t.offer.recordSizeLimit != 0 && ss.recordSizeLimit != 0) := by
    rw [hecho]
    by_cases h : (t.offer.recordSizeLimit != 0 && ss.recordSizeLimit != 0) = true
    · rw [if_pos h, h]
      simp only [Bool.and_eq_true, bne_iff_ne, ne_eq] at h
      split <;> simp only [bne_iff_ne, ne_eq, maxRec] <;> omega
    · rw [if_neg h]
      simp only [Bool.not_eq_true] at h
      rw [h]
      rfl
  dsimp only [clientView, serverView]
  refine ⟨rfl, rfl, congrArg (·.1) hsec, congrArg (·.2.1) hsec, congrArg (·.2.2.1) hsec,
    congrArg (·.2.2.2.1) hsec, congrArg (·.2.2.2.2) hsec, fun label n => ?_, ?_, hems, rfl, rfl, ?_, ?_, ?_, rfl⟩
  · exact congrArg (fun x => K.exportKm _ _ (if t.selection.version > 3 then x.2.2.2.1 else x.1) _ _ label n) hsec
  · split
    · rfl
    · exact (h12 (by omega)).2.1
  · -- the client sends at most what the server accepts
    rw [hon]
    split
    · rename_i h
      rw [hecho, if_pos h]
      split <;> simp only [maxRec] <;> omega
    · exact Nat.le_refl _
  · rw [hon, hrsl]
    exact Nat.le_refl _
  · -- the chain is expected by the client exactly when the server sends it
    by_cases hv : t.selection.version > 3
    · rw [if_pos hv, h13 hv]
      cases t.selection.psk <;> rfl
    · rw [if_neg hv, (h12 (by omega)).2.2]

-- non-vacuity: an honest TLS 1.2 run with client authentication, ALPN and SNI satisfies the hypotheses
example :
    withTranscript
      (transcriptOf { dflt with maxVersion := 3, versions := [3, 2, 1] } dflt
        { certClient with cred := some rsa1024Cred, alpn := ["6832"], serverName := "example.com" }
        { certServer rsaCred with reqCert := true, alpn := ["6832"] } [[0x30]] [[0x31]])
      (fun t =>
        decide (t.offer = clientOffer { dflt with maxVersion := 3, versions := [3, 2, 1] }
                  { certClient with cred := some rsa1024Cred, alpn := ["6832"], serverName := "example.com" }) &&
        decide (serverSelect dflt { certServer rsaCred with reqCert := true, alpn := ["6832"] } t.offer = .ok t.selection) &&
        okWith (clientAccept { dflt with maxVersion := 3, versions := [3, 2, 1] }
                  { certClient with cred := some rsa1024Cred, alpn := ["6832"], serverName := "example.com" }
                  { certServer rsaCred with reqCert := true, alpn := ["6832"] } t.offer t.selection)
               (fun p => p.version == 3 && p.alpn == "6832" && p.clientCert == some rsa1024Cred) &&
        -- and the two views are not trivial: both chains are present and recorded
        (clientView K0 { dflt with maxVersion := 3, versions := [3, 2, 1] } t [7]).serverChain == [[0x30]] &&
        (serverView K0 dflt t [7]).clientChain == [[0x31]] &&
        (clientView K0 { dflt with maxVersion := 3, versions := [3, 2, 1] } t [7]).exporter [1, 2] 5 ==
          (serverView K0 dflt t [7]).exporter [1, 2] 5) = true :=
  vectors_views

/-! ### 3. negotiation is a function of the two configurations -/
theorem negotiate_deterministic (cs ss : Settings) (cc : ClientCfg) (sc : ServerCfg) (r1 r2 : Outcome Params)
    (h1 : negotiate cs ss cc sc = r1) (h2 : negotiate cs ss cc sc = r2) : r1 = r2 := by
  rw [← h1, ← h2]

/-- … and what the server selects depends on the client only through its ClientHello -/
theorem negotiate_factors_through_offer (cs cs' ss : Settings) (cc cc' : ClientCfg) (sc : ServerCfg)
    (h : clientOffer cs cc = clientOffer cs' cc') :
    serverSelect ss sc (clientOffer cs cc) = serverSelect ss sc (clientOffer cs' cc') := by
  rw [h]

example : negotiate dflt dflt certClient (certServer rsaCred) = negotiate dflt dflt certClient (certServer rsaCred) := rfl

/-! ### 4. the selected version is the highest one both sides allow

  Hypotheses: facts about the (user-settable, undocumented) `versions` lists that hold for every
  validated settings object whose `versions` keeps the default order: each list covers its own
  [minVersion, maxVersion] range, the server's list is decreasing, `validate()` removed (3,4) when
  maxVersion is lower.  `server_versions_order_decides` shows the order hypothesis is needed.
  "No common version": the handshake never completes (`no_common_version_fails`); it ends in
  protocol_version when the client is too old for the server (`client_too_old_protocol_version`); when
  the server is too old for the client another server-side alert may come first.
-/
theorem version_is_max_common (cs ss : Settings) (cc : ClientCfg) (sc : ServerCfg) (p : Params)
    (hcv : cs.maxVersion < 4 → ∀ w ∈ cs.versions, w < 4)
    (hcsup : ∀ w, cs.minVersion ≤ w → w ≤ cs.maxVersion → w ∈ cs.versions)
    (hssup : ∀ w, ss.minVersion ≤ w → w ≤ ss.maxVersion → w ∈ ss.versions)
    (hsd : ss.versions.Pairwise (· > ·))
    (hsr : ss.minVersion ≤ ss.maxVersion) (hs4 : ss.maxVersion ≤ 4)
    (h : negotiate cs ss cc sc = .ok p) :
    p.version = min cs.maxVersion ss.maxVersion ∧ cs.minVersion ≤ p.version ∧ ss.minVersion ≤ p.version := by
  obtain ⟨hcmin, hcmax, hsmin, hsmax⟩ := version_inside_both_ranges cs ss cc sc p hcv hsr hs4 h
  refine ⟨?_, hcmin, hsmin⟩
  -- the smaller maximum is common: each list covers its range
  have := (negotiate_versionCommon hcv hsr hs4 h).2 hsd
    (fun h4 => List.any_eq_true.mpr ⟨_, hcsup _ (by omega) (Nat.le_refl _), decide_eq_true h4⟩) _
    (versionCommon_iff.mpr ⟨by omega, Nat.min_le_left _ _, by omega, Nat.min_le_right _ _, fun _ =>
      ⟨hcsup _ (by omega) (Nat.min_le_left _ _), hssup _ (by omega) (Nat.min_le_right _ _)⟩⟩)
  omega

example : okWith (negotiate { dflt with minVersion := 2, maxVersion := 3, versions := [3, 2, 1] }
                            { dflt with minVersion := 1, maxVersion := 2, versions := [3, 2, 1] } certClient (certServer rsaCred))
    (fun p => p.version == 2) = true :=
  vectors_version.1
example : okWith (negotiate dflt { dflt with maxVersion := 2, versions := [3, 2, 1] } certClient (certServer rsaCred))
    (fun p => p.version == 2) = true :=
  vectors_version.2.1

/-- when the two version ranges do not meet the handshake does not complete -/
theorem no_common_version_fails (cs ss : Settings) (cc : ClientCfg) (sc : ServerCfg)
    (hcv : cs.maxVersion < 4 → ∀ w ∈ cs.versions, w < 4) (hsr : ss.minVersion ≤ ss.maxVersion)
    (hs4 : ss.maxVersion ≤ 4)
    (hdisj : cs.maxVersion < ss.minVersion ∨ ss.maxVersion < cs.minVersion) :
    ∀ p, negotiate cs ss cc sc ≠ .ok p := by
  intro p h
  obtain ⟨h1, h2, h3, h4⟩ := version_inside_both_ranges cs ss cc sc p hcv hsr hs4 h
  omega

example : negotiate { dflt with minVersion := 4 } { dflt with maxVersion := 3, versions := [3, 2, 1] }
    certClient (certServer rsaCred) = .alert .client "protocol_version" :=
  vectors_version.2.2.1

/-- a client whose highest version is below the server's minimum gets protocol_version from the server -/
theorem client_too_old_protocol_version (cs ss : Settings) (cc : ClientCfg) (sc : ServerCfg)
    (hc : ∀ w ∈ cs.versions, w ≤ 4 → w ≤ cs.maxVersion) (hlt : cs.maxVersion < ss.minVersion) :
    negotiate cs ss cc sc = .alert .server "protocol_version" :=
  client_too_old cs ss cc sc (fun h => hc 4 h (Nat.le_refl _)) hlt

example : negotiate { dflt with maxVersion := 2, versions := [3, 2, 1] } { dflt with minVersion := 3 }
    certClient (certServer rsaCred) = .alert .server "protocol_version" :=
  client_too_old _ _ _ _ (fun h => absurd h (by decide)) (by decide)

/-- the server's preference is the ORDER of its `versions` list: listed as [TLS 1.0, TLS 1.1] it selects
    TLS 1.0 with a client that also offers TLS 1.1 (the decreasing-order hypothesis is needed; with TLS 1.2
    or later enabled on the server the downgrade sentinel turns such a choice into an alert) -/
theorem server_versions_order_decides :
    okWith (negotiate dflt { dflt with maxVersion := 2, versions := [1, 2] } certClient (certServer rsaCred))
      (fun p => p.version == 1) = true ∧
    negotiate dflt { dflt with versions := [3, 4, 2, 1] } certClient (certServer rsaCred)
      = .alert .client "illegal_parameter" :=
  vectors_version.2.2.2


/-! ### 5. compatible settings complete (C03 / C19 second half: "any two endpoints configured from
  validated settings that share a protocol version and, for it, a cipher suite, group and signature scheme
  usable with the server's credentials complete a handshake")

  `compatible cs ss cc sc` (TlsModel/Compat.lean) is written over sets, never over the library's choices:
    * `commonVersion`: the highest version inside both [minVersion, maxVersion] ranges that the ClientHello
      can express (listed in both `versions` when the client offers TLS 1.3);
    * `commonSuites` non-empty: suites both name lists admit, defined for that version, usable with the
      server's key; and EVERY one of them can be carried through (`suiteWorks`: a common curve for ECDHE,
      acceptable primes for DHE, a common TLS 1.3 group directly or through HelloRetryRequest, a key able
      to sign the legacy ServerKeyExchange below TLS 1.2) — "the server is free to pick any of them";
    * `sigShared` (TLS ≥ 1.2): a scheme the server can produce with its key that the client offered, and
      every such scheme is accepted by the client for this chain;
    * `certAccepted`, `serverCurveListed`: the server's key inside the client's limits / curves;
    * `extensionsOk`: required EMS satisfiable, a common ALPN protocol when both have lists (TLS ≤ 1.2).
  Hypotheses of the theorem: `wf` (facts `validate()` establishes + default order of `versions`),
  `plainCert` (certificate handshake, no client authentication, no external PSK, no SNI mismatch),
  `clientHelloSane` (the client's own ClientHello passes the server's structural TLS 1.3 checks: follows
  from validate() for duplicate-free keyShares; decidable, checked on every generated case).

  FULL STATEMENT under the weaker reading (`compatibleSome`: SOME common suite works): does not hold —
  the server takes its first preference among the common suites and does not look for one that works
  (`some_working_suite_is_not_enough`).  Further regions the premise has to exclude, each with a
  counterexample below: no fallback to a lower common version (`no_version_fallback`); the TLS 1.2
  signature lists are applied to RSA key transport, which signs nothing
  (`rsa_key_transport_needs_signature_scheme`; below TLS 1.2 they are no longer applied:
  `tls11_ignores_signature_lists`).  In the other
  direction TLS 1.3 completes over a group RFC 8446 forbids (`tls13_completes_over_secp256k1`).
-/
theorem compatible_completes (cs ss : Settings) (cc : ClientCfg) (sc : ServerCfg)
    (hwc : cs.wf = true) (hws : ss.wf = true) (hplain : plainCert cs cc sc = true)
    (hsane : clientHelloSane cs cc = true) (h : compatible cs ss cc sc = true) :
    ∃ p, negotiate cs ss cc sc = .ok p := by
  cases hv : commonVersion cs ss with
  | none => unfold compatible at h; rw [hv] at h; cases h
  | some v =>
    by_cases hv3 : v ≤ 3
    · exact compatible_completes_le12 hwc hws hplain hsane hv hv3 h
    · exact compatible_completes_13 hwc hws hplain hsane hv (by omega) h

-- non-vacuity: the default settings are compatible (TLS 1.3) …
example : dflt.wf = true ∧ plainCert dflt certClient (certServer rsaCred) = true ∧
    clientHelloSane dflt certClient = true ∧ compatible dflt dflt certClient (certServer rsaCred) = true ∧
    commonVersion dflt dflt = some 4 :=
  vectors_compat.1
-- … so are a TLS 1.0-only server with an ECDSA key and the default client
example : compatible dflt { dflt with maxVersion := 1, versions := [3, 2, 1] } certClient (certServer ecdsaCred) = true ∧
    ({ dflt with maxVersion := 1, versions := [3, 2, 1] } : Settings).wf = true ∧
    commonVersion dflt { dflt with maxVersion := 1, versions := [3, 2, 1] } = some 1 :=
  vectors_compat.2.1
-- … and disjoint cipher lists are not
example : compatible { dflt with cipherNames := ["aes128gcm"] } { dflt with cipherNames := ["aes256gcm"] }
    certClient (certServer rsaCred) = false :=
  vectors_compat.2.2.1

/-- a completed handshake used a version both ends have in common -/
theorem completes_implies_common_version (cs ss : Settings) (cc : ClientCfg) (sc : ServerCfg) (p : Params)
    (hwc : cs.wf = true) (hws : ss.wf = true) (h : negotiate cs ss cc sc = .ok p) :
    versionCommon cs ss p.version = true ∧ ∃ v, commonVersion cs ss = some v ∧ p.version ≤ v := by
  obtain ⟨hcom, hmax⟩ := negotiate_versionCommon (wf_spec hwc).no13 (wf_spec hws).range (wf_spec hws).max4 h
  have h4 : p.version ≤ 4 := Nat.le_trans (versionCommon_iff.mp hcom).2.2.2.1 (wf_spec hws).max4
  exact ⟨hcom, _, commonVersion_iff.mpr ⟨h4, hcom, fun w _ => hmax (wf_spec hws).decreasing
    (fun h3 => (wf_any13 hwc).mpr (Nat.le_antisymm (wf_spec hwc).max4 h3)) w⟩, Nat.le_refl _⟩

/-- SOME working common suite is not enough: with an RSA key, DHE_RSA and RSA key transport both enabled,
    the server prefers DHE_RSA and sends its 1536-bit prime, which a client demanding 2048-bit keys refuses;
    TLS_RSA_WITH_* would have worked -/
theorem some_working_suite_is_not_enough :
    compatibleSome { dflt with maxVersion := 3, versions := [3, 2, 1], keyExchangeNames := ["dhe_rsa", "rsa"],
                               dhGroups := [], minKeySize := 2048 }
                   { dflt with maxVersion := 3, versions := [3, 2, 1], keyExchangeNames := ["dhe_rsa", "rsa"],
                               dhParamBits := 1536 } certClient (certServer rsaCred) = true ∧
    negotiate { dflt with maxVersion := 3, versions := [3, 2, 1], keyExchangeNames := ["dhe_rsa", "rsa"],
                          dhGroups := [], minKeySize := 2048 }
              { dflt with maxVersion := 3, versions := [3, 2, 1], keyExchangeNames := ["dhe_rsa", "rsa"],
                          dhParamBits := 1536 } certClient (certServer rsaCred)
      = .alert .client "insufficient_security" :=
  vectors_compat.2.2.2.1

/-- no fallback: both ends enable TLS 1.2 and TLS 1.3, the client only CBC ciphers (no TLS 1.3 suite):
    the handshake fails at TLS 1.3 although the same pair capped at TLS 1.2 completes -/
theorem no_version_fallback :
    negotiate { dflt with cipherNames := ["aes128"] } dflt certClient (certServer rsaCred)
      = .alert .server "insufficient_security" ∧
    okWith (negotiate { dflt with cipherNames := ["aes128"], maxVersion := 3, versions := [3, 2, 1] } dflt
              certClient (certServer rsaCred)) (fun p => p.version == 3) = true :=
  vectors_compat.2.2.2.2.1

/-- regression (repaired by 2910674): the TLS 1.2 signature lists are NOT applied when TLS 1.1 is
    negotiated (the ServerKeyExchange signature is fixed there): disjoint hash lists no longer stop it -/
theorem tls11_ignores_signature_lists :
    okWith (negotiate { dflt with rsaSigHashes := ["sha256"] }
              { dflt with maxVersion := 2, versions := [3, 2, 1], rsaSigHashes := ["sha384"] }
              certClient (certServer rsaCred)) (fun p => p.version == 2 && p.sigScheme == 0) = true ∧
    compatible { dflt with rsaSigHashes := ["sha256"] }
               { dflt with maxVersion := 2, versions := [3, 2, 1], rsaSigHashes := ["sha384"] }
               certClient (certServer rsaCred) = true :=
  vectors_compat.2.2.2.2.2.1

/-- RSA key transport signs nothing, yet disjoint signature lists stop it -/
theorem rsa_key_transport_needs_signature_scheme :
    negotiate { dflt with maxVersion := 3, versions := [3, 2, 1], keyExchangeNames := ["rsa"], rsaSigHashes := ["sha256"] }
              { dflt with maxVersion := 3, versions := [3, 2, 1], keyExchangeNames := ["rsa"], rsaSigHashes := ["sha384"] }
              certClient (certServer rsaCred) = .alert .server "handshake_failure" :=
  vectors_compat.2.2.2.2.2.2.1

/-- TLS 1.3 completes over secp256k1 (group 22, forbidden by RFC 8446 B.3.1.4) when both ends enable it -/
theorem tls13_completes_over_secp256k1 :
    okWith (negotiate { dflt with eccCurves := ["secp256k1"], keyShares := ["secp256k1"], dhGroups := [] }
                      { dflt with eccCurves := ["secp256k1"], keyShares := ["secp256k1"], dhGroups := [] }
                      certClient (certServer rsaCred)) (fun p => p.version == 4 && p.group == 22) = true :=
  vectors_compat.2.2.2.2.2.2.2

/-! ### 6. SRP and anonymous handshakes start from settings capped at TLS 1.2

  `handshakeClientSRP` / `handshakeClientAnonymous` go on with `effectiveClient cs flavour`: the validated
  settings with maxVersion capped at TLS 1.2 and (3,4) removed from `versions` (there are no such suites in
  TLS 1.3).  The cap only narrows the caller's policy, so everything proved about `negotiate` for the
  effective settings holds for the caller's settings as well; and the default pairs now complete. -/
theorem effectiveClient_inside (cs : Settings) (fl : ClientFlavour) :
    (effectiveClient cs fl).minVersion = cs.minVersion ∧ (effectiveClient cs fl).maxVersion ≤ cs.maxVersion ∧
    (∀ w ∈ (effectiveClient cs fl).versions, w ∈ cs.versions) ∧
    (effectiveClient cs fl).cipherNames = cs.cipherNames ∧ (effectiveClient cs fl).macNames = cs.macNames ∧
    (effectiveClient cs fl).keyExchangeNames = cs.keyExchangeNames ∧ (effectiveClient cs fl).eccCurves = cs.eccCurves ∧
    (effectiveClient cs fl).minKeySize = cs.minKeySize ∧ (effectiveClient cs fl).maxKeySize = cs.maxKeySize ∧
    (fl ≠ .cert → (effectiveClient cs fl).maxVersion ≤ 3) := by
  unfold effectiveClient
  split
  · rename_i h
    simp only [Bool.and_eq_true, bne_iff_ne, ne_eq, decide_eq_true_eq] at h
    refine ⟨rfl, by simp only; omega, fun w hw => (List.mem_filter.mp hw).1, rfl, rfl, rfl, rfl, rfl, rfl, fun _ => Nat.le_refl _⟩
  · rename_i h
    refine ⟨rfl, Nat.le_refl _, fun _ hw => hw, rfl, rfl, rfl, rfl, rfl, rfl, fun hne => ?_⟩
    simp only [Bool.and_eq_true, bne_iff_ne, ne_eq, decide_eq_true_eq, not_and, Nat.not_lt] at h
    exact h hne

/-- regression (2e75152): default SRP and anonymous clients complete with default servers (before, the
    ClientHello advertised TLS 1.3, the server selected it and no cipher suite could be common) -/
theorem default_srp_and_anon_pairs_complete :
    okWith (negotiateFor dflt dflt srpClient srpServer) (fun p => p.version == 3 && srpSuites.contains p.suite) = true ∧
    okWith (negotiateFor dflt dflt srpClient (srpCertServer rsaCred)) (fun p => p.version == 3 && srpCertSuites.contains p.suite) = true ∧
    okWith (negotiateFor dflt dflt anonClient anonServer) (fun p => p.version == 3 && isAnonSuite p.suite) = true ∧
    negotiate dflt dflt srpClient srpServer = .alert .server "handshake_failure" :=
  vectors_srp.1

/-- regression (65e20d7): a client offering only srp_sha completes with a server that has a verifier database
    AND a certificate (filter_for_certificate keeps the SRP suites without server authentication) -/
theorem srp_sha_client_with_srp_cert_server_completes :
    okWith (negotiateFor { dflt with keyExchangeNames := ["srp_sha"] } dflt srpClient (srpCertServer rsaCred))
      (fun p => srpSuites.contains p.suite && p.serverCert == none) = true ∧
    okWith (negotiateFor { dflt with keyExchangeNames := ["srp_sha"] } dflt srpClient (srpCertServer ecdsaCred))
      (fun p => srpSuites.contains p.suite) = true :=
  vectors_srp.2

end Tls.Neg.C03
