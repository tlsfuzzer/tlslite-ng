import TlsProofs.OrderPost
import TlsProofs.OrderGen
/-
  C06 — handshake messages are accepted only in the order the protocol allows.

  `Tls.Order.step/feed/run/hsRun` (TlsModel/Order.lean) mirror the `_getMsg` call sequence of the
  tlslite-ng client and server flows and `_getMsg`'s own gate; `Tls.Order.allowed` is the grammar
  written separately from the RFCs.  The tie to the real code is the correspondence run of
  harness/props/c06.py (honest traces with skip / duplicate / swap / insert / replace /
  wrong-epoch deviations replayed to live endpoints).
-/

namespace Tls.Order

/-- For every negotiable configuration (role × version family × key exchange × client
    authentication × tickets × NPN × HelloRetryRequest × resumption × compressed certificates ×
    heartbeat × compat mode) and every sequence of incoming messages of ANY length, with any key
    epochs and record coalescing: if the automaton consumes the whole sequence and reaches
    `_handshakeDone` exactly on its last message, the received kinds form a sequence the RFC
    grammar permits for that role and those parameters.
    (Full strength: the NewSessionTicket / mid-handshake ClientHello exceptions of earlier trees
    are gone since tlslite-ng commits 1aa2b21, ae20492, 2565221; see the regression theorems below.) -/
theorem accepted_in_grammar (c : Cfg) (hv : c.valid = true) (ms : List Msg)
    (h : accepts c ms = true) : allowed c (kinds ms) = true := by
  have _ := hv -- not needed: `hsRunK_allowed` holds of every configuration
  unfold accepts at h
  cases hr : hsRun c (start c) ms with
  | none => simp [hr] at h
  | some r' => exact hsRunK_allowed c _ (hsRun_K c ms (start c) r' hr)

/-- non-vacuity: honest traces are accepted (TLS 1.2 ECDHE server with client authentication and
    NPN; TLS 1.3 client after a HelloRetryRequest with compatibility CCS and a coalesced flight) -/
example : accepts { role := .server, ver := .tls, kx := .ecdhe, reqCert := true, clientCert := true,
                    tickets := false, npn := true, hrr := false, resume := .none, compCert := false,
                    hb := true, compat := false, keypair := false }
    [⟨.client_hello, 0, false, .whole⟩, ⟨.certificate, 0, false, .whole⟩, ⟨.client_key_exchange, 0, false, .whole⟩,
     ⟨.certificate_verify, 0, false, .whole⟩, ⟨.ccs, 0, false, .whole⟩, ⟨.next_protocol, 1, false, .whole⟩,
     ⟨.finished, 1, false, .whole⟩] = true := by decide

example : accepts { role := .client, ver := .tls13, kx := .ecdhe, reqCert := false, clientCert := false,
                    tickets := false, npn := false, hrr := true, resume := .none, compCert := true,
                    hb := true, compat := true, keypair := false }
    [⟨.hrr, 0, false, .whole⟩, ⟨.ccs, 0, false, .whole⟩, ⟨.server_hello, 0, false, .whole⟩, ⟨.encrypted_extensions, 1, true, .whole⟩,
     ⟨.compressed_certificate, 1, true, .whole⟩, ⟨.certificate_verify, 1, true, .whole⟩, ⟨.finished, 1, false, .whole⟩] = true := by
  decide

/-! ### regression theorems for the order defects found with this model
    (each was a counterexample to `accepted_in_grammar` on an earlier tree and is demonstrated on
    the real code by the harness when it returns) -/

def tls12Server : Cfg :=
  { role := .server, ver := .tls, kx := .ecdhe, reqCert := false, clientCert := false, tickets := false,
    npn := false, hrr := false, resume := .none, compCert := false, hb := true, compat := false, keypair := false }

def tls12Client (tickets : Bool) : Cfg :=
  { role := .client, ver := .tls, kx := .ecdhe, reqCert := false, clientCert := false, tickets := tickets,
    npn := false, hrr := false, resume := .none, compCert := false, hb := true, compat := false, keypair := false }

/-- a server no longer takes a NewSessionTicket from the client before ChangeCipherSpec
    (`_getFinished` was shared by both roles): fatal `unexpected_message` at that message -/
theorem server_rejects_client_new_session_ticket :
    let r := run tls12Server (start tls12Server)
      [⟨.client_hello, 0, false, .whole⟩, ⟨.client_key_exchange, 0, false, .whole⟩, ⟨.new_session_ticket, 0, false, .whole⟩,
       ⟨.ccs, 0, false, .whole⟩, ⟨.finished, 1, false, .whole⟩]
    r.st = .dead ∧ r.alert = some .unexpected_message ∧ r.acc = 2 ∧ r.hsDone = false := by
  decide

/-- a ClientHello between ClientKeyExchange and ChangeCipherSpec is no longer dropped with a
    `no_renegotiation` warning (the renegotiation branch of `_getMsg` needs `not self.closed`) -/
theorem server_rejects_client_hello_before_ccs :
    let r := run tls12Server (start tls12Server)
      [⟨.client_hello, 0, false, .whole⟩, ⟨.client_key_exchange, 0, false, .whole⟩, ⟨.client_hello, 0, false, .whole⟩,
       ⟨.ccs, 0, false, .whole⟩, ⟨.finished, 1, false, .whole⟩]
    r.st = .dead ∧ r.alert = some .unexpected_message ∧ r.warns = 0 ∧ r.hsDone = false := by
  decide

/-- a client takes a NewSessionTicket exactly when the ServerHello announced it (RFC 5077 §3.3) -/
theorem client_rejects_unnegotiated_new_session_ticket :
    accepts (tls12Client false)
      [⟨.server_hello, 0, false, .whole⟩, ⟨.certificate, 0, false, .whole⟩, ⟨.server_key_exchange, 0, false, .whole⟩,
       ⟨.server_hello_done, 0, false, .whole⟩, ⟨.new_session_ticket, 0, false, .whole⟩, ⟨.ccs, 0, false, .whole⟩,
       ⟨.finished, 1, false, .whole⟩] = false := by decide

theorem client_requires_negotiated_new_session_ticket :
    accepts (tls12Client true)
      [⟨.server_hello, 0, false, .whole⟩, ⟨.certificate, 0, false, .whole⟩, ⟨.server_key_exchange, 0, false, .whole⟩,
       ⟨.server_hello_done, 0, false, .whole⟩, ⟨.ccs, 0, false, .whole⟩, ⟨.finished, 1, false, .whole⟩] = false ∧
    accepts (tls12Client true)
      [⟨.server_hello, 0, false, .whole⟩, ⟨.certificate, 0, false, .whole⟩, ⟨.server_key_exchange, 0, false, .whole⟩,
       ⟨.server_hello_done, 0, false, .whole⟩, ⟨.new_session_ticket, 0, false, .whole⟩, ⟨.ccs, 0, false, .whole⟩,
       ⟨.finished, 1, false, .whole⟩] = true := by decide

/-- From every position of every handshake, for every incoming piece (any kind, any key epoch, any
    coalescing or fragmentation), record layer, defragmenter, `_getMsg` and the flow do one of:
    accept the message in order (`next`), drop one of the transparent records (`ignore`: TLS 1.3
    compatibility CCS, negotiated heartbeat), keep the head of a fragmented handshake message in
    the defragmenter (`buffer`: nothing is handed out yet), or end the connection — with a fatal
    alert of ours (`abort`, or `acceptAbort` when the flow rejects what `_getMsg` handed out), or
    because the message itself is an alert from the peer.  Nothing is delivered to the caller,
    nothing is processed as a post-handshake message, and a renegotiation warning is never the
    answer. -/
theorem deviation_aborts_before_data (c : Cfg) (r : Run) (m : Msg)
    (hs : r.st.isPost = false) (hd : r.st ≠ .dead) :
    (∃ s' b, step c r m = .next s' b) ∨ step c r m = .ignore ∨ step c r m = .buffer m.kind ∨
    (∃ a, step c r m = .abort a) ∨ (∃ a, step c r m = .acceptAbort a) ∨
    ((step c r m = .peerClosed ∨ step c r m = .acceptClosed) ∧ m.kind.isAlert = true) := by
  rcases step_cases c r m with ⟨h, _⟩ | ⟨h, _⟩ | ⟨a, h⟩ | ⟨a, h⟩
  · -- `_getMsg` at a handshake position: the six outcomes of `stepHs`; it reports a closure only for an alert
    have hcl := stepHs_closed c r.st m.kind
    rw [h, stepK0_pre c r.st r.outstanding m.kind hs hd]
    cases ho : stepHs c r.st m.kind <;> simp_all [HsOut.toOut]
  all_goals simp [h]

/-- application data is never enabled before completion: always a fatal alert -/
theorem app_data_never_enabled_before_completion (c : Cfg) (r : Run) (m : Msg)
    (hk : m.kind = .app_data) (hs : r.st.isPost = false) (hd : r.st ≠ .dead) :
    ∃ a, step c r m = .abort a := by
  rcases step_record c r m (by rw [hk]; rfl) with h | ⟨a, h⟩ | ⟨_, hc, _⟩
  · exact ⟨.unexpected_message, by rw [h, stepK0_pre c r.st r.outstanding m.kind hs hd, hk, stepHs_app_data]; rfl⟩
  · exact ⟨a, h⟩
  · rw [hk] at hc; cases hc

/-- run level: whatever is sent to an endpoint, as long as it has not completed the handshake it
    has delivered no application data; a fatal alert of ours always means the connection is dead
    and closed -/
theorem no_data_before_completion (c : Cfg) (ms : List Msg) :
    let r := run c (start c) ms
    (r.hsDone = false → r.delivered = 0) ∧ (r.alert.isSome = true → r.st = .dead ∧ r.closed = true) := by
  have h := inv_start_run c ms
  exact ⟨fun hh => (h.noData hh).1, h.alertDead⟩

/-- the first message that is not enabled ends the handshake with a fatal alert, a closed
    connection and zero delivered bytes, whatever follows -/
theorem first_deviation_is_final (c : Cfg) (pre post : List Msg) (m : Msg) (a : Alert)
    (hpre : (run c (start c) pre).hsDone = false) (hlive : (run c (start c) pre).st ≠ .dead)
    (hdev : step c (run c (start c) pre) m = .abort a ∨ step c (run c (start c) pre) m = .acceptAbort a) :
    let r := run c (start c) (pre ++ m :: post)
    r.st = .dead ∧ r.alert = some a ∧ r.closed = true ∧ r.delivered = 0 ∧ r.hsDone = false := by
  have hinv := inv_start_run c pre
  rw [run_append]
  generalize run c (start c) pre = r0 at *
  have hnd : (r0.st == St.dead) = false := by simpa using hlive
  obtain ⟨_, f2, f3, _, _, _, _, _, _, _⟩ := prep_fields c r0 m
  have hfeed : (feed c r0 m).st = .dead ∧ (feed c r0 m).alert = some a ∧ (feed c r0 m).closed = true ∧
      (feed c r0 m).delivered = 0 ∧ (feed c r0 m).hsDone = false := by
    unfold feed
    simp only [hnd]
    rcases hdev with e | e <;> rw [e] <;> simp [apply, f2, f3, hpre, (hinv.noData hpre).1]
  simp only []
  rw [show run c r0 (m :: post) = run c (feed c r0 m) post from rfl, run_dead c post _ hfeed.1]
  exact hfeed

/-- After completion no input re-enters the handshake automaton: for every further sequence of
    pieces the position stays a post-handshake one (`readAsync`, inside a post-handshake
    authentication flight, close-wait) or becomes `dead`, and the completion record is never
    rewritten (no second `_handshakeDone`). -/
theorem renegotiation_refused (c : Cfg) (ms more : List Msg)
    (h : (run c (start c) ms).st = .done) :
    let r := run c (start c) (ms ++ more)
    (r.st.isPost = true ∨ r.st = .dead) ∧ r.accAtDone = (run c (start c) ms).accAtDone ∧ r.hsDone = true := by
  have hinv := inv_start_run c ms
  have hp : (run c (start c) ms).st.isPost = true := by rw [h]; rfl
  rw [run_append]
  exact post_stays c more _ hp (hinv.atDone hp).1

/-- the answer to the renegotiation attempt itself (ClientHello to a server, HelloRequest to a
    client) on an established connection: a `no_renegotiation` warning and the message is dropped
    (≤ TLS 1.2), or a fatal `unexpected_message` (TLS 1.3) — never a new handshake -/
theorem renegotiation_attempt_answer (c : Cfg) (r : Run) (m : Msg)
    (hst : r.st = .done) (hpend : r.pending = none) (hpart : m.part = .whole)
    (hk : (c.role = .server ∧ m.kind = .client_hello) ∨ (c.role = .client ∧ m.kind = .hello_request))
    (he : m.epoch = r.epoch) :
    step c r m = (if c.isTls13 then .abort .unexpected_message else .warn) := by
  -- the record passes the record layer and the defragmenter; `readAsync` answers by version, and
  -- neither answer is an accepted message, so `plus` changes nothing
  rcases hk with ⟨hr, hkk⟩ | ⟨hr, hkk⟩ <;> cases h13 : c.isTls13 <;>
    simp [step, epochOk, stepK, stepK0, stepDone, renegAttempt, MsgKind.isAlert, MsgKind.isHandshake,
      mustAlign, Out.accepted, firstHello, PostOut.toOut, v13Active, he, hpart, hpend, hst, hr, hkk, h13]

/-- `_handshakeStart` on an open connection raises -/
theorem handshakeStart_open_raises (c : Cfg) (ms : List Msg) (h : (run c (start c) ms).st = .done) :
    ∃ e, handshakeStart (run c (start c) ms) = .error e := by
  have hinv := inv_start_run c ms
  have := (hinv.atDone (by rw [h]; rfl)).2
  exact ⟨"Renegotiation disallowed for security reasons", by simp [handshakeStart, this]⟩

/-- non-vacuity: a completed TLS 1.2 handshake, then ClientHello + data: one warning, the data is
    delivered, still `done`; and `_handshakeStart` refuses -/
example :
    let r := run tls12Server (start tls12Server)
      [⟨.client_hello, 0, false, .whole⟩, ⟨.client_key_exchange, 0, false, .whole⟩, ⟨.ccs, 0, false, .whole⟩,
       ⟨.finished, 1, false, .whole⟩, ⟨.client_hello, 1, false, .whole⟩, ⟨.app_data, 1, false, .whole⟩]
    r.st = .done ∧ r.warns = 1 ∧ r.delivered = 1 ∧ r.accAtDone = 4 ∧
    (match handshakeStart r with | .error _ => true | .ok _ => false) = true := by decide

/-- After `_handshakeDone`, for every sequence of ANY length of incoming pieces and local actions
    (`request_post_handshake_auth`, `close()` with `closeSocket = False`): as long as the endpoint
    has sent no fatal alert, what it took is a (prefix of a) sequence the post-handshake grammar
    `postSpec` permits — TLS 1.3: KeyUpdate either way; NewSessionTicket and (with a key pair)
    CertificateRequest to a client only; to a server only the answer to an outstanding
    CertificateRequest, as the consecutive flight Certificate [CertificateVerify] Finished;
    ≤ 1.2: renegotiation attempts (refused), heartbeat; after close: what may still be in flight
    until the peer's alert. -/
theorem post_handshake_in_grammar (c : Cfg) (ms : List Msg) (es : List Ev)
    (h : (run c (start c) ms).st = .done)
    (hok : (runEv c (run c (start c) ms) es).alert = none) :
    postAllowed c (run c (start c) ms).outstanding es = true := by
  have hinv := inv_start_run c ms
  generalize run c (start c) ms = r0 at *
  have := postRun_runEv c es r0 hinv (Or.inl (by rw [h]; rfl)) hok
  unfold postAllowed
  have habs : absP r0 = .idle r0.outstanding := by simp [absP, h]
  rw [← habs, this]; rfl

/-- …and conversely every deviation is fatal: if the events are not a permitted post-handshake
    sequence, the endpoint has sent a fatal alert (and, by `no_data_before_completion`'s invariant,
    is dead and closed) — whatever the key epochs, coalescing or fragmentation. -/
theorem post_handshake_deviation_fatal (c : Cfg) (ms : List Msg) (es : List Ev)
    (h : (run c (start c) ms).st = .done)
    (hbad : postAllowed c (run c (start c) ms).outstanding es = false) :
    (runEv c (run c (start c) ms) es).alert.isSome = true := by
  cases ha : (runEv c (run c (start c) ms) es).alert with
  | some a => rfl
  | none =>
    have := post_handshake_in_grammar c ms es h ha
    rw [this] at hbad; cases hbad

/-- non-vacuity: a TLS 1.3 server asks for post-handshake authentication and takes the flight;
    the same flight without its CertificateVerify, or a KeyUpdate inside it, is fatal -/
def tls13ServerKp : Cfg :=
  { role := .server, ver := .tls13, kx := .ecdhe, reqCert := false, clientCert := false, tickets := false,
    npn := false, hrr := false, resume := .none, compCert := true, hb := true, compat := true, keypair := true }

example :
    let hs : List Ev := [.msg ⟨.client_hello, 0, false, .whole⟩, .msg ⟨.ccs, 0, false, .whole⟩,
                         .msg ⟨.finished, 1, false, .whole⟩]
    let ok := runEv tls13ServerKp (start tls13ServerKp)
      (hs ++ [.requestPha, .msg ⟨.compressed_certificate, 2, false, .whole⟩,
              .msg ⟨.certificate_verify, 2, false, .whole⟩, .msg ⟨.finished, 2, false, .whole⟩,
              .msg ⟨.app_data, 2, false, .whole⟩])
    let skip := runEv tls13ServerKp (start tls13ServerKp)
      (hs ++ [.requestPha, .msg ⟨.compressed_certificate, 2, false, .whole⟩, .msg ⟨.finished, 2, false, .whole⟩])
    let ku := runEv tls13ServerKp (start tls13ServerKp)
      (hs ++ [.requestPha, .msg ⟨.compressed_certificate, 2, false, .whole⟩, .msg ⟨.key_update, 2, false, .whole⟩])
    ok.st = .done ∧ ok.outstanding = 0 ∧ ok.delivered = 1 ∧ ok.alert = none ∧
    skip.alert = some .unexpected_message ∧ ku.alert = some .unexpected_message := by decide

/-- For every version, position, defragmenter content and incoming piece: whenever the endpoint
    installs new read keys (ChangeCipherSpec in ≤ 1.2; ServerHello / ClientHello / Finished /
    KeyUpdate in TLS 1.3), nothing else is buffered — before, at most the head of the very message
    that completes now; after, nothing — and a handshake message that triggers the change is
    complete and ends its record.  Hence no handshake message starts under one key epoch and ends
    under another. -/
theorem no_message_spans_key_change (c : Cfg) (r : Run) (m : Msg) (hlive : r.st ≠ .dead)
    (hb : (feed c r m).epoch ≠ r.epoch) :
    (feed c r m).pending = none ∧
    (r.pending = none ∨ (m.part = .tail ∧ m.kind.isHandshake = true ∧ r.pending = some m.kind)) ∧
    (m.kind.isHandshake = true → m.plus = false ∧ m.part ≠ .head) := by
  have hnd : (r.st == St.dead) = false := by simpa using hlive
  obtain ⟨_, _, _, _, _, _, f7, _, _, _, hqp⟩ := prep_fields c r m
  unfold feed at hb ⊢
  simp only [hnd, Bool.false_eq_true, if_false] at hb ⊢
  generalize clearPending (countRecord c r m) m = q at *
  obtain ⟨he, hp⟩ := apply_epoch q (step c r m)
  have hbump : (step c r m).bumps = true := by
    cases hq : (step c r m).bumps
    · rw [he, hq] at hb; simp [f7] at hb
    · rfl
  rw [hp hbump, hqp]
  rcases step_shape c r m with ⟨hs, hnh, hhs, hccs⟩ | ⟨hs, _⟩ | ⟨a, hs⟩ | ⟨hs, _⟩
  · rw [hs] at hbump
    obtain ⟨e, hplus⟩ := stepK_bump c r.st r.outstanding m.kind _ hbump
    rw [e] at hbump
    rcases stepK0_bump c r.st r.outstanding m.kind hbump with ⟨hc, hx⟩ | ⟨hh, _⟩
    · -- a ChangeCipherSpec at a position that expects it: nothing may be buffered
      have hpn := hccs hc hx
      have hh' : m.kind.isHandshake = false := by rw [hc]; rfl
      exact ⟨by simp [hh', hpn], Or.inl hpn, fun hq => by rw [hh'] at hq; cases hq⟩
    · have hpend := hhs hh
      have hhead : m.part ≠ .head := by intro e; simp [Msg.isHead, e, hh] at hnh
      refine ⟨?_, ?_, fun _ => ⟨by simpa [hh] using hplus hh, hhead⟩⟩
      · rcases hpend with h0 | ⟨ht, _⟩ <;> simp [*]
      · exact hpend.imp id fun ⟨ht, hs'⟩ => ⟨ht, hh, hs'⟩
  all_goals rw [hs] at hbump; cases hbump

/-- the regression behind it (≤ 1.2, fixed in tlslite-ng 68f117a): the head of Finished before the
    ChangeCipherSpec and the rest after it is refused when the CCS is taken; TLS 1.3 (eab5433): a
    ServerHello whose record also carries the head of EncryptedExtensions -/
theorem finished_must_not_span_ccs :
    let r := run tls12Server (start tls12Server)
      [⟨.client_hello, 0, false, .whole⟩, ⟨.client_key_exchange, 0, false, .whole⟩,
       ⟨.finished, 0, false, .head⟩, ⟨.ccs, 0, false, .whole⟩, ⟨.finished, 1, false, .tail⟩]
    r.st = .dead ∧ r.alert = some .unexpected_message ∧ r.epoch = 0 ∧ r.hsDone = false := by decide

/-- `_middlebox_compat_mode` is cleared at completion on both roles, whatever the client's
    legacy_session_id was (`compat`): on an established connection (`readAsync`, inside a
    post-handshake authentication flight, close-wait) a ChangeCipherSpec — protected or not — is
    never dropped: fatal `unexpected_message` (or, under foreign keys / glued to a buffered
    fragment in ≤ 1.2 nothing, `wrong_epoch`).  For EVERY configuration. -/
theorem late_ccs_fatal (c : Cfg) (r : Run) (m : Msg) (hp : r.st.isPost = true) (hk : m.kind = .ccs) :
    ∃ a, step c r m = .abort a := by
  rcases step_record c r m (by rw [hk]; rfl) with h | ⟨a, h⟩ | ⟨_, _, hx⟩
  · exact ⟨.unexpected_message, by rw [h, stepK0_post c r.st r.outstanding m.kind hp, hk, stepPost_ccs]; rfl⟩
  · exact ⟨a, h⟩
  · -- the ≤ 1.2 `_getFinished` refusal needs a position that expects a CCS: not a post-handshake one
    exfalso
    revert hx hp
    cases r.st <;> simp [St.isPost, expectsCCS]

/-! ### tie by regeneration

  `TlsModel/Gen/Order.lean` is rewritten on every run by translate/gen_order.py from the AST of
  tlslite/tlsconnection.py (the two handshake helpers and the thirteen flow functions they call: every
  `_getMsg` with its expected content / handshake types, the assignments to the variables that hold
  such types, the `if`s they sit under as named guard atoms, sends, key changes, defragmenter
  checks, order-level `_sendError`s, `_handshakeDone`) and of tlslite/tlsrecordlayer.py (`_getMsg`'s
  aligned types, `readAsync`'s dispatch).  `TlsModel/OrderGenEval.lean` (hand-written) executes
  these transcripts.  The theorems below hold of the REGENERATED data: an edit of the flows that
  changes what is expected where breaks them statically (or poisons the transcript). -/

open Gen in
def genOk (c : Cfg) : Bool :=
  matchesGrammar c && noExtraType c && keyChangesGuarded c && postDispatchMatches c

theorem genOk_of_valid (c : Cfg) (h : c.valid = true) : genOk c = true := by
  obtain ⟨h1, h2, h3⟩ := Gen.flows_of_valid c h
  rw [genOk, h1, h2, h3, Gen.postDispatchMatches_all]
  rfl

theorem gen_check_client_tls13 : (cfgsOf .client .tls13).all genOk = true := all_cfgsOf genOk_of_valid _ _
theorem gen_check_server_tls13 : (cfgsOf .server .tls13).all genOk = true := all_cfgsOf genOk_of_valid _ _
theorem gen_check_client_tls : (cfgsOf .client .tls).all genOk = true := all_cfgsOf genOk_of_valid _ _
theorem gen_check_server_tls : (cfgsOf .server .tls).all genOk = true := all_cfgsOf genOk_of_valid _ _
theorem gen_check_client_ssl3 : (cfgsOf .client .ssl3).all genOk = true := all_cfgsOf genOk_of_valid _ _
theorem gen_check_server_ssl3 : (cfgsOf .server .ssl3).all genOk = true := all_cfgsOf genOk_of_valid _ _

/-- For every valid configuration the regenerated expectation sequences, run by the evaluator,
    complete on exactly the sentences of the grammar `lang c` (every completed path is a sentence,
    every sentence is a completed path — except the `Gen.stricter` ones: CertificateRequest in an
    SRP+certificate suite and NextProtocol in a resumed handshake, which tlslite-ng refuses), and no
    transcript is poisoned. -/
theorem gen_expectations_match_grammar (c : Cfg) (hv : c.valid = true) : Gen.matchesGrammar c = true :=
  (Gen.flows_of_valid c hv).1

/-- …in particular every trace on which the transcribed flows reach `_handshakeDone` is permitted -/
theorem gen_completed_in_grammar (c : Cfg) (hv : c.valid = true) (t : List MsgKind) (k : Bool)
    (h : Gen.Res.path t true k ∈ Gen.genRun c) : lang c t = true := by
  have hm := gen_expectations_match_grammar c hv
  simp only [Gen.matchesGrammar, Bool.and_eq_true] at hm
  have hall := hm.1.1.2
  rw [List.all_eq_true] at hall
  apply hall
  simp only [Gen.completed, List.mem_filterMap]
  exact ⟨_, h, rfl⟩

/-- No `_getMsg` of the regenerated flows admits — and the flow keeps — a message type the grammar
    forbids at that point: every prefix with which the flows arrive at their next `_getMsg` (or
    complete) can still be extended to a sentence of the grammar.  (The edit of seeded mutant
    C06-r4-unsolicited-compressed-cert-after-certreq breaks exactly this.) -/
theorem gen_no_extra_type_admitted (c : Cfg) (hv : c.valid = true) : Gen.noExtraType c = true :=
  (Gen.flows_of_valid c hv).2.1

/-- Every `_changeReadState` of the regenerated flows is preceded, with no `_getMsg` in between, by
    a check that the defragmenter holds no handshake bytes — or by a `_getMsg` that itself checks the
    alignment (TLS 1.3, version already set, type in the regenerated `alignedTypes`); and every
    completed TLS 1.3 path has executed `_middlebox_compat_mode = False`. -/
theorem gen_key_change_guarded (c : Cfg) (hv : c.valid = true) : Gen.keyChangesGuarded c = true :=
  (Gen.flows_of_valid c hv).2.2

/-- The regenerated if/elif chain of `readAsync` admits exactly the post-handshake handshake types
    the automaton's `stepDone` takes, for every role, key pair, outstanding request and compression -/
theorem gen_post_dispatch_matches (c : Cfg) (hv : c.valid = true) : Gen.postDispatchMatches c = true :=
  have _ := hv -- not needed: the dispatch matches for every configuration
  Gen.postDispatchMatches_all c

end Tls.Order
