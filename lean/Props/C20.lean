import TlsModel.Suites
import TlsProofs.Suites
/-
  C20 — negotiated cipher-suite semantics match the suite's registered meaning.

  All statements are over the tables GENERATED from the tree under check
  (TlsModel/Gen/Suites.lean: ietfNames, every classification list, the real outputs of every
  get*Suites selector) and rest on kernel evaluation of those tables (the examples here;
  `Tls.Suites.tables_checked` in TlsProofs/Suites.lean for the theorems, but for `chains_fully_classified` and the
  counterexample, which are evaluated where they stand), so they are re-decided on every run.

  `modelObs s v r`  what the mirrored code does for suite s once version v is negotiated, role r
  `semOf s`         what the registered name of s denotes (parseIana, written from the RFCs)
  `specObsOf s v`   the observables that meaning prescribes in version v
-/
namespace C20
open Tls.Suites Tls.Gen.Suites Tls.Gen.KexChains

/-- the selectors found in the tree are the ones mirrored; the model of every selector reproduces
    the real selector's output (computed by the translator on the tree under check, with the
    library's complete cipher/MAC/key-exchange vocabularies enabled) for every version; so the
    model's idea of "selectable" is the implementation's -/
theorem selectors_match_generated :
    getters = Getter.all.map Getter.str ∧
    allMacNames = fullMac.map MName.str ∧ allCipherNames = fullCipher.map CName.str ∧
    allKeyExchangeNames = fullKex.map KName.str ∧
    (∀ e ∈ selectorOut, ∃ g ∈ Getter.all, g.str = e.1 ∧ getter g fullMac fullCipher fullKex (3, e.2.1) = e.2.2) ∧
    modelSelectorUnion = selectorUnion := by
  refine ⟨rfl, rfl, rfl, rfl, fun e he => ?_, modelSelectorUnion_eq⟩
  rw [tables_checked.2.2.2] at he
  obtain ⟨g, hg, he⟩ := List.mem_flatMap.mp he
  obtain ⟨m, -, rfl⟩ := List.mem_map.mp he
  exact ⟨g, hg, rfl, rfl⟩

example : selectorOut.length = 60 ∧ selectorUnion ≠ [] ∧ Tls.Gen.Suites.translatorProblems = [] := by decide +kernel

/-- For every suite × version × role that can be negotiated: the registered name parses, and key
    exchange, certificate requirement and admissible certificate kinds, ServerKeyExchange presence,
    bulk cipher, key length, mode, IV length, MAC hash and length, AEAD tag length, PRF, and the
    names given by Session.getCipherName(), Session.getMacName() and the connection's
    getCipherName() are exactly those the registered name denotes. -/
theorem suite_semantics_match :
    ∀ t ∈ negotiableTriples,
      (specObsOf t.1 t.2.1).isSome ∧ modelObs t.1 t.2.1 t.2.2 = specObsOf t.1 t.2.1 := by
  intro (s, v, r) ht
  obtain ⟨hs, hv, hinc⟩ := negotiableTriples_selectable ht
  exact Obs.optAgree_sound ((tables_checked.1 s hs).1 v hv hinc r (by cases r <;> simp))

example : (0x002f, ((3, 1), Role.client)) ∈ negotiableTriples ∧
    (0xc0ae, ((3, 3), Role.server)) ∈ negotiableTriples ∧
    (0x00a3, ((3, 3), Role.server)) ∈ negotiableTriples ∧
    (0x1303, ((3, 4), Role.client)) ∈ negotiableTriples ∧
    (modelObs 0xc0ae (3, 3) .server).map (fun o => (o.keyLen, o.tagLen, o.macLen, o.ivLen, o.kex))
      = some (16, 8, 0, 4, Kex.ecdhe) := by
  simp only [mem_negotiableTriples, negotiable_eq, selectableIn_eq]
  decide +kernel

/-- The defect recorded for the pinned tree 9dc109c (repaired by fc8dda9), kept as a theorem about
    the old list: with sha384Suites as it was, 0x00A3 — selectable, its name denoting an AEAD suite
    with a 16-byte tag and no HMAC, the record layer installing no MAC for it — is named "sha384"
    by canonicalMacName, hence by Session.getMacName(), where the name denotes no MAC at all. -/
theorem aead_suite_reports_hmac_name_counterexample :
    0x00a3 ∈ pinnedSha384Suites ∧
    0x00a3 ∈ selectorUnion ∧
    (semOf 0x00a3).map (fun sem => (sem.mac, sem.tagLen)) = some (none, 16) ∧
    exceptToOption (getMacSettings 0x00a3) = some (0, none) ∧
    canonicalMacNameWith pinnedSha384Suites sha256Suites shaSuites md5Suites 0x00a3 = some .sha384 ∧
    (semOf 0x00a3).map specMacName = some none ∧
    (∃ s ∈ pinnedSha384Suites, s ∈ selectorUnion ∧ isIn s aeadSuites = true) := by
  decide +kernel

/-- `filterForVersion(v, v)` (the filter both roles apply once the version is known) never admits
    any identifier known to the library — negotiable or not — to a version that does not define it -/
theorem never_below_min_version :
    ∀ s ∈ ((ietfNames.map (·.1)) ++ allLists.flatMap (·.2)), ∀ v ∈ allVersions,
      s ∈ filterForVersion [s] v v → ∃ sem, semOf s = some sem ∧ sem.definedIn v = true :=
  fun _ _ _ hv h => versionIncludes_definedIn hv (mem_filterForVersion_self.mp h)

example : 0x003c ∈ filterForVersion [0x003c] (3, 3) (3, 3) ∧ 0x003c ∉ filterForVersion [0x003c] (3, 2) (3, 2) ∧
    0x1301 ∉ filterForVersion [0x1301] (3, 3) (3, 3) ∧ 0x002f ∉ filterForVersion [0x002f] (3, 4) (3, 4) := by
  decide +kernel

/-! ### the key-exchange if-chains, as read from the AST of tlsconnection.py on this run -/

/-- the translator classified every test and every branch of the chains it looks for -/
theorem chains_fully_classified : chainUnknowns = [] := by decide +kernel

/-- for every suite that can be negotiated below TLS 1.3 (every selectable suite that is not a TLS 1.3
    suite: by `selectors_match_generated` these are the suites of all negotiable triples with version
    ≤ 3.3; the chains do not look at the version) and for both roles, the chain of that role selects a
    KeyExchange class, and it is of the key-exchange family the registered name denotes -/
theorem chains_match_iana :
    ∀ r ∈ [Role.client, Role.server], ∀ s ∈ selectorUnion, isIn s tls13Suites = false →
      (chainKex r s).isSome = true ∧ chainKex r s = (semOf s).map (·.kex) :=
  fun r hr s hs h13 => ((tables_checked.1 s hs).2.2.2 h13).1 r hr

example : chainKex .client 0x0034 = some .ffdhe ∧ chainKex .server 0xc02b = some .ecdhe ∧
    chainKex .client 0x002f = some .rsa ∧ chainKex .server 0xc01d = some .srp := by decide +kernel

/-- the chains are exhaustive on selectable suites: the server chain never falls through to
    `assert False`, and the client's final `else` (RSA key transport) is reached exactly by the suites
    whose name says RSA key exchange -/
theorem chains_exhaustive :
    ∀ s ∈ selectorUnion, isIn s tls13Suites = false →
      ((serverKexChain.eval s).bind id).isSome = true ∧
      (clientKexClass s).isSome = true ∧
      (clientKexClass s = some .RSAKeyExchange ↔ (semOf s).map (·.kex) = some Kex.rsa) :=
  fun s hs h13 => ((tables_checked.1 s hs).2.2.2 h13).2.1

/-- client and server pick the same key exchange for every selectable suite; the server's class is the
    client's, or its anonymous counterpart exactly when the name says the exchange is anonymous -/
theorem client_server_agree :
    ∀ s ∈ selectorUnion, isIn s tls13Suites = false →
      chainKex .client s = chainKex .server s ∧ (chainKex .client s).isSome = true ∧
      ((serverKexClass s).map (·.1) = clientKexClass s ∨
        ((semOf s).map (·.auth) = some Auth.anon ∧
          ((clientKexClass s, (serverKexClass s).map (·.1)) = (some .DHE_RSAKeyExchange, some .ADHKeyExchange) ∨
           (clientKexClass s, (serverKexClass s).map (·.1)) = (some .ECDHE_RSAKeyExchange, some .AECDHKeyExchange)))) :=
  fun s hs h13 => ((tables_checked.1 s hs).2.2.2 h13).2.2.1

/-- Certificate / ServerKeyExchange expectations agree with what the name denotes, on both sides: the
    client reads a Certificate (and takes the key from it) exactly for certified suites, reads a
    ServerKeyExchange exactly when the key exchange has one; the server's helper sends a Certificate, and
    the server's Session records its chain, exactly for certified suites -/
theorem certificate_expectation_matches :
    ∀ s ∈ selectorUnion, isIn s tls13Suites = false →
      clientExpectsCertificate s = (semOf s).map specCertified ∧
      clientChecksChain s = (semOf s).map specCertified ∧
      clientExpectsSKE s = (semOf s).map specSke ∧
      (serverKexClass s).map (·.2) = (semOf s).map specCertified ∧
      serverRecordsChain s = (semOf s).map specCertified ∧
      (semOf s).isSome = true :=
  fun s hs h13 => ((tables_checked.1 s hs).2.2.2 h13).2.2.2

example : clientExpectsCertificate 0x0032 = some true ∧ clientExpectsCertificate 0x0034 = some false ∧
    clientExpectsSKE 0x002f = some false ∧ serverRecordsChain 0x0032 = some true ∧
    (serverKexClass 0xc01e).map (·.2) = some true ∧ (serverKexClass 0xc01d).map (·.2) = some false := by
  decide +kernel

/-- the client's guard on the ServerHello: whatever list the client offered and whatever number a
    (possibly misbehaving) server puts into its ServerHello, the suite is accepted for the negotiated
    version only if its registered name defines it for that version -/
theorem client_rejects_out_of_version_suite :
    ∀ (offered : List Nat) (s : Nat), ∀ v ∈ allVersions,
      clientAcceptsSuite offered v s = true → ∃ sem, semOf s = some sem ∧ sem.definedIn v = true :=
  -- `clientAcceptsSuite offered v s` unfolds to `isIn s (offered.filter (versionIncludes v v))`; likewise `resumeSuiteOk` below
  fun _ _ _ hv hacc => versionIncludes_definedIn hv (isIn_filter hacc)

example : clientAcceptsSuite [0xc02f, 0x1301] (3, 4) 0x1301 = true ∧
    clientAcceptsSuite [0xc02f, 0x1301] (3, 4) 0xc02f = false ∧
    clientAcceptsSuite [0xc02f, 0x1301] (3, 3) 0xc02f = true ∧
    clientAcceptsSuite [0xc02f, 0x1301] (3, 3) 0x002f = false := by decide +kernel

/-- resumption: whatever the server's cipher / MAC / key-exchange settings and whatever suite a cached
    session or ticket carries, the server's "still willing to use that cipher" check lets it be resumed
    in negotiated version `v` only if the suite's registered name defines it for `v` -/
theorem resumed_only_in_defining_version :
    ∀ (m : List MName) (c : List CName) (k : List KName) (s : Nat), ∀ v ∈ allVersions,
      resumeSuiteOk m c k v s = true → ∃ sem, semOf s = some sem ∧ sem.definedIn v = true :=
  fun _ _ _ _ _ hv hok => versionIncludes_definedIn hv (isIn_filter hok)

example : resumeSuiteOk fullMac fullCipher fullKex (3, 3) 0x003c = true ∧
    resumeSuiteOk fullMac fullCipher fullKex (3, 2) 0x003c = false ∧
    resumeSuiteOk fullMac fullCipher fullKex (3, 4) 0xc02f = false ∧
    resumeSuiteOk fullMac fullCipher fullKex (3, 1) 0x002f = true := by
  simp only [resumeSuiteOk_eq]
  decide +kernel

/-- every negotiable (suite, version, role) is one the name defines for that version -/
theorem negotiated_only_in_defining_version :
    ∀ t ∈ negotiableTriples, ∃ sem, semOf t.1 = some sem ∧ sem.definedIn t.2.1 = true := by
  intro (s, v, r) ht
  obtain ⟨_, hv, hinc⟩ := negotiableTriples_selectable ht
  exact versionIncludes_definedIn hv hinc

example : negotiableTriples ≠ [] :=
  List.ne_nil_of_mem (a := (0x002f, (3, 1), Role.client)) <| by
    simp only [mem_negotiableTriples, negotiable_eq, selectableIn_eq]
    decide +kernel

/-- and nothing is lost: a selectable suite is admitted to exactly the versions defining it, and is
    then negotiable in both roles (so a suite dropped from its version list is noticed) -/
theorem version_filter_exact :
    (∀ s ∈ selectorUnion, ∀ v ∈ allVersions,
      (s ∈ filterForVersion [s] v v ↔ (semOf s).any (·.definedIn v) = true)) ∧
    (∀ r ∈ [Role.client, Role.server], ∀ v ∈ allVersions, ∀ s ∈ selectorUnion,
      ((semOf s).any (·.definedIn v) = true → negotiable r v s = true)) := by
  refine ⟨fun s hs v hv => ⟨fun h => ?_, fun h => ?_⟩,
    fun r hr v hv s hs h => (negotiable_of_definedIn hs hv h).2 r hr⟩
  · exact (Option.any_eq_true _ _).mpr (versionIncludes_definedIn hv (mem_filterForVersion_self.mp h))
  · exact mem_filterForVersion_self.mpr (negotiable_of_definedIn hs hv h).1

example : negotiable .client (3, 3) 0xc02f = true ∧ negotiable .server (3, 2) 0xc02f = false ∧
    (semOf 0xc02f).any (·.definedIn (3, 3)) = true ∧ (semOf 0xc02f).any (·.definedIn (3, 2)) = false := by
  simp only [negotiable_eq, selectableIn_eq]
  decide +kernel

/-- each selectable suite is in exactly one cipher list, exactly one MAC/AEAD class, exactly one
    key-exchange list, exactly one version list and — unless it predates TLS 1.2 — exactly one PRF
    list; and the derived lists are, on selectable suites, the unions they are documented to be -/
theorem lists_partition :
    (∀ s ∈ selectorUnion,
      classCount cipherLists s = 1 ∧ classCount macLists s = 1 ∧ classCount kexLists s = 1 ∧
      classCount versionLists s = 1 ∧
      classCount prfLists s = (if isIn s ssl3Suites then 0 else 1)) ∧
    (∀ s ∈ selectorUnion,
      (isIn s aeadSuites = (isIn s aes128GcmSuites || isIn s aes256GcmSuites || isIn s aes128CcmSuites
         || isIn s aes128Ccm_8Suites || isIn s aes256CcmSuites || isIn s aes256Ccm_8Suites
         || isIn s chacha20Suites || isIn s chacha20draft00Suites)) ∧
      (isIn s streamSuites = (isIn s rc4Suites || isIn s nullSuites)) ∧
      (isIn s srpAllSuites = (isIn s srpSuites || isIn s srpCertSuites)) ∧
      (isIn s certAllSuites = (isIn s srpCertSuites || isIn s certSuites || isIn s dheCertSuites
         || isIn s ecdheCertSuites)) ∧
      (isIn s dhAllSuites = (isIn s dheCertSuites || isIn s anonSuites || isIn s dheDsaSuites)) ∧
      (isIn s ecdhAllSuites = (isIn s ecdheEcdsaSuites || isIn s ecdheCertSuites || isIn s ecdhAnonSuites))) :=
  ⟨fun s hs => (tables_checked.1 s hs).2.2.1.1, fun s hs => (tables_checked.1 s hs).2.2.1.2⟩

example : classCount macLists 0x00a3 = 1 ∧ classCount cipherLists 0xcca8 = 1 ∧ classCount kexLists 0x1301 = 1 := by
  decide +kernel

/-- a settings object that leaves out a MAC class, a cipher or a key exchange never gets a suite
    whose name denotes it: for every selector, every version and every single name removed from the
    complete vocabulary, no returned suite's name denotes the removed MAC (or AEAD) class, cipher or
    key exchange -/
theorem selectors_respect_excluded_names :
    ∀ g ∈ Getter.all, ∀ v ∈ allVersions,
      (∀ m ∈ fullMac, ∀ s ∈ getter g (fullMac.filter (· != m)) fullCipher fullKex v,
        (semOf s).map specMacClass ≠ some m) ∧
      (∀ c ∈ fullCipher, ∀ s ∈ getter g fullMac (fullCipher.filter (· != c)) fullKex v,
        (semOf s).bind specCipherName ≠ some c) ∧
      (∀ k ∈ fullKex, ∀ s ∈ getter g fullMac fullCipher (fullKex.filter (· != k)) v,
        (semOf s).bind specKexName ≠ some k) := by
  refine fun g _ v _ => ⟨fun m _ s hs h => ?_, fun c _ s hs h => ?_, fun k _ s hs h => ?_⟩
  · obtain ⟨sem, hsem, rfl⟩ := Option.map_eq_some_iff.mp h
    simpa using (getter_respects_settings hs hsem).1
  · obtain ⟨sem, hsem, hc⟩ := Option.bind_eq_some_iff.mp h
    simpa using (getter_respects_settings hs hsem).2.1 c hc
  · obtain ⟨sem, hsem, hk⟩ := Option.bind_eq_some_iff.mp h
    simpa using (getter_respects_settings hs hsem).2.2 k hk

example : getter .getDheDsaSuites [.sha384] fullCipher fullKex (3, 3) = [] ∧
    getter .getDheDsaSuites [.aead] [.aes256gcm] fullKex (3, 3) = [0x00a3] ∧
    getter .getCertSuites fullMac (fullCipher.filter (· != .aes128)) fullKex (3, 3) ≠ [] := by
  decide +kernel

end C20
